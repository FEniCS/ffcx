import FfcxProofs.C06
import FfcxProofs.C07
import FfcxProofs.C08
import FfcxProofs.C17
import FfcxProofs.Lemmas.Layout
import FfcxProofs.C05
import FfcxProofs.Lemmas.ReadBack
import FfcxProofs.Lemmas.PyRepr
import FfcxProofs.Lemmas.Names
import FfcxProofs.Lemmas.CliOptions
import FfcxProofs.C13
import FfcxProofs.C20
import FfcxProofs.Lemmas.Cache
import FfcxProofs.C14
import FfcxProofs.C15
import FfcxProofs.C11
import FfcxProofs.C09
import FfcxProofs.Lemmas.Geom
import FfcxProofs.Lemmas.GeomIndep
import FfcxProofs.C02
import FfcxProofs.C03
import FfcxProofs.C12
import FfcxProofs.C10
import FfcxProofs.C19
import FfcxProofs.Lemmas.TablesFactorize
import FfcxProofs.C16
import FfcxProofs.C19Sound
import FfcxProofs.C17Opt
import FfcxProofs.Lemmas.CodegenAcc
import FfcxProofs.Lemmas.CodegenNest
import FfcxProofs.Lemmas.Branches
import FfcxProofs.Lemmas.CodegenEval
import FfcxProofs.Lemmas.CodegenBlock
import FfcxProofs.Lemmas.CodegenGroup
import FfcxProofs.C01Codegen
import FfcxProofs.C01Partition
import FfcxProofs.Lemmas.Descr
import FfcxProofs.C18Descr
import FfcxProofs.C09Sound
import FfcxProofs.Lemmas.CodegenDefs
import FfcxProofs.C01Definitions
import FfcxProofs.Lemmas.CodegenPrefix
import FfcxProofs.C01Kernel
import FfcxProofs.Lemmas.CodegenDiag
import FfcxProofs.Lemmas.CodegenBox
import FfcxProofs.Lemmas.CodegenTensor
import FfcxProofs.C10Codegen
import FfcxProofs.Lemmas.QuadSelGroup
import FfcxProofs.Lemmas.QuadSelBase
import FfcxProofs.C11Select
import FfcxProofs.C01Spec
import FfcxProofs.C01Link
import FfcxProofs.C02Known
import FfcxProofs.C04
import FfcxProofs.C13Renumber
import FfcxProofs.Lemmas.CliTemplates
