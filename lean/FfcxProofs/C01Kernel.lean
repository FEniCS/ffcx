/-
C01 — composition: definitions + partition + tensor computation.

`kernel_meets_spec_defs_partial` derives the hypothesis `hpart` of `kernel_meets_spec_partial` (C01Codegen: an
assumption about the execution of the whole code before the tensor computation) from
  * `IsDef` facts for the definition sections (proved for the coefficient / Jacobian /
    SpatialCoordinate sections by `coeff_isDef`, `coord_isDef`),
  * name conditions (`PrefixDisjoint`, `PrefixReads`: what the Boolean check `prefixOkB` yields, see
    `prefixOkB_sound` in C01Link; `ssaOk`, `fwDeclsOk`, `fwLinkedB`): every `sv_`/`fw` temporary is defined
    from symbols the definition sections establish, from earlier temporaries, or from names the loop never
    writes,
  * safety of the partition's expressions (array reads in range, symbols declared): `hsafe`, `hsafeFw`,
and pins the factor values `Φ q fw` down: they are the values of the `fw` defining expressions in ANY
state in which the definition symbols hold their closed-form values and the SSA equations of the
intermediates hold (`PrefixPost`) — no reference to the execution history.
-/
import FfcxProofs.Lemmas.CodegenPrefix

namespace Ffcx.Codegen
open Ffcx.LNodes Lean.Grind
attribute [local instance] Lean.Grind.Ring.intCast
variable {R : Type}

/-- integer names the quadrature loop writes -/
def loopInts : List String := "iq" :: "ic" :: dofNames

/-- **Closure of the partition's reads** (the second half of what `prefixOkB` checks): the defining expressions
    of the intermediates, of the `fw` temporaries and the non-symbol `fw` expressions mention neither `A`, nor
    `ic`, nor a dof loop index, nor an `fw` temporary; no temporary / definition symbol is a loop integer or `A`. -/
structure PrefixReads (ds : List (DefItem R)) (fw i0 : List Stmt) (fwes : List Expr) : Prop where
  exprs : ∀ e, (e ∈ (declTriples i0).map (·.2.2) ∨ e ∈ (fwPairs fw).map (·.2) ∨ e ∈ fwes) →
    ∀ m, mentionsE m e = true → m ≠ aName ∧ m ∉ "ic" :: dofNames ∧ m ∉ declNames fw
  names : ∀ n, (n ∈ ds.map (·.name) ∨ n ∈ declNames fw ∨ n ∈ declNames i0) → n ∉ loopInts ∧ n ≠ aName

/-- a state that is `σ` outside the loop's write sets -/
structure SigmaLike (σ : St R) (ds : List (DefItem R)) (fw i0 : List Stmt) (τ : St R) : Prop where
  arr : ArrAgree σ τ
  iv : ∀ n, n ∉ loopInts → τ.iv.get n = σ.iv.get n
  sv : ∀ n, n ∉ ds.map (·.name) → n ∉ declNames fw → n ∉ declNames i0 → τ.sv.get n = σ.sv.get n

/-- `SigmaLike` is `Agree` outside the write sets of the loop, the form in which `Acc` gives it (`Acc.agree`) -/
theorem sigmaLike_iff_agree {σ τ : St R} {ds : List (DefItem R)} {fw i0 : List Stmt} :
    SigmaLike σ ds fw i0 τ ↔ Agree aName (fun n => n ∉ loopInts)
      (fun n => n ∉ ds.map (·.name) ++ declNames fw ++ declNames i0) σ τ :=
  ⟨fun h => ⟨h.arr.ia, h.iv, fun n hn => h.sv n (fun h' => hn (List.mem_append_left _ (List.mem_append_left _ h')))
      (fun h' => hn (List.mem_append_left _ (List.mem_append_right _ h'))) (fun h' => hn (List.mem_append_right _ h')),
      h.arr.sa⟩,
    fun h => ⟨arrAgree_of h.ia h.sa, h.iv, fun n h1 h2 h3 => h.sv n fun h' =>
      (List.mem_append.mp h').elim (fun h' => (List.mem_append.mp h').elim h1 h2) h3⟩⟩

theorem SigmaLike.refl (σ : St R) (ds : List (DefItem R)) (fw i0 : List Stmt) : SigmaLike σ ds fw i0 σ :=
  sigmaLike_iff_agree.mpr (Agree.refl σ)

variable [Field R] (x : Extra R)

theorem PrefixPost.sigmaLike {σ : St R} {ds : List (DefItem R)} {fw i0 : List Stmt} {q : Nat} {τ τ₁ : St R}
    (h : PrefixPost x σ ds fw i0 q τ τ₁) : SigmaLike τ ds fw i0 τ₁ :=
  ⟨arrAgree_of h.ia fun n _ => by rw [h.sa],
    fun n hn => h.iv n (fun e => hn (by simp [loopInts, e])) (fun e => hn (by simp [loopInts, e])), h.sv⟩

/-- `prefix_run` from any state an iteration can start from, with `hsafe` asked for all of them at once (the form
    the loop-level theorems take it in).  By `SigmaLike.sv` the scalars of `τ` it speaks of are those of `σ`. -/
theorem prefix_run_sigmaLike (σ : St R) (nq : Nat) (ds : List (DefItem R)) (fw i0 : List Stmt)
    (hdef : ∀ d ∈ ds, IsDef x σ nq d.stmt d.name d.val) (hdis : PrefixDisjoint ds fw i0)
    (hfwok : fwDeclsOk fw = true) (hssa : ssaOk i0 = true)
    (hsafe : ∀ q : Nat, q < nq → ∀ τ υ : St R, SigmaLike σ ds fw i0 τ → AfterDefs σ ds fw q υ →
      (∀ n, n ∉ ds.map (·.name) → n ∉ declNames fw → υ.sv.get n = τ.sv.get n) →
      SafeFrom υ (declNames i0) i0)
    (q : Nat) (hq : q < nq) (τ : St R) (hτ : SigmaLike σ ds fw i0 τ) :
    ∃ τ₁, execL x (ds.map (·.stmt) ++ fwDecls fw ++ i0) (τ.setIV "iq" q) = .ok τ₁ ∧
      PrefixPost x σ ds fw i0 q τ τ₁ := by
  have hfwshape : fwShape fw = true := by
    simp only [fwDeclsOk, Bool.and_eq_true] at hfwok; exact hfwok.1.1
  exact prefix_run x σ nq ds fw i0 hdef hdis hfwshape hssa q hq τ hτ.arr fun υ h1 h2 => hsafe q hq τ υ hτ h1 h2

theorem declTriples_names : ∀ (ss : List Stmt) (t : String × DType × Expr), t ∈ declTriples ss →
    t.1 ∈ declNames ss := fun ss t h => by
  rw [declNames_eq_map]; exact List.mem_map_of_mem h

/-- Two post-prefix states at the same point `q`, both started from states that
    are `σ` outside the loop's write sets, agree on every name a closed expression can mention. -/
theorem post_values_agree (σ : St R) (ds : List (DefItem R)) (fw i0 : List Stmt) (fwes : List Expr)
    (hssa : ssaOk i0 = true) (hreads : PrefixReads ds fw i0 fwes) (q : Nat)
    (τ τ' τ₁ τ₁' : St R) (hσ : SigmaLike σ ds fw i0 τ) (hσ' : SigmaLike σ ds fw i0 τ')
    (hp : PrefixPost x σ ds fw i0 q τ τ₁) (hp' : PrefixPost x σ ds fw i0 q τ' τ₁') :
    AgreeOn (fun m => m ≠ aName ∧ m ∉ "ic" :: dofNames ∧ m ∉ declNames fw) τ₁ τ₁' := by
  have hiv : ∀ m, m ∉ "ic" :: dofNames → τ₁.iv.get m = τ₁'.iv.get m := by
    intro m hm
    by_cases e : m = "iq"
    · subst e; rw [hp.after.iq, hp'.after.iq]
    · have hic : m ≠ "ic" := fun e' => hm (e' ▸ List.mem_cons_self)
      have hl : m ∉ loopInts := fun h => (List.mem_cons.mp h).elim e hm
      rw [hp.iv m hic e, hp'.iv m hic e, hσ.iv m hl, hσ'.iv m hl]
  have hia : τ₁.ia = τ₁'.ia := by rw [hp.after.arr.ia, hp'.after.arr.ia]
  have hsa : ∀ m, m ≠ aName → τ₁.sa.get m = τ₁'.sa.get m := by
    intro m hm; rw [hp.after.arr.sa m hm, hp'.after.arr.sa m hm]
  have hsv0 : ∀ m, m ∉ declNames fw → m ∉ declNames i0 → τ₁.sv.get m = τ₁'.sv.get m := by
    intro m h2 h3
    by_cases h1 : m ∈ ds.map (·.name)
    · obtain ⟨d, hd, rfl⟩ := List.mem_map.mp h1
      rw [hp.after.defs d hd, hp'.after.defs d hd]
    · rw [hp.sv m h1 h2 h3, hp'.sv m h1 h2 h3, hσ.sv m h1 h2 h3, hσ'.sv m h1 h2 h3]
  have hag0 : AgreeOn (fun m => (m ≠ aName ∧ m ∉ "ic" :: dofNames ∧ m ∉ declNames fw) ∧ m ∉ declNames i0)
      τ₁ τ₁' :=
    ⟨fun m hm => hiv m hm.1.2.1, fun m hm => hsv0 m hm.1.2.2 hm.2, fun m _ => by rw [hia],
      fun m hm => hsa m hm.1.1⟩
  have hssav : ∀ t ∈ declTriples i0, τ₁.sv.get t.1 = τ₁'.sv.get t.1 := by
    refine ssa_values_agree x i0 hssa τ₁ τ₁' _ hag0 ?_ ?_ hp.eqs hp'.eqs
    · intro m ⟨⟨t, ht, hm⟩, hnot⟩
      exact ⟨hreads.exprs t.2.2 (Or.inl (List.mem_map_of_mem ht)) m hm, hnot⟩
    · intro m hm
      obtain ⟨hl, hA⟩ := hreads.names m (Or.inr (Or.inr hm))
      exact ⟨hiv m fun h => hl (List.mem_cons_of_mem _ h), by rw [hia], hsa m hA⟩
  refine ⟨fun m hm => hiv m hm.2.1, ?_, fun m _ => by rw [hia], fun m hm => hsa m hm.1⟩
  intro m hm
  by_cases h3 : m ∈ declNames i0
  · rw [declNames_eq_map] at h3
    obtain ⟨t, ht, rfl⟩ := List.mem_map.mp h3
    exact hssav t ht
  · exact hsv0 m hm.2.2 h3

def isSymB : Expr → Bool
  | .sym .. => true
  | _ => false

/-- the value of an `fw` expression in a post-prefix state: for a temporary the value of its defining
    expression `f·w[iq]`, for `weights[iq]` itself its value -/
def fwVal (fw : List Stmt) (τ : St R) (e : Expr) : R :=
  match e with
  | .sym n _ =>
    match (fwPairs fw).find? (fun p => p.1 == n) with
    | some p => eval x τ p.2
    | none => eval x τ e
  | _ => eval x τ e

theorem isSymB_eq_true {e : Expr} (h : isSymB e = true) : ∃ n dt, e = .sym n dt := by
  cases e <;> first | exact ⟨_, _, rfl⟩ | cases h

theorem fwVal_of_not_sym (fw : List Stmt) (τ : St R) {e : Expr} (h : isSymB e = false) :
    fwVal x fw τ e = eval x τ e := by
  cases e <;> first | rfl | cases h

/-- `fwLinkedB` (decidable, evaluated on every real quadrature loop): an `fw` symbol of a block is a
    non-integer temporary and `fwVal` finds its declaration -/
theorem fwLinkedB_sound (fw : List Stmt) (st : GenState) (gs : List GroupDesc)
    (h : fwLinkedB fw st gs = true) (n : String) (dt : DType) (hf : .sym n dt ∈ allFw st gs) :
    dt ≠ .int ∧ ∃ p ∈ fwPairs fw, p.1 = n ∧ (fwPairs fw).find? (fun p => p.1 == n) = some p := by
  simp only [fwLinkedB, List.all_eq_true] at h
  have := h _ hf
  simp only [Bool.and_eq_true, bne_iff_ne, ne_eq, List.any_eq_true, beq_iff_eq] at this
  obtain ⟨hdt, p, hp, hpn⟩ := this
  cases hfind : (fwPairs fw).find? (fun p => p.1 == n) with
  | none => exact absurd (beq_iff_eq.mpr hpn) (List.find?_eq_none.mp hfind p hp)
  | some p₀ =>
    exact ⟨hdt, p₀, List.mem_of_find?_eq_some hfind, by simpa using List.find?_some hfind, rfl⟩

/-- The quadrature loop
    `for iq { definitions; Intermediates{fw = 0; sv_… ; fw = f·w[iq]}; Tensor Computation… }` where
    * every definition section establishes its symbol (`IsDef`: proved for the coefficient, Jacobian and
      SpatialCoordinate sections by `coeff_isDef` / `coord_isDef`; pass-through terminals have no section),
    * the `sv_` intermediates are in SSA form and the names are disjoint / closed (`prefixOkB` checks it),
    * the partition's expressions are safe to evaluate (array reads in range and symbols declared — the
      assumption that remains, together with the block-side conditions): `hsafe` for the intermediates, in every
      state after the definitions and `fw = 0` declarations (`AfterDefs`) whose other scalars are those of `σ`
      (of a `τ` with `SigmaLike σ … τ`, a state an iteration starts in); `hsafeFw` for the `fw` defining
      expressions and the non-symbol `fw` expressions, in every state `τ₁` after the intermediates (`PrefixPost`),
    adds `Σ_q Σ_groups Σ_(i,j) Σ_b [flat = k] · Φ q fw_b · Π_r T_br[…][q][d_r]` to `A[k]`, where `Φ q fw_b`
    is the value of the defining expression of `fw_b` in ANY state that is `σ` outside the loop's write
    sets, has `iq = q`, the definition symbols at their closed-form values and the intermediates
    satisfying their defining equations.

    Still assumed / outside: `optimize` (the real kernel holds the optimised definitions and sections;
    C17), table values = basis functions (C02/C03/Tables), the terminals without transcription
    (`facet_edge_vectors`, `cell_coordinate`, `facet_coordinate`), boolean temporaries (conditions),
    tensor-factorised and diagonal groups (see `genBlock_tensor_spec`, `genBlock_diagonal_spec`). -/
theorem kernel_meets_spec_defs_partial (hlaw : LawfulExtra x) (rule : QRule) (hrule : rule.factors = none)
    (aShape : List Nat) (gs : List GroupDesc) (st st' : GenState) (tc fw : List Stmt)
    (hgen : genGroups st gs = .ok (tc, fw, st')) (hok : GroupsOk rule aShape st gs)
    (hfwok : fwDeclsOk fw = true) (hlinked : fwLinkedB fw st gs = true)
    (ds : List (DefItem R)) (i0 : List Stmt)
    (σ : St R) (hA : AOk aName (sizeProd aShape) σ)
    (htab : ∀ q : Nat, q < rule.nweights → ∀ g ∈ gs, ∀ b ∈ g.blocks, ∀ a ∈ b.args,
      ArgOk σ g.entityType q a)
    (hdef : ∀ d ∈ ds, IsDef x σ rule.nweights d.stmt d.name d.val)
    (hdis : PrefixDisjoint ds fw i0) (hssa : ssaOk i0 = true)
    (hreads : PrefixReads ds fw i0 ((allFw st gs).filter (fun e => !isSymB e)))
    (hsafe : ∀ q : Nat, q < rule.nweights → ∀ τ υ : St R, SigmaLike σ ds fw i0 τ → AfterDefs σ ds fw q υ →
      (∀ n, n ∉ ds.map (·.name) → n ∉ declNames fw → υ.sv.get n = τ.sv.get n) →
      SafeFrom υ (declNames i0) i0)
    (hsafeFw : ∀ q : Nat, q < rule.nweights → ∀ τ τ₁ : St R, SigmaLike σ ds fw i0 τ →
      PrefixPost x σ ds fw i0 q τ τ₁ →
      (∀ p ∈ fwPairs fw, safeE τ₁ p.2 = true) ∧
      ∀ fwe ∈ allFw st gs, isSymB fwe = false → safeE τ₁ fwe = true) :
    ∃ (Φ : Nat → Expr → R) (σ' : St R),
      exec x (genQuadLoop rule (quadLoopCode (ds.map (·.stmt)) i0 tc fw)) σ = .ok σ' ∧
      Acc aName (fun n => n ∈ loopInts) (fun n => n ∈ ds.map (·.name) ++ declNames fw ++ declNames i0)
        (fun k => isum 0 rule.nweights (fun q => groupsSum (Φ q.toNat) σ q k st gs)) σ σ' ∧
      ∀ q : Nat, q < rule.nweights → ∀ τ τ₁ : St R, SigmaLike σ ds fw i0 τ →
        PrefixPost x σ ds fw i0 q τ τ₁ → ∀ fwe ∈ allFw st gs, Φ q fwe = fwVal x fw τ₁ fwe := by
  have hσlike := SigmaLike.refl σ ds fw i0
  have hrun : ∀ q : Nat, q < rule.nweights → ∃ S, PrefixPost x σ ds fw i0 q σ S := fun q hq =>
    (prefix_run_sigmaLike x σ rule.nweights ds fw i0 hdef hdis hfwok hssa hsafe q hq σ hσlike).imp fun _ h => h.2
  let S : Nat → St R := fun q => if h : q < rule.nweights then Classical.choose (hrun q h) else σ
  have hS : ∀ q, q < rule.nweights → PrefixPost x σ ds fw i0 q σ (S q) := by
    intro q hq
    simp only [S, hq, dif_pos]
    exact Classical.choose_spec (hrun q hq)
  -- values of closed expressions do not depend on the state the prefix was started from
  have hval : ∀ q, q < rule.nweights → ∀ τ τ₁, SigmaLike σ ds fw i0 τ → PrefixPost x σ ds fw i0 q τ τ₁ →
      ∀ fwe ∈ allFw st gs, fwVal x fw τ₁ fwe = fwVal x fw (S q) fwe := by
    intro q hq τ τ₁ hτ hp fwe hfwe
    have hag := post_values_agree x σ ds fw i0 _ hssa hreads q τ σ τ₁ (S q) hτ hσlike hp (hS q hq)
    cases hsym : isSymB fwe with
    | true =>
      obtain ⟨n, dt, rfl⟩ := isSymB_eq_true hsym
      obtain ⟨_, p, hmem, _, hfind⟩ := fwLinkedB_sound fw st gs hlinked n dt hfwe
      simp only [fwVal, hfind]
      exact eval_agreeOn x hag p.2 (hreads.exprs p.2 (Or.inr (Or.inl (List.mem_map_of_mem hmem))))
    | false =>
      rw [fwVal_of_not_sym x fw _ hsym, fwVal_of_not_sym x fw _ hsym]
      exact eval_agreeOn x hag _ (hreads.exprs _ (Or.inr (Or.inr
        (List.mem_filter.mpr ⟨hfwe, by rw [hsym]; rfl⟩))))
  refine ⟨fun q fwe => fwVal x fw (S q) fwe,
    (kernel_meets_spec_partial x hlaw rule hrule aShape gs st st' tc fw hgen hok hfwok
      (ds.map (·.stmt)) i0 (fun n => n ∈ loopInts)
      (fun n => n ∈ ds.map (·.name) ++ declNames fw ++ declNames i0)
      (by simp [loopInts]) (fun n hn => by simp [loopInts, hn]) (fun n hn => by simp [hn])
      σ hA htab (fun q fwe => fwVal x fw (S q) fwe) ?_).imp fun σ' h =>
    ⟨h.1, h.2, fun q hq τ τ₁ hτ hp fwe hfwe => (hval q hq τ τ₁ hτ hp fwe hfwe).symm⟩⟩
  -- `hpart` of `kernel_meets_spec_partial`: the prefix of one iteration, started from `τ`
  intro q hq τ d hτ
  have hτlike : SigmaLike σ ds fw i0 τ := sigmaLike_iff_agree.mpr hτ.agree
  obtain ⟨τ₁, he1, hp⟩ := prefix_run_sigmaLike x σ rule.nweights ds fw i0 hdef hdis hfwok hssa hsafe q hq τ hτlike
  obtain ⟨sf1, sf2⟩ := hsafeFw q hq τ τ₁ hτlike hp
  -- it adds nothing to `A`; every `fw` temporary is declared and its defining expression safe; `FwReady`
  refine ⟨τ₁, he1, ?_, hp.after.iq, ?_, ?_⟩
  · obtain ⟨_, a, _, ha, _⟩ := hτ.arr
    exact Acc.of_agree_sa (sigmaLike_iff_agree.mp hp.sigmaLike) hp.sa ha
  · intro p hp'
    rw [fwPairs_eq_map] at hp'
    obtain ⟨t, ht, rfl⟩ := List.mem_map.mp hp'
    exact ⟨hp.after.fwd t.1 (declTriples_names fw t ht), sf1 _ (by rw [fwPairs_eq_map]; exact List.mem_map_of_mem ht)⟩
  · intro fwe hfwe
    have hv := hval q hq τ τ₁ hτlike hp fwe hfwe
    cases hsym : isSymB fwe with
    | true =>
      obtain ⟨n, dt, rfl⟩ := isSymB_eq_true hsym
      obtain ⟨hdt, p, hmem, hpn, hfind⟩ := fwLinkedB_sound fw st gs hlinked n dt hfwe
      -- a cached temporary: the first alternative of `FwReady`
      refine Or.inl ⟨n, dt, p.2, rfl, hdt, by rw [← hpn]; exact hmem, ?_⟩
      simpa only [fwVal, hfind] using hv
    | false =>
      -- `weights[iq]` itself: the second alternative, it mentions no `fw` temporary
      refine Or.inr ⟨sf2 fwe hfwe hsym, ?_, ?_⟩
      · rw [← fwVal_of_not_sym x fw τ₁ hsym, hv]
      · intro m hm
        cases hmm : mentionsE m fwe with
        | false => rfl
        | true =>
          exact absurd hm (hreads.exprs fwe (Or.inr (Or.inr (List.mem_filter.mpr
            ⟨hfwe, by rw [hsym]; rfl⟩))) m hmm).2.2

end Ffcx.Codegen
