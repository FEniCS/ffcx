/-
C01 — a specification that does not mention the factorisation or the loop structure, and the composition with it.

`quadSpec` is defined from the scalar integrand graph `S` of the IR (`Ffcx.IR.Graph`, values `Ffcx.IR.val`), the
argument tables the IR attaches to the modified arguments (`argTable`), the quadrature weights and the terminal
values:

  `quadSpec (I, J) = Σ_q w_q · val ρ̌_{q,I,J} S target`,
  `ρ̌.argv p = Ť_p(q, I_{number p})`,  `Ť(q, I) = Σ_d [bs·d + off = I]·T[perm][ent][q][d]`

(the table of the argument extended by zero to all global dof numbers: "the value of the integrand graph
at q with the arguments replaced by the table entries").  It shares with the generator the conventions of one
table access (`argVal`) and of the block map (`aCoord`).

The closed forms of C01Codegen at entry `(I, J)` are sums over blocks of products of extended table values
(`groupsSum_ext2`), `val S target` is a sum over the factorisation dict (`factorize_targets_sound`); `kernel_meets_spec` matches
the two through a pairing of the dict with the blocks (`hlink`), and `kernel_meets_spec_linked` gets the pairing and
its argument half from decidable facts (`ArgLink`), leaving the `fw` half (`hphi`).
-/
import FfcxProofs.C01Kernel
import FfcxProofs.Lemmas.TablesFactorize

namespace Ffcx.Codegen
open Ffcx.LNodes Lean.Grind
attribute [local instance] Lean.Grind.Ring.intCast
variable {R : Type} [Field R] (x : Extra R)

/-- **The argument table extended by zero to global dof numbers**:
    `Ť(q, I) = Σ_{d<n} [block_size·d + offset = I] · T[perm][entity][q][d]`. -/
def extVal (σ : St R) (et : String) (q : Int) (a : ArgDesc) (n : Nat) (I : Int) : R :=
  isum 0 n (fun d => if aCoord a n d = I then argVal σ et q a d else 0)

/-- the product of the extended table values of the arguments of a block -/
def extProd (σ : St R) (et : String) (q : Int) : List ArgDesc → List Nat → List Int → R
  | a :: as, n :: ns, I :: Is => extVal σ et q a n I * extProd σ et q as ns Is
  | _, _, _ => 1

/-- what the IR attaches to a modified argument (node `p` of `F`): its table reference, the number of
    dofs of the block, and the argument number (0 = test, 1 = trial) -/
structure ArgInfo where
  arg : ArgDesc
  len : Nat
  number : Nat

/-- the environment of the specification: terminals as in `base`, the modified argument at position
    `p` replaced by its (extended) table entry at the global dof `IJ[number p]` -/
def specEnv (base : IR.Env R) (σ : St R) (et : String) (q : Int) (argTable : Nat → Option ArgInfo)
    (IJ : List Int) : IR.Env R :=
  { base with argv := fun p => match argTable p with
      | some ai => extVal σ et q ai.arg ai.len (IJ.getD ai.number 0)
      | none => 0 }

/-- `specEnv` changes `argv` only, and `LawfulEnv` does not speak of it -/
theorem _root_.Ffcx.IR.LawfulEnv.specEnv {base : IR.Env R} (h : IR.LawfulEnv base) (σ : St R) (et : String)
    (q : Int) (argTable : Nat → Option ArgInfo) (IJ : List Int) :
    IR.LawfulEnv (specEnv base σ et q argTable IJ) :=
  ⟨h.ofRat_zero, h.ofRat_one, h.ofRat_add, h.ofRat_mul, h.ofRat_div, h.conj_zero, h.conj_one, h.conj_add,
   h.conj_mul, h.conj_conj, h.conj_ofRat, h.conj_abs, h.conj_re, h.conj_im⟩

/-- **The specification**: `Σ_q w_q · (value of the integrand graph at q, arguments ↦ table entries)`.
    `isum` runs over `Int` because the loop index `iq` is an integer variable of the state (`argVal` takes it as
    such); the weights and the terminal environments are indexed by the number of the point, hence `q.toNat`. -/
def quadSpec (S : IR.Graph) (target : Nat) (base : Nat → IR.Env R) (σ : St R) (et : String)
    (argTable : Nat → Option ArgInfo) (w : Nat → R) (nq : Nat) (IJ : List Int) : R :=
  isum 0 nq (fun q => w q.toNat * IR.val (specEnv (base q.toNat) σ et q argTable IJ) S.nodes target)

/-- all groups are rank-2 groups of a tensor of shape `e0 × e1` -/
def Rank2Groups (e0 e1 : Nat) (gs : List GroupDesc) : Prop :=
  ∀ g ∈ gs, g.aShape = [e0, e1] ∧ (∃ n0 n1, g.bmLens = [n0, n1]) ∧ ∀ b ∈ g.blocks, ∃ a0 a1, b.args = [a0, a1]

theorem flatIdx_eq_iff {ns : List Nat} {is js : List Int} {K : Nat} (h : flatIdx ns js = some K) :
    flatIdx ns is = some K ↔ is = js :=
  ⟨fun h' => flatIdx_inj ns _ _ _ h' h, fun e => e ▸ h⟩

theorem flatIdx_pair_iff (e0 e1 I J : Nat) (hI : I < e0) (hJ : J < e1) (a b : Int) :
    flatIdx [e0, e1] [a, b] = some (I * e1 + J) ↔ a = I ∧ b = J := by
  have hkk : flatIdx [e0, e1] [(I : Int), (J : Int)] = some (I * e1 + J) := by simp [flatIdx, hI, hJ]
  simp [flatIdx_eq_iff hkk]

theorem flatIdx_one_iff (e0 k : Nat) (hk : k < e0) (a : Int) :
    flatIdx [e0] [a] = some k ↔ a = k := by
  have hkk : flatIdx [e0] [(k : Int)] = some k := by simp [flatIdx, hk]
  simp [flatIdx_eq_iff hkk]

/-- `blockLeafL` is `blockLeafΦ` with the `fw` values read in the state of the tables -/
theorem blockLeafL_eq_Φ (σ : St R) (et : String) (aShape lens : List Nat) (q : Int) (ds : List Int) (k : Nat)
    (bs : List BlockData) (fws : List Expr) :
    blockLeafL x σ et aShape lens q ds k bs fws = blockLeafΦ (eval x σ) σ et aShape lens q ds k bs fws :=
  blockLeafL_eq x (eval x σ) σ σ et aShape lens q ds k bs fws (fun _ _ => rfl) (fun _ _ => rfl)

/-- **One group, entry `(I, J)`.** The closed form of `genBlock_spec` at the flat index `I·e1 + J` is
    `Σ_b Φ(fw_b) · Ť_b0(q, I) · Ť_b1(q, J)`. -/
theorem blockLeafΦ_ext2 (Φ : Expr → R) (σ : St R) (et : String) (e0 e1 n0 n1 I J : Nat) (hI : I < e0)
    (hJ : J < e1) (q : Int) (bs : List BlockData) (fws : List Expr)
    (hargs : ∀ b ∈ bs, ∃ a0 a1, b.args = [a0, a1]) :
    isum 0 n1 (fun j => isum 0 n0 (fun i =>
      blockLeafΦ Φ σ et [e0, e1] [n0, n1] q [i, j] (I * e1 + J) bs fws)) =
    IR.lsum (fun p : BlockData × Expr => Φ p.2 * extProd σ et q p.1.args [n0, n1] [(I : Int), (J : Int)])
      (bs.zip fws) := by
  simp only [blockLeafΦ_eq_lsum, isum_lsum]
  refine IR.lsum_congr _ _ _ fun p hp => ?_
  obtain ⟨a0, a1, ha⟩ := hargs p.1 (List.of_mem_zip hp).1
  simp only [ha, aCoords, argVals, prodR, extProd, Semiring.mul_one]
  -- pull `Φ fw` out of both sums; what is left is the product of two restricted sums
  refine Eq.trans ?_ ((isum_mul_left (Φ p.2) _ n1 0).trans (congrArg (Φ p.2 * ·)
    (isum_prod n0 n1 (fun i => aCoord a0 n0 i = (I : Int)) (fun j => aCoord a1 n1 j = (J : Int))
      (fun i => argVal σ et q a0 i) (fun j => argVal σ et q a1 j))))
  apply isum_congr; intro j _ _
  refine Eq.trans ?_ (isum_mul_left (Φ p.2) _ n0 0)
  apply isum_congr; intro i _ _
  simp only [flatIdx_pair_iff e0 e1 I J hI hJ]
  split
  · rfl
  · exact (Semiring.mul_zero _).symm

/-- **All groups, entry `(I, J)`**: the closed form of `quadLoop_spec` at one quadrature point is the sum
    over all blocks of `Φ(fw_b) · Ť_b0(q, I) · Ť_b1(q, J)`. -/
theorem groupsSum_ext2 (Φ : Expr → R) (σ : St R) (q : Int) (e0 e1 I J : Nat) (hI : I < e0) (hJ : J < e1) :
    ∀ (gs : List GroupDesc) (st : GenState), Rank2Groups e0 e1 gs →
      groupsSum Φ σ q (I * e1 + J) st gs =
        IR.lsum (fun t : GroupDesc × BlockData × Expr =>
          Φ t.2.2 * extProd σ t.1.entityType q t.2.1.args t.1.bmLens [(I : Int), (J : Int)]) (allBlocks st gs)
  | [], _, _ => by simp [groupsSum, allBlocks]
  | g :: gs, st, h => by
    obtain ⟨hsh, ⟨n0, n1, hL⟩, hargs⟩ := h g (by simp)
    simp only [groupsSum, allBlocks, IR.lsum_append, IR.lsum_map, hL, hsh, dofSum]
    rw [blockLeafΦ_ext2 Φ σ g.entityType e0 e1 n0 n1 I J hI hJ q g.blocks _ hargs,
      groupsSum_ext2 Φ σ q e0 e1 I J hI hJ gs _ (fun g' hg' => h g' (by simp [hg']))]

theorem allBlocks_mem : ∀ (gs : List GroupDesc) (st : GenState) (t : GroupDesc × BlockData × Expr),
    t ∈ allBlocks st gs → t.1 ∈ gs ∧ t.2.2 ∈ allFw st gs
  | [], _, _, h => by simp [allBlocks] at h
  | g :: gs, st, t, h => by
    simp only [allBlocks, List.mem_append, List.mem_map] at h
    simp only [allFw, List.mem_append, List.mem_cons]
    rcases h with ⟨p, hp, rfl⟩ | h
    · exact ⟨Or.inl rfl, Or.inl (List.of_mem_zip hp).2⟩
    · exact ⟨Or.inr (allBlocks_mem gs _ t h).1, Or.inr (allBlocks_mem gs _ t h).2⟩

/-- Rank 2, real scalars, one quadrature rule without tensor factors.
    Under the hypotheses of `kernel_meets_spec_defs_partial` and the LINK between the kernel and the IR:

    * `S` is the scalar integrand graph, accepted by `compute_argument_factorization` and well formed
      (`IR.WF S 2`, decidable), `dict` the argument factorisation of its target:
      `val ρ S target = Σ_{(key, f) ∈ dict} val ρ F f · Π_{a ∈ key} val ρ F a` (`factorize_sound`);
    * `hlink`: for every point and entry there is a pairing of `dict` with the blocks of the kernel (both up
      to order) such that for a paired `(key, f) ~ block b`
        - in every state satisfying the definition/SSA equation system the `fw` temporary of `b` has the
          value `val ρ_q F f · w_q` — the partition temporaries hold the values `IR.val` assigns to their
          nodes of `F` (`partition_values_partial`);
        - `Π_{a ∈ key} val ρ̌ F a = Ť_b0(q, I)·Ť_b1(q, J)`: the argument nodes of `F` are the (extended)
          tables of the block (`keyProd_specEnv`),
    the quadrature loop adds to `A[I·e1 + J]` exactly `quadSpec (I, J) = Σ_q w_q · val ρ̌_{q,I,J} S target`. -/
theorem kernel_meets_spec (hlaw : LawfulExtra x) (rule : QRule) (hrule : rule.factors = none)
    (e0 e1 : Nat) (gs : List GroupDesc) (st st' : GenState) (tc fw : List Stmt)
    (hgen : genGroups st gs = .ok (tc, fw, st')) (hok : GroupsOk rule [e0, e1] st gs)
    (hr2 : Rank2Groups e0 e1 gs)
    (hfwok : fwDeclsOk fw = true) (hlinked : fwLinkedB fw st gs = true)
    (ds : List (DefItem R)) (i0 : List Stmt)
    (σ : St R) (hA : AOk aName (sizeProd [e0, e1]) σ)
    (htab : ∀ q : Nat, q < rule.nweights → ∀ g ∈ gs, ∀ b ∈ g.blocks, ∀ a ∈ b.args,
      ArgOk σ g.entityType q a)
    (hdef : ∀ d ∈ ds, IsDef x σ rule.nweights d.stmt d.name d.val)
    (hdis : PrefixDisjoint ds fw i0) (hssa : ssaOk i0 = true)
    (hreads : PrefixReads ds fw i0 ((allFw st gs).filter (fun e => !isSymB e)))
    (hsafe : ∀ q : Nat, q < rule.nweights → ∀ τ υ : St R, SigmaLike σ ds fw i0 τ → AfterDefs σ ds fw q υ →
      (∀ n, n ∉ ds.map (·.name) → n ∉ declNames fw → υ.sv.get n = τ.sv.get n) →
      SafeFrom υ (declNames i0) i0)
    (hsafeFw : ∀ q : Nat, q < rule.nweights → ∀ τ τ₁ : St R, SigmaLike σ ds fw i0 τ →
      PrefixPost x σ ds fw i0 q τ τ₁ →
      (∀ p ∈ fwPairs fw, safeE τ₁ p.2 = true) ∧
      ∀ fwe ∈ allFw st gs, isSymB fwe = false → safeE τ₁ fwe = true)
    -- the specification side
    (S : IR.Graph) (res : IR.FResult) (target : Nat) (comps : List Nat) (dict : IR.Dict)
    (hwf : IR.WF S 2) (hres : IR.factorize S 2 = .ok res) (htarget : (target, comps, dict) ∈ res.targetDicts)
    (et : String)
    (argTable : Nat → Option ArgInfo) (w : Nat → R) (base : Nat → IR.Env R)
    (hbase : ∀ q I J, IR.LawfulEnv (specEnv (base q) σ et q argTable [I, J]) ∧
      ∀ r, (base q).conj r = r)
    (hlink : ∀ q : Nat, q < rule.nweights → ∀ I J : Nat, I < e0 → J < e1 →
      ∃ pairs : List ((IR.Key × Nat) × (GroupDesc × BlockData × Expr)),
        (pairs.map (·.1)).Perm dict ∧ (pairs.map (·.2)).Perm (allBlocks st gs) ∧
        ∀ p ∈ pairs,
          (∀ τ₁, PrefixPost x σ ds fw i0 q σ τ₁ → fwVal x fw τ₁ p.2.2.2 =
            IR.val (specEnv (base q) σ et q argTable [I, J]) res.F p.1.2 * w q) ∧
          IR.keyProd (IR.val (specEnv (base q) σ et q argTable [I, J]) res.F) p.1.1 =
            extProd σ p.2.1.entityType q p.2.2.1.args p.2.1.bmLens [(I : Int), (J : Int)]) :
    ∃ (σ' : St R) (d : Nat → R),
      exec x (genQuadLoop rule (quadLoopCode (ds.map (·.stmt)) i0 tc fw)) σ = .ok σ' ∧
      Acc aName (fun n => n ∈ loopInts) (fun n => n ∈ ds.map (·.name) ++ declNames fw ++ declNames i0)
        d σ σ' ∧
      ∀ I J : Nat, I < e0 → J < e1 →
        d (I * e1 + J) = quadSpec S target base σ et argTable w rule.nweights [(I : Int), (J : Int)] := by
  obtain ⟨Φ, σ', he, hacc, hΦ⟩ := kernel_meets_spec_defs_partial x hlaw rule hrule [e0, e1] gs st st' tc fw
    hgen hok hfwok hlinked ds i0 σ hA htab hdef hdis hssa hreads hsafe hsafeFw
  have hσlike := SigmaLike.refl σ ds fw i0
  refine ⟨σ', _, he, hacc, ?_⟩
  intro I J hI hJ
  simp only [quadSpec]
  refine isum_congr_nat _ fun q hq => ?_
  simp only [Int.toNat_natCast]
  -- a state satisfying the equation system exists
  obtain ⟨τ₁, _, hpost⟩ := prefix_run_sigmaLike x σ rule.nweights ds fw i0 hdef hdis hfwok hssa hsafe q hq σ hσlike
  obtain ⟨pairs, hp1, hp2, hp3⟩ := hlink q hq I J hI hJ
  obtain ⟨hlawρ, hconj⟩ := hbase q I J
  have hs := IR.factorize_targets_sound _ hlawρ (fun _ => hconj _) S 2 res hres (hwf.check hres) _ htarget
  simp only [IR.factSum] at hs
  rw [groupsSum_ext2 (Φ q) σ q e0 e1 I J hI hJ gs st hr2, hs]
  rw [← IR.lsum_perm _ hp2, ← IR.lsum_perm _ hp1, IR.lsum_map, IR.lsum_map, ← IR.lsum_mul_left]
  apply IR.lsum_congr
  intro p hp
  obtain ⟨h1, h2⟩ := hp3 p hp
  have hmem : p.2.2.2 ∈ allFw st gs :=
    (allBlocks_mem gs st p.2 (hp2.mem_iff.mp (List.mem_map_of_mem hp))).2
  rw [hΦ q hq σ τ₁ hσlike hpost _ hmem, h1 τ₁ hpost, h2]
  -- `a·w·c = w·(a·c)`
  exact (congrArg (· * _) (CommSemiring.mul_comm _ _)).trans (Semiring.mul_assoc _ _ _)

/-- node `p` of `F` is a modified argument whose table, as the IR records it in `argTable`, is `a`, with `n` dofs in
    the block and argument number `r` (0 = test, 1 = trial) -/
def ArgNode (F : Array IR.Node) (argTable : Nat → Option ArgInfo) (p : Nat) (a : ArgDesc) (n r : Nat) : Prop :=
  ∃ (h : p < F.size) (pos m : Nat), F[p].kind = .arg pos m ∧ argTable pos = some ⟨a, n, r⟩

theorem ArgNode.val {F : Array IR.Node} {argTable : Nat → Option ArgInfo} {p : Nat} {a : ArgDesc} {n r : Nat}
    (h : ArgNode F argTable p a n r) (base : IR.Env R) (σ : St R) (et : String) (q : Int) (IJ : List Int)
    (hc : IR.Closed F) :
    IR.val (specEnv base σ et q argTable IJ) F p = extVal σ et q a n (IJ.getD r 0) := by
  obtain ⟨hp, pos, m, hk, ht⟩ := h
  rw [IR.val_eq_evalNode (ρ := specEnv base σ et q argTable IJ) F hc p hp]
  simp [IR.evalNode, hk, specEnv, ht]

/-- **The structural link of one block to the IR** (what `argLinkB` decides): its `ma_index`es are
    modified-argument nodes of `F` whose tables are the block's argument tables, with argument numbers 0 and 1
    and the block lengths of the group. -/
structure ArgLink (F : Array IR.Node) (argTable : Nat → Option ArgInfo) (et : String)
    (t : GroupDesc × BlockData × Expr) : Prop where
  entity : t.1.entityType = et
  args : ∃ p0 p1 a0 a1 n0 n1, t.2.1.maIndices = [p0, p1] ∧ t.2.1.args = [a0, a1] ∧ t.1.bmLens = [n0, n1] ∧
    ArgNode F argTable p0 a0 n0 0 ∧ ArgNode F argTable p1 a1 n1 1

theorem keyProd_specEnv (base : IR.Env R) (σ : St R) (et : String) (q : Int)
    (argTable : Nat → Option ArgInfo) (I J : Int) (F : Array IR.Node) (hc : IR.Closed F)
    (t : GroupDesc × BlockData × Expr) (hl : ArgLink F argTable et t) :
    IR.keyProd (IR.val (specEnv base σ et q argTable [I, J]) F) t.2.1.maIndices =
      extProd σ t.1.entityType q t.2.1.args t.1.bmLens [I, J] := by
  obtain ⟨p0, p1, a0, a1, n0, n1, hk, ha, hL, h0, h1⟩ := hl.args
  rw [hk, ha, hL, hl.entity]
  simp only [IR.keyProd, List.foldr, extProd, h0.val base σ et q [I, J] hc, h1.val base σ et q [I, J] hc]
  simp

/-- `kernel_meets_spec` with the pairing and the argument half of the link
    discharged from decidable facts: the blocks' `(ma_indices, factor_index)` are — up to order — the
    entries of the target's factorisation dict (`hperm`), `F` is closed, and every block satisfies
    `ArgLink`.  What remains is `hphi` (the `fw` temporaries hold `val ρ_q F factor · w_q`;
    see `partition_values_partial`) and the hypotheses of `kernel_meets_spec_defs_partial`. -/
theorem kernel_meets_spec_linked (hlaw : LawfulExtra x) (rule : QRule) (hrule : rule.factors = none)
    (e0 e1 : Nat) (gs : List GroupDesc) (st st' : GenState) (tc fw : List Stmt)
    (hgen : genGroups st gs = .ok (tc, fw, st')) (hok : GroupsOk rule [e0, e1] st gs)
    (hr2 : Rank2Groups e0 e1 gs)
    (hfwok : fwDeclsOk fw = true) (hlinked : fwLinkedB fw st gs = true)
    (ds : List (DefItem R)) (i0 : List Stmt)
    (σ : St R) (hA : AOk aName (sizeProd [e0, e1]) σ)
    (htab : ∀ q : Nat, q < rule.nweights → ∀ g ∈ gs, ∀ b ∈ g.blocks, ∀ a ∈ b.args,
      ArgOk σ g.entityType q a)
    (hdef : ∀ d ∈ ds, IsDef x σ rule.nweights d.stmt d.name d.val)
    (hdis : PrefixDisjoint ds fw i0) (hssa : ssaOk i0 = true)
    (hreads : PrefixReads ds fw i0 ((allFw st gs).filter (fun e => !isSymB e)))
    (hsafe : ∀ q : Nat, q < rule.nweights → ∀ τ υ : St R, SigmaLike σ ds fw i0 τ → AfterDefs σ ds fw q υ →
      (∀ n, n ∉ ds.map (·.name) → n ∉ declNames fw → υ.sv.get n = τ.sv.get n) →
      SafeFrom υ (declNames i0) i0)
    (hsafeFw : ∀ q : Nat, q < rule.nweights → ∀ τ τ₁ : St R, SigmaLike σ ds fw i0 τ →
      PrefixPost x σ ds fw i0 q τ τ₁ →
      (∀ p ∈ fwPairs fw, safeE τ₁ p.2 = true) ∧
      ∀ fwe ∈ allFw st gs, isSymB fwe = false → safeE τ₁ fwe = true)
    (S : IR.Graph) (res : IR.FResult) (target : Nat) (comps : List Nat) (dict : IR.Dict)
    (hwf : IR.WF S 2) (hres : IR.factorize S 2 = .ok res) (htarget : (target, comps, dict) ∈ res.targetDicts)
    (hclosed : IR.closedB res.F = true)
    (et : String) (argTable : Nat → Option ArgInfo) (w : Nat → R) (base : Nat → IR.Env R)
    (hbase : ∀ q I J, IR.LawfulEnv (specEnv (base q) σ et q argTable [I, J]) ∧
      ∀ r, (base q).conj r = r)
    (hperm : ((allBlocks st gs).map (fun t => (t.2.1.maIndices, t.2.1.factorIndex))).Perm dict)
    (hargs : ∀ t ∈ allBlocks st gs, ArgLink res.F argTable et t)
    (hphi : ∀ q : Nat, q < rule.nweights → ∀ I J : Nat, I < e0 → J < e1 → ∀ t ∈ allBlocks st gs,
      ∀ τ₁, PrefixPost x σ ds fw i0 q σ τ₁ → fwVal x fw τ₁ t.2.2 =
        IR.val (specEnv (base q) σ et q argTable [I, J]) res.F t.2.1.factorIndex * w q) :
    ∃ (σ' : St R) (d : Nat → R),
      exec x (genQuadLoop rule (quadLoopCode (ds.map (·.stmt)) i0 tc fw)) σ = .ok σ' ∧
      Acc aName (fun n => n ∈ loopInts) (fun n => n ∈ ds.map (·.name) ++ declNames fw ++ declNames i0)
        d σ σ' ∧
      ∀ I J : Nat, I < e0 → J < e1 →
        d (I * e1 + J) = quadSpec S target base σ et argTable w rule.nweights [(I : Int), (J : Int)] := by
  refine kernel_meets_spec x hlaw rule hrule e0 e1 gs st st' tc fw hgen hok hr2 hfwok hlinked ds i0 σ hA htab
    hdef hdis hssa hreads hsafe hsafeFw S res target comps dict hwf hres htarget et argTable w base hbase ?_
  intro q hq I J hI hJ
  refine ⟨(allBlocks st gs).map (fun t => ((t.2.1.maIndices, t.2.1.factorIndex), t)), ?_, ?_, ?_⟩
  · simpa [List.map_map, Function.comp_def] using hperm
  · simp [List.map_map, Function.comp_def]
  · intro p hp
    obtain ⟨t, ht, rfl⟩ := List.mem_map.mp hp
    exact ⟨fun τ₁ hτ => hphi q hq I J hI hJ t ht τ₁ hτ,
      keyProd_specEnv (base q) σ et q argTable I J res.F ((IR.closedB_iff res.F).mp hclosed) t (hargs t ht)⟩

/-- the value of an `fw` temporary whose defining expression is `float_product([f, weights[iq]])` with
    `f` the access of the factor node: `val ρ F factor · w_q` (`hphi` for one block) -/
theorem fw_is_factor (hlaw : LawfulExtra x) (ρ : IR.Env R) (F : Array IR.Node) (τ : St R) (f wexpr : Expr)
    (fi : Nat) (wq : R) (hf : eval x τ f = IR.val ρ F fi) (hw : eval x τ wexpr = wq) :
    eval x τ (floatProduct [f, wexpr]) = IR.val ρ F fi * wq := by
  rw [eval_floatProduct2 x hlaw, hf, hw]

end Ffcx.Codegen
