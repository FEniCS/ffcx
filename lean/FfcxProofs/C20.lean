/-
C20 — the command-line compiler: option precedence, CLI option collection, header/source
consistency of the generated blocks, file assembly, namespace sanitising.

Models: FfcxModel/Cli/Options.lean and FfcxModel/Cli/Templates.lean (hand-written, tied to
ffcx/options.py, ffcx/main.py, ffcx/formatting.py and the C generators by the correspondence run of
harness/props/c20.py) and the tables FfcxModel/Generated/{Options,Templates,TemplatePieces}.lean
regenerated from /repo on every run.

Option collection is proved over the regenerated parser table: an FFCx option is in `priority_options` iff the
command line supplied it — this includes the `store_true` options since their argparse default became None; a
parser change that reintroduces a non-None default breaks `cli_only_given_generated`.
Header/source consistency is proved for EVERY filling of the holes of the regenerated C template pairs that is
lexically self-contained (`Respects`): a name the declaration instance declares `extern` is defined by the
implementation instance (`decl_defined_templates`); the same through `format_code` (header = declarations,
source = implementations, block by block in the same order, and the definition is found in the text of the whole
source file).  `decl_defined_probes` is a regression table: the lexed output of four probe runs × two languages.
The IndexError of `format_code` on ragged input is modelled.  C13 is imported for `alias_valid` alone
(`cli_alias_valid`).
-/
import FfcxProofs.C13
import FfcxProofs.Lemmas.CliOptions
import FfcxProofs.Lemmas.CliTemplates
import FfcxModel.Generated.Options
import FfcxModel.Generated.Templates
import FfcxModel.Generated.TemplatePieces

namespace Ffcx.Cli
open Ffcx.Naming

section Merge
variable {κ ν : Type} [DecidableEq κ]

/-- Priority options take precedence over `$PWD/ffcx_options.json`, which takes precedence over
the user file, which takes precedence over the defaults (for every key, whatever the dicts hold).
`rlookup` is the binding a Python dict keeps for a key (the last one written). -/
theorem merge_precedence (defaults user pwd prio : Dict κ ν) (k : κ) :
    Dict.get (getOptions defaults user pwd (some prio)) k =
      (Dict.rlookup prio k).or ((Dict.rlookup pwd k).or ((Dict.rlookup user k).or
        (Dict.rlookup defaults k))) := by
  simp [getOptions, Dict.get_update, Dict.get]

/-- `priority_options=None`: the same without the first layer. -/
theorem merge_precedence_none (defaults user pwd : Dict κ ν) (k : κ) :
    Dict.get (getOptions defaults user pwd none) k =
      (Dict.rlookup pwd k).or ((Dict.rlookup user k).or (Dict.rlookup defaults k)) := by
  simp [getOptions, Dict.get_update, Dict.get]

end Merge

-- defaults, user file and `$PWD` file set `scalar_type`, the priority dict does not: the `$PWD` file wins
example :
    Dict.get (getOptions [("scalar_type", "float64"), ("part", "full")] [("scalar_type", "float32")]
      [("scalar_type", "complex64")] (some [("part", "diagonal")])) "scalar_type" = some "complex64" := by
  decide +kernel

/-- One step of the defaults loop of `parse_args`: the function `parseNamespace` folds over the actions. -/
def defaultStep (ns : Dict String Scalar) (a : Action) : Dict String Scalar :=
  if a.suppressed then ns
  else match Dict.get ns a.dest with
    | some _ => ns
    | none => Dict.set ns a.dest a.default

theorem parseNamespace_eq (acts : List Action) (given : Given) :
    parseNamespace acts given = Dict.update (acts.foldl defaultStep []) given := rfl

theorem foldl_defaultStep_get {k : String} {v : Scalar} : ∀ (acts : List Action) (ns : Dict String Scalar),
    Dict.get (acts.foldl defaultStep ns) k = some v →
    Dict.get ns k = some v ∨ ∃ a ∈ acts, a.dest = k ∧ a.suppressed = false ∧ a.default = v
  | [], _, h => Or.inl h
  | a :: as, ns, h => by
    rcases foldl_defaultStep_get as _ h with h' | ⟨b, hb, hh⟩
    · unfold defaultStep at h'
      split at h'
      · exact Or.inl h'
      · split at h'
        · exact Or.inl h'
        · rw [Dict.get_set] at h'
          split at h'
          · rename_i hs _ _ hk
            exact Or.inr ⟨a, List.mem_cons_self, hk, by simpa using hs, by simpa using h'⟩
          · exact Or.inl h'
    · exact Or.inr ⟨b, List.mem_cons_of_mem _ hb, hh⟩

theorem foldl_defaultStep_nodup : ∀ (acts : List Action) (ns : Dict String Scalar), (Dict.keys ns).Nodup →
    (Dict.keys (acts.foldl defaultStep ns)).Nodup
  | [], _, h => h
  | a :: as, ns, h => by
    simp only [List.foldl_cons]
    apply foldl_defaultStep_nodup as
    unfold defaultStep
    split
    · exact h
    · split
      · exact h
      · exact Dict.nodup_set _ _ _ h

/-- A key all of whose (non-suppressed) actions have default `None` is in
`priority_options` iff the command line supplied it. -/
theorem priority_iff_given (acts : List Action) (given : Given) (k : String)
    (hdef : ∀ a ∈ acts, a.dest = k → a.suppressed = false → a.default = Scalar.none)
    (hgiven : ∀ kv ∈ given, kv.2 ≠ Scalar.none) :
    k ∈ Dict.keys (priorityOptions acts given) ↔ k ∈ Dict.keys given := by
  have hnd : (Dict.keys (parseNamespace acts given)).Nodup := by
    rw [parseNamespace_eq]; exact Dict.nodup_update _ _ (foldl_defaultStep_nodup acts [] (by simp [Dict.keys]))
  unfold priorityOptions Dict.keys
  simp only [List.mem_map, List.mem_filter, decide_eq_true_eq, Prod.exists, exists_and_right,
    exists_eq_right]
  constructor
  · rintro ⟨v, hm, hv⟩
    have hg := (Dict.mem_iff_get _ hnd k v).mp hm
    rw [parseNamespace_eq, Dict.get_update] at hg
    cases hr : Dict.rlookup given k with
    | some w => exact ⟨w, Dict.rlookup_some_mem hr⟩
    | none =>
      rw [hr] at hg
      simp only [Option.none_or] at hg
      rcases foldl_defaultStep_get acts [] hg with h' | ⟨a, ha, hd, hs, hdv⟩
      · simp [Dict.get] at h'
      · exact absurd (hdv ▸ hdef a ha hd hs) hv
  · rintro ⟨w, hw⟩
    have hk : k ∈ Dict.keys given := List.mem_map.mpr ⟨(k, w), hw, rfl⟩
    cases hr : Dict.rlookup given k with
    | none => exact absurd hk (Dict.rlookup_none_iff.mp hr)
    | some u =>
      refine ⟨u, ?_, hgiven _ (Dict.rlookup_some_mem hr)⟩
      refine (Dict.mem_iff_get _ hnd k u).mpr ?_
      rw [parseNamespace_eq, Dict.get_update, hr]
      rfl

open Ffcx.Generated.Options in
/-- On the parser of this tree: EVERY action that writes an FFCx option — the `store_true` ones
included — has argparse default `None`. -/
theorem cli_only_given_generated :
    ∀ a ∈ actions, a.ffcxOption = true → ∀ b ∈ actions, b.dest = a.dest → b.default = Scalar.none := by
  -- the parser's table is short: the `dest`s are compared as `String`s (the tables of C12 are joined with `strEq`)
  decide +kernel

open Ffcx.Generated.Options in
/-- The priority dict built by `main` contains an FFCx option iff it was given on the command
line (`given` holds converted values, never `None`). -/
theorem cli_only_given (given : Given) (hgiven : ∀ kv ∈ given, kv.2 ≠ Scalar.none) :
    ∀ a ∈ actions, a.ffcxOption = true →
      (a.dest ∈ Dict.keys (priorityOptions actions given) ↔ a.dest ∈ Dict.keys given) :=
  fun a ha hf => priority_iff_given actions given a.dest
    (fun b hb hd _ => cli_only_given_generated a ha hf b hb hd) hgiven

open Ffcx.Generated.Options in
/-- An FFCx option that is not on the command line gets its value from
`$PWD/ffcx_options.json`, else the user file, else the defaults — the command line never shadows it. -/
theorem cli_not_given_falls_through (user pwd : Dict String Scalar) (given : Given)
    (hgiven : ∀ kv ∈ given, kv.2 ≠ Scalar.none) :
    ∀ a ∈ actions, a.ffcxOption = true → a.dest ∉ Dict.keys given →
      Dict.get (mainOptions actions defaultDict user pwd given) a.dest =
        (Dict.rlookup pwd a.dest).or ((Dict.rlookup user a.dest).or (Dict.rlookup defaultDict a.dest)) := by
  intro a ha hf hng
  unfold mainOptions
  rw [merge_precedence]
  have : a.dest ∉ Dict.keys (priorityOptions actions given) :=
    fun h => hng ((cli_only_given given hgiven a ha hf).mp h)
  rw [Dict.rlookup_none_iff.mpr this]
  rfl

open Ffcx.Generated.Options in
/-- Regression for DESIGN F7 (`--sum_factorization` was `store_true` with default `False`, so the command line
overrode `ffcx_options.json` even without the flag): a `store_true` option is absent from the priority dict when the
flag is not given. -/
example : "sum_factorization" ∉ Dict.keys (priorityOptions actions []) ∧
    (∃ a ∈ actions, a.dest = "sum_factorization" ∧ a.ffcxOption = true ∧ a.kind = ActionKind.storeTrue) := by
  decide +kernel

open Ffcx.Generated.Options in
/-- `"sum_factorization": true` in `$PWD/ffcx_options.json` takes effect without the flag … -/
example : Dict.get (mainOptions actions defaultDict [] [("sum_factorization", Scalar.bool true)] [])
    "sum_factorization" = some (Scalar.bool true) := by decide +kernel

open Ffcx.Generated.Options in
/-- … and the flag still wins when given. -/
example : Dict.get (mainOptions actions defaultDict [("sum_factorization", Scalar.bool false)] []
    [("sum_factorization", Scalar.bool true)]) "sum_factorization" = some (Scalar.bool true) := by decide +kernel

open Ffcx.Generated.Options in
/-- The same for an option that takes a value: set in the `$PWD` file, not on the command line. -/
example : Dict.get (mainOptions actions defaultDict [] [("scalar_type", Scalar.str (cs! "float32"))] [])
    "scalar_type" = some (Scalar.str (cs! "float32")) := by decide +kernel

open Ffcx.Generated.Options in
/-- Whatever other flags the parser has: the only FFCx option in the priority dict is the given one. -/
example : (Dict.keys (priorityOptions actions [("scalar_type", Scalar.str (cs! "float32"))])).filter
      (fun k => actions.any fun a => a.dest == k && a.ffcxOption) = ["scalar_type"] := by decide +kernel

open Ffcx.Generated.Options in
/-- … and none at all when nothing is given. -/
example : (Dict.keys (priorityOptions actions [])).filter
      (fun k => actions.any fun a => a.dest == k && a.ffcxOption) = [] := by decide +kernel

section Templates
open Ffcx.Cli.Tpl

/-- The filling satisfies every obligation the symbolic run of the template collects: identifier
holes hold identifiers, holes inside `//` comments hold no newline, every other hole holds
lexically self-contained C text (`Ob` in FfcxModel/Cli/Templates.lean). Evaluated on the real
fillings of every real run by harness/props/c20.py.  A template on which the symbolic run fails has no
obligations, so every filling respects it: `Respects` says something only beside `pairOk` (or `symRun t … = some r`). -/
def Respects (σ : Filling) (t : Template) : Prop := ∀ ob ∈ obligations t, ob.check σ = true

instance (σ : Filling) (t : Template) : Decidable (Respects σ t) := by
  unfold Respects; infer_instance

theorem items_of_symRun {σ : Filling} {t : Template} {r : SymRes} (h : symRun t Ctl.init = some r)
    (hσ : Respects σ t) :
    (run (inst σ t) Ctl.init).1 = r.ctl.map (expand σ) ∧
    (∀ it ∈ r.items, expandItem σ it ∈ items (inst σ t)) ∧
    (r.exact = true → items (inst σ t) = r.items.map (expandItem σ)) := by
  have hob : ∀ ob ∈ r.obs, ob.check σ = true := by
    intro ob hm; apply hσ; simp [obligations, h, hm]
  obtain ⟨cits, h1, h2, h3⟩ := symRun_sound σ t Ctl.init r h hob
  rw [Ctl.map_init] at h1
  simp only [items, h1]
  exact ⟨trivial, h2, h3⟩

/-- One template pair that passes the symbolic check, ANY filling that respects the obligations:
a name declared `extern` by the declaration instance is defined (same type text, same name) by
the implementation instance, and the implementation instance ends where it started (code mode,
brace depth 0, a new item may start). -/
theorem decl_defined_pair {decl impl : Template} (hok : pairOk decl impl = true) (σ : Filling)
    (hd : Respects σ decl) (hi : Respects σ impl) :
    (∀ ty name : Str, DeclaredIn (inst σ decl) ty name → DefinedIn (inst σ impl) ty name) ∧
    (run (inst σ impl) Ctl.init).1 = Ctl.init := by
  unfold pairOk at hok
  split at hok
  · rename_i d i hds his
    simp only [Bool.and_eq_true, List.all_eq_true, Bool.or_eq_true, bne_iff_ne, ne_eq,
      beq_iff_eq, List.contains_iff_mem] at hok
    obtain ⟨⟨hex, hall⟩, hend⟩ := hok
    obtain ⟨_, _, hdit⟩ := items_of_symRun hds hd
    obtain ⟨hiend, himem, _⟩ := items_of_symRun his hi
    refine ⟨?_, ?_⟩
    · intro ty name hdecl
      unfold DeclaredIn at hdecl
      rw [hdit hex] at hdecl
      obtain ⟨it, hit, heq⟩ := List.mem_map.mp hdecl
      simp only [expandItem, Prod.mk.injEq] at heq
      rcases hall it hit with hne | ⟨hpre, hmem⟩
      · exact absurd heq.2 (by simpa using hne)
      · have hsplit : it.1 = lits (cs! "extern ") ++ it.1.drop 7 := by
          conv => lhs; rw [← List.take_append_drop 7 it.1]
          rw [hpre]
        have hexp : expand σ (it.1.drop 7) = ty ++ ' ' :: name := by
          have := heq.1
          rw [hsplit] at this
          simp only [expand, inst_append] at this
          rw [inst_lits] at this
          exact List.append_cancel_left this
        have := himem _ hmem
        simp only [expandItem, expand, inst_append] at this
        unfold DefinedIn
        simp only [expand] at hexp
        rw [hexp] at this
        simpa [inst] using this
    · rw [hiend, hend]; rfl
  · exact absurd hok (by simp)

/-! The generated templates are written `p₁ ++ p₂ ++ … ++ pₙ`, nested to the left, so evaluating one lifts every
character of `pᵢ` through the `n - i` appends above it, which is most of the work of evaluating `pairOk` on them.
`[p₁, …, pₙ].flatten` is the same list with one append above each character; `flatten_snoc`, applied along the
spine, reads the pieces off without looking into any of them. -/

theorem flatten_snoc {α : Type} {a b : List α} {ps : List (List α)} (h : a = ps.flatten) :
    a ++ b = (ps ++ [b]).flatten := by simp [h]

inductive Pieces : List (Template × Template) → List (List Template × List Template) → Prop
  | nil : Pieces [] []
  | cons {decl impl pd pi ps rs} : decl = pd.flatten → impl = pi.flatten → Pieces ps rs →
      Pieces ((decl, impl) :: ps) ((pd, pi) :: rs)

/-- One evaluation for the whole table (the kernel shares `classify c` and the comparisons of hole names only
within one evaluation). -/
theorem Pieces.pairOk {ps rs} (h : Pieces ps rs)
    (hok : rs.all (fun r => pairOk r.1.flatten r.2.flatten) = true) :
    ∀ p ∈ ps, pairOk p.1 p.2 = true := by
  induction h with
  | nil => simp
  | cons hd hi _ ih =>
    subst hd hi
    simp only [List.all_cons, Bool.and_eq_true] at hok
    simp only [List.forall_mem_cons]
    exact ⟨hok.1, ih hok.2⟩

open Ffcx.Generated.TemplatePieces in
/-- Every (declaration, implementation) pair of template strings of the C backend (regenerated from
/repo: form, integral, expression, file pre, file post) passes the symbolic check. -/
theorem templates_pairOk : ∀ p ∈ cPairs, pairOk p.2.2.2.1 p.2.2.2.2 = true := by
  have h : ∀ q ∈ cPairs.map (fun p => (p.2.2.2.1, p.2.2.2.2)), pairOk q.1 q.2 = true := by
    apply Pieces.pairOk
    · -- one `Pieces.cons` per pair of the table, one `flatten_snoc` per piece of a template (however many there are)
      repeat
        apply Pieces.cons
        · repeat apply flatten_snoc
          exact List.flatten_singleton.symm
        · repeat apply flatten_snoc
          exact List.flatten_singleton.symm
      exact Pieces.nil
    · decide +kernel
  exact fun p hp => h _ (List.mem_map_of_mem hp)

open Ffcx.Generated.TemplatePieces in
/-- Unbounded in the fillings; the table of templates is finite and complete by
regeneration.  For every template pair of the C backend and EVERY filling of the holes — factory
names, alias names, counts, initialisers, kernel bodies — that respects the lexical obligations,
every name the declaration instance declares `extern` is defined by the implementation instance. -/
theorem decl_defined_templates : ∀ p ∈ cPairs, ∀ σ : Filling,
    Respects σ p.2.2.2.1 → Respects σ p.2.2.2.2 →
    ∀ ty name : Str, DeclaredIn (inst σ p.2.2.2.1) ty name → DefinedIn (inst σ p.2.2.2.2) ty name :=
  fun p hp σ hd hi => (decl_defined_pair (templates_pairOk p hp) σ hd hi).1

/-- Non-vacuous: a concrete filling of the form templates (every hole that is not mentioned is
left empty) respects the obligations, and the two names it declares are the factory name and the
alias. -/
def demoFilling : Filling := fun h =>
  if h = "factory_name" then cs! "form_0123abcd"
  else if h = "name_from_uflfile" then cs! "form_my_prefix_a"
  else if h = "signature" then cs! "\"0123abcd\""
  else if h = "form_integral_offsets_init" then cs! "int form_integral_offsets_form_0123abcd[6] = {0, 1, 1, 1, 1, 1};"
  else if h = "form_integrals_init" then cs! "static ufcx_integral* form_integrals_form_0123abcd[1] = {&integral_77_triangle};"
  else []

open Ffcx.Generated.TemplatePieces in
example : Respects demoFilling c_form_declaration ∧ Respects demoFilling c_form_factory ∧
    DeclaredIn (inst demoFilling c_form_declaration) (cs! "ufcx_form") (cs! "form_0123abcd") ∧
    DeclaredIn (inst demoFilling c_form_declaration) (cs! "ufcx_form*") (cs! "form_my_prefix_a") ∧
    DefinedIn (inst demoFilling c_form_factory) (cs! "ufcx_form*") (cs! "form_my_prefix_a") := by
  have hd : Respects demoFilling c_form_declaration ∧
      DeclaredIn (inst demoFilling c_form_declaration) (cs! "ufcx_form") (cs! "form_0123abcd") ∧
      DeclaredIn (inst demoFilling c_form_declaration) (cs! "ufcx_form*") (cs! "form_my_prefix_a") := by
    decide +kernel
  -- the factory template has many times the pieces of the declaration template: it is read by pieces before it is
  -- evaluated, like the table in `templates_pairOk`; the declaration template is evaluated as it stands
  have hi : Respects demoFilling c_form_factory := by
    apply Eq.substr (p := Respects demoFilling)
    · repeat apply flatten_snoc
      exact List.flatten_singleton.symm
    · decide +kernel
  exact ⟨hd.1, hi, hd.2.1, hd.2.2, decl_defined_templates _ List.mem_cons_self _ hd.1 hi _ _ hd.2.2⟩

/-- The obligations are needed (hand-written pair, so that the example does not depend on the
wording of the real templates): the pair passes the symbolic check, but a filling that opens a
comment hides the definition — and violates `Respects`. -/
def toyDecl : Template := lits (cs! "extern T ") ++ [Sym.hole "factory_name"] ++ lits (cs! ";\n")
def toyImpl : Template :=
  [Sym.hole "body"] ++ lits (cs! "\nT ") ++ [Sym.hole "factory_name"] ++ lits (cs! " = 1;\n")
def toyFilling (body : Str) : Filling := fun h => if h = "factory_name" then cs! "obj" else if h = "body" then body else []

example : pairOk toyDecl toyImpl = true ∧
    (Respects (toyFilling (cs! "int x;")) toyImpl ∧ DefinedIn (inst (toyFilling (cs! "int x;")) toyImpl) (cs! "T") (cs! "obj")) ∧
    (¬ Respects (toyFilling (cs! "/*")) toyImpl ∧ DeclaredIn (inst (toyFilling (cs! "/*")) toyDecl) (cs! "T") (cs! "obj") ∧
      ¬ DefinedIn (inst (toyFilling (cs! "/*")) toyImpl) (cs! "T") (cs! "obj")) ∧
    (¬ Respects (toyFilling (cs! "void f() {")) toyImpl ∧
      ¬ DefinedIn (inst (toyFilling (cs! "void f() {")) toyImpl) (cs! "T") (cs! "obj")) := by
  decide +kernel

open Ffcx.Generated.TemplatePieces in
/-- Every object template declares something, forms and expressions declare two names. -/
example : (cPairs.filter fun p => (externHoles p.2.2.2.1).length ≥ 1).length ≥ 3 ∧
    (cPairs.filter fun p => (externHoles p.2.2.2.1).length ≥ 2).length ≥ 2 := by decide +kernel

theorem items_flatten_closed : ∀ l : List Str, (∀ s ∈ l, (run s Ctl.init).1 = Ctl.init) →
    items l.flatten = (l.map items).flatten ∧ (run l.flatten Ctl.init).1 = Ctl.init
  | [], _ => by simp [items, run_nil]
  | s :: l, h => by
    have hs := h s (by simp)
    have ih := items_flatten_closed l (fun x hx => h x (by simp [hx]))
    simp [items, run_append, hs, ← ih.1, ih.2]

/-- A generated block: its template pair and the filling the generator used. -/
structure TBlock where
  decl : Template
  impl : Template
  σ : Filling

/-- `(declaration, implementation)` as `<kind>.generator` returns it. -/
def TBlock.tuple (b : TBlock) : List Str := [inst b.σ b.decl, inst b.σ b.impl]

def TBlock.Ok (b : TBlock) : Prop :=
  pairOk b.decl b.impl = true ∧ Respects b.σ b.decl ∧ Respects b.σ b.impl

/-- Every name declared by the declaration text of any block is defined in the text of the whole
source file (the concatenation of all implementation texts). -/
theorem source_defines_declared (bs : List TBlock) (hok : ∀ b ∈ bs, b.Ok) :
    ∀ b ∈ bs, ∀ ty name : Str, DeclaredIn (inst b.σ b.decl) ty name →
      DefinedIn (bs.map fun b => inst b.σ b.impl).flatten ty name := by
  intro b hb ty name hd
  have hclosed : ∀ s ∈ bs.map (fun b => inst b.σ b.impl), (run s Ctl.init).1 = Ctl.init := by
    intro s hs
    obtain ⟨b', hb', rfl⟩ := List.mem_map.mp hs
    exact (decl_defined_pair (hok b' hb').1 b'.σ (hok b' hb').2.1 (hok b' hb').2.2).2
  have hdef := (decl_defined_pair (hok b hb).1 b.σ (hok b hb).2.1 (hok b hb).2.2).1 ty name hd
  unfold DefinedIn at hdef ⊢
  rw [(items_flatten_closed _ hclosed).1]
  simp only [List.map_map, List.mem_flatten, List.mem_map, Function.comp]
  exact ⟨_, ⟨b, hb, rfl⟩, hdef⟩

/-- `format_code` on blocks that are template instances: no IndexError, the header is the
concatenation of the declaration instances and the source the concatenation of the
implementation instances, block by block in the same order
(file_pre, integrals, forms, expressions, file_post). -/
theorem format_code_templates (p0 : TBlock) (pre ints forms exprs post : List TBlock) :
    formatCodeE (CodeBlocks.toList ⟨(p0 :: pre).map TBlock.tuple, ints.map TBlock.tuple,
        forms.map TBlock.tuple, exprs.map TBlock.tuple, post.map TBlock.tuple⟩) =
      some [((p0 :: pre ++ ints ++ forms ++ exprs ++ post).map fun b => inst b.σ b.decl).flatten,
            ((p0 :: pre ++ ints ++ forms ++ exprs ++ post).map fun b => inst b.σ b.impl).flatten] := by
  -- every tuple is a pair, so there are two files: columns 0 and 1
  have two : List.range 2 = [0, 1] := rfl
  simp [formatCodeE, formatCode, CodeBlocks.toList, TBlock.tuple, two, Function.comp_def]

/-- The pair of files `format_code` returns for blocks instantiated from checked template
pairs: every name a block declares in the header is defined in the source file. -/
theorem cli_header_source_consistent (p0 : TBlock) (pre ints forms exprs post : List TBlock)
    (hok : ∀ b ∈ p0 :: pre ++ ints ++ forms ++ exprs ++ post, b.Ok) :
    ∃ header source : Str,
      formatCodeE (CodeBlocks.toList ⟨(p0 :: pre).map TBlock.tuple, ints.map TBlock.tuple,
        forms.map TBlock.tuple, exprs.map TBlock.tuple, post.map TBlock.tuple⟩) = some [header, source] ∧
      header = ((p0 :: pre ++ ints ++ forms ++ exprs ++ post).map fun b => inst b.σ b.decl).flatten ∧
      ∀ b ∈ p0 :: pre ++ ints ++ forms ++ exprs ++ post, ∀ ty name : Str,
        DeclaredIn (inst b.σ b.decl) ty name → DefinedIn source ty name :=
  ⟨_, _, format_code_templates p0 pre ints forms exprs post, rfl,
    source_defines_declared _ hok⟩

end Templates

open Ffcx.Generated.Templates in
/-- What `decl_defined_probes` checks for one block. -/
def blockOk (b : Block) : Bool :=
  -- every name declared in the header text is defined (with external linkage) in the source text
  b.declared.all (fun n => b.defined.contains n) &&
  -- the generated object itself is defined
  (b.factory == "" || b.defined.contains b.factory) &&
  -- forms and expressions have an alias, it points at the generated object, and (C) is declared;
  -- `expectedAlias` is computed by the extractor from the UFL objects, their names and the prefix
  -- of the probe (not read back from the IR)
  ((b.kind != "form" && b.kind != "expression") ||
    (b.expectedAlias != "" && b.aliases.contains (b.expectedAlias, b.factory) &&
      (b.lang != "C" || b.declared.contains b.expectedAlias))) &&
  -- alias shape: <kind>_<prefix>_<name> with the prefix of the probe
  (b.expectedAlias == "" || (b.kind ++ "_" ++ b.pfx ++ "_").toList.isPrefixOf b.expectedAlias.toList) &&
  -- nothing is defined twice
  decide ((b.defined ++ b.statics).Nodup)

/-- The prefix test on characters is the prefix test on the UTF-8 bytes (the code is prefix free); `blockOk` is
evaluated on the bytes.  A `String` holds the bytes, and a string literal is `String.ofList` of its characters:
`toByteArray` only encodes them, `toList` encodes and then decodes again (`utf8Decode?`). -/
theorem toList_isPrefixOf (s t : String) :
    s.toList.isPrefixOf t.toList = s.toByteArray.data.toList.isPrefixOf t.toByteArray.data.toList := by
  rw [Bool.eq_iff_iff, List.isPrefixOf_iff_prefix, List.isPrefixOf_iff_prefix]
  constructor
  · rintro ⟨r, hr⟩
    refine ⟨r.utf8Encode.data.toList, ?_⟩
    rw [← ByteArray.toList_data_append, ← String.utf8Encode_toList, ← List.utf8Encode_append, hr,
      String.utf8Encode_toList]
  · rintro ⟨r, hr⟩
    refine List.isPrefix_of_utf8Encode_append_eq_utf8Encode ⟨⟨r⟩⟩ ?_
    rw [String.utf8Encode_toList, String.utf8Encode_toList]
    exact ByteArray.ext (Array.ext' (by rw [ByteArray.toList_data_append, hr]))

open Ffcx.Generated.Templates in
/-- REGRESSION TABLE (not a statement about all UFL files — that is `decl_defined_templates`):
over the blocks obtained by running the real generators on four probe inputs × two languages and
lexing the output, every object declared in the header is defined in the source, aliases point at
the generated object, nothing is defined twice. -/
theorem decl_defined_probes : ∀ b ∈ blocks, blockOk b = true := by
  -- the prefix test alone is rewritten; the names in `declared`, `defined`, … are compared as `String`s
  simp only [blockOk, toList_isPrefixOf]
  decide +kernel

-- non-vacuity of the table: there are blocks that declare two names (the object and its alias) …
open Ffcx.Generated.Templates in
example : (blocks.filter (fun b => b.declared.length ≥ 2)).length ≥ 4 := by decide +kernel
-- … and numba blocks with an alias
open Ffcx.Generated.Templates in
example : ∃ b ∈ blocks, b.lang = "numba" ∧ b.aliases ≠ [] := by decide +kernel

/-- Column `i` of a block: the `i`-th string of every tuple, concatenated. -/
def col (b : List (List Str)) (i : Nat) : Str := (b.map fun t => t.getD i []).flatten

/-- Every tuple of every block has at least `n` strings. -/
def wideEnough (n : Nat) (blocks : List (List (List Str))) : Bool :=
  blocks.all fun b => b.all fun t => decide (n ≤ t.length)

/-- Every output file is file_pre ++ integrals ++ forms ++ expressions ++ file_post of its own
column, in this order — the same order in the header and in the source — provided no tuple is
shorter than the first one of file_pre; otherwise Python raises IndexError. -/
theorem format_code_concat (c : CodeBlocks) (t0 : List Str) (rest : List (List Str))
    (hpre : c.filePre = t0 :: rest) :
    formatCodeE c.toList =
      if wideEnough t0.length c.toList = true then
        some ((List.range t0.length).map fun i =>
          col c.filePre i ++ col c.integrals i ++ col c.forms i ++ col c.expressions i ++ col c.filePost i)
      else none := by
  simp [formatCodeE, formatCode, CodeBlocks.toList, hpre, col, wideEnough]

/-- A ragged input — some tuple shorter than the first one — is an IndexError, whatever the rest. -/
theorem format_code_ragged (blocks : List (List (List Str))) (t0 : List Str)
    (r0 : List (List Str)) (rb : List (List (List Str))) (hb : blocks = (t0 :: r0) :: rb)
    (b : List (List Str)) (t : List Str) (hbm : b ∈ blocks) (htm : t ∈ b) (hshort : t.length < t0.length) :
    formatCodeE blocks = none := by
  subst hb
  have : ¬ (((t0 :: r0) :: rb).all fun b => b.all fun t => decide (t0.length ≤ t.length)) = true := by
    simp only [List.all_eq_true, decide_eq_true_eq]
    intro hall
    have := hall b hbm t htm
    omega
  simp only [formatCodeE]
  rw [if_neg this]

/-- In the successful case the `getD` default of the model is never used: every string that is
concatenated is a real element of its tuple. -/
theorem format_code_no_default (n : Nat) (blocks : List (List (List Str)))
    (h : wideEnough n blocks = true) :
    ∀ b ∈ blocks, ∀ t ∈ b, ∀ i, i < n → ∃ hi : i < t.length, t.getD i [] = t[i] := by
  intro b hb t ht i hi
  simp only [wideEnough, List.all_eq_true, decide_eq_true_eq] at h
  have := h b hb t ht
  exact ⟨by omega, by simp [List.getD_eq_getElem?_getD, List.getElem?_eq_getElem (show i < t.length by omega)]⟩

-- one tuple in file_pre, two integrals, one form, no expression, one tuple in file_post: both files in this order
example : formatCodeE (CodeBlocks.toList ⟨[[cs! "h0", cs! "c0"]], [[cs! "h1", cs! "c1"], [cs! "h2", cs! "c2"]],
    [[cs! "h3", cs! "c3"]], [], [[cs! "h4", cs! "c4"]]⟩) = some [cs! "h0h1h2h3h4", cs! "c0c1c2c3c4"] := by
  decide +kernel

/-- ragged: the form block has a 1-tuple -/
example : formatCodeE (CodeBlocks.toList ⟨[[cs! "h0", cs! "c0"]], [], [[cs! "h3"]], [], [[cs! "h4", cs! "c4"]]⟩) = none := by
  decide +kernel

/-- longer tuples are truncated silently (no error) -/
example : formatCodeE (CodeBlocks.toList ⟨[[cs! "h0"]], [], [[cs! "h3", cs! "c3"]], [], [[cs! "h4"]]⟩) =
    some [cs! "h0h3h4"] := by decide +kernel

theorem collapseAux_ident : ∀ (b : Bool) (l : Str), (∀ c ∈ l, isIdentChar c = true ∨ c = '!') →
    ∀ c ∈ collapseAux b l, isIdentChar c = true
  | _, [], _, c, hc => by simp [collapseAux] at hc
  | b, x :: xs, h, c, hc => by
    have hxs : ∀ c ∈ xs, isIdentChar c = true ∨ c = '!' := fun c hc => h c (List.mem_cons_of_mem _ hc)
    simp only [collapseAux] at hc
    split at hc
    · split at hc
      · exact collapseAux_ident true xs hxs c hc
      · rcases List.mem_cons.mp hc with rfl | hc
        · decide
        · exact collapseAux_ident true xs hxs c hc
    · rename_i hx
      rcases List.mem_cons.mp hc with rfl | hc
      · rcases h c List.mem_cons_self with h' | h'
        · exact h'
        · exact absurd h' hx
      · exact collapseAux_ident false xs hxs c hc

/-- `sanitise_filename` always yields identifier characters only (a valid C identifier fragment
after `form_` / `expression_`). -/
theorem sanitise_ident (name : Str) : (sanitiseFilename name).all isIdentChar = true := by
  simp only [List.all_eq_true]
  intro c hc
  unfold sanitiseFilename collapseBang at hc
  refine collapseAux_ident false _ ?_ c hc
  intro d hd
  obtain ⟨e, _, rfl⟩ := List.mem_map.mp hd
  by_cases he : isIdentChar e = true <;> simp [he]

-- directory and last suffix go, every other character that is not of an identifier becomes `_` …
example : sanitiseFilename (cs! "dir/my-form.v2.ufl") = cs! "my_form_v2" := by decide +kernel
-- … and a run of them one `_`
example : sanitiseFilename (cs! "a!!b--c.ufl") = cs! "a_b_c" := by decide +kernel

/-- Together with C13 `alias_valid`: the alias of a named form is a valid C identifier. -/
theorem cli_alias_valid (file name : Str) (hn : name.all isIdentChar = true) :
    validIdent (aliasName (cs! "form") (sanitiseFilename file) name) = true :=
  alias_valid _ _ _ (by decide) (sanitise_ident file) hn

end Ffcx.Cli
