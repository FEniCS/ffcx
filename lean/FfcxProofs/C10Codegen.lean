/-
C10 — closed forms for the block groups `genBlock_spec` excludes, and their relation to the full / unfactorised
tensor.

* `part = 'diagonal'` groups: the emitted section adds `diagSum` (`genBlock_diagonal_spec`), and `diagSum` of the
  diagonal kernel's group is the diagonal of `blockSum` of the full kernel's group (`diagonal_of_full_filtered`,
  `diagonal_of_full`; both sides as sums over blocks of extended table values: a coincident block contributes its
  diagonal, a dropped block with disjoint block maps nothing).
* tensor-factorised (`sum_factorization=True`) groups: one nest theorem for loop symbols among the `j` and `i`
  families, that is for rank ≤ 2 (`genBlock_tensor_nest`), with the rank-2 and rank-1 instances
  `genBlock_tensor_spec(1)`; `tensorGroupB_sound` (the Boolean check of the driver yields the hypotheses of the rank-2
  theorem); the relation to the unfactorised sum: `tensor_equals_full(1)` if every full table is the tensor product of
  its factor tables (`TPTables`), and the ε-version `tensor_near_full` over `Rat` (tables equal up to `ε`; the
  `Rat.abs` lemmas `rabs_add`, `rabs_mul`, … are in Lemmas/Basics).
* `C10Example`: `genBlock_diagonal_spec`, `diagonal_of_full_filtered`, `genBlock_tensor_spec`, `tensorGroupB_sound`
  and `tensor_near_full` are applied to concrete groups.  For `diagonal_of_full` and `tensor_equals_full` the two sides
  are only compared as numbers (`decide`); `genBlock_tensor_spec1` and `tensor_equals_full1` are not exercised, and
  `TPTables` and `TpBlock1` have no instance in the file.  `diagonal_filter_overlap_counterexample`: the disjointness
  hypothesis of `diagonal_of_full_filtered` is needed.
-/
import FfcxProofs.Lemmas.CodegenDiag
import FfcxProofs.Lemmas.CodegenTensor
import FfcxProofs.C01Spec

namespace Ffcx.Codegen
open Ffcx.LNodes Lean.Grind
attribute [local instance] Lean.Grind.Ring.intCast
variable {R : Type} [Field R] (x : Extra R)

/-- **What a `diagonal` block group adds to `A[k]` at quadrature point `q`**:
    `Σ_i Σ_b [flat(bs_b0·i + off_b0) = k] · fw_b · T_b0[…][q][i] · T_b1[…][q][i]`. -/
def diagSum (g : GroupDesc) (fws : List Expr) (σ : St R) (q : Int) (k : Nat) : R :=
  match g.bmLens with
  | [n0, _] => isum 0 n0 (fun d => diagLeafL x σ g.entityType g.aShape n0 q d k g.blocks fws)
  | _ => 0

theorem diagonalBlock_inv (n0 : Nat) (aShape : List Nat) (b : BlockData) (h : diagonalBlock n0 aShape b = true) :
    ∃ a0 a1, b.args = [a0, a1] ∧ a0.table.factors = none ∧ a1.table.factors = none ∧
      a1.table.ndofs = n0 ∧ coversB [a0] [n0] aShape = true := by
  unfold diagonalBlock at h
  split at h
  · rename_i a0 a1 hargs
    simp only [Bool.and_eq_true, Option.isNone_iff_eq_none, beq_iff_eq] at h
    exact ⟨a0, a1, hargs, h.1.1.1, h.1.1.2, h.1.2, h.2⟩
  · simp at h

theorem diagonalGroup_inv (g : GroupDesc) (h : diagonalGroup g = true) :
    g.diagonal = true ∧ g.rule.factors = none ∧
      ∃ n0 n1, g.bmLens = [n0, n1] ∧ ∀ b ∈ g.blocks, diagonalBlock n0 g.aShape b = true := by
  unfold diagonalGroup at h
  simp only [Bool.and_eq_true, Option.isNone_iff_eq_none] at h
  obtain ⟨⟨hd, hr⟩, hs⟩ := h
  split at hs
  · rename_i n0 n1 hL
    simp only [Bool.and_eq_true, List.all_eq_true] at hs
    exact ⟨hd, hr, n0, n1, hL, hs.2⟩
  · exact absurd hs Bool.false_ne_true

/-- For a `part = 'diagonal'` group (rank-2 blocks with equal block
    dimensions, `A` of rank 1, no sum factorisation: `diagonalGroup`, decidable) the emitted section
    `for i { A[bs·i+off] += fw·T0[…][iq][i]·T1[…][iq][i]; … }` adds
    `Σ_i Σ_b [flat(bs_b0·i + off_b0) = k] · fw_b · T_b0[…][q][i] · T_b1[…][q][i]` to `A[k]`: the diagonal
    of each rank-2 block.  Besides `A`, only integer variables among `dofNames` change. -/
theorem genBlock_diagonal_spec (hlaw : LawfulExtra x) (g : GroupDesc) (st st' : GenState)
    (qp inter : List Stmt) (hgen : genBlockParts g st = .ok (qp, inter, st'))
    (hdg : diagonalGroup g = true) (hnames : namesOk g st = true)
    (σ : St R) (q : Int) (hq : σ.iv.get "iq" = some q)
    (hA : AOk aName (sizeProd g.aShape) σ)
    (htab : ∀ b ∈ g.blocks, ∀ a ∈ b.args, ArgOk σ g.entityType q a)
    (hfw : ∀ fw ∈ fwExprs g st g.blocks, safeE σ fw = true) :
    ∃ σ', execL x qp σ = .ok σ' ∧
      Acc aName (fun n => n ∈ dofNames) (fun _ => False)
        (diagSum x g (fwExprs g st g.blocks) σ q) σ σ' := by
  obtain ⟨outs, last, hgb, hlast, rfl, _⟩ := genBlockParts_inv g st st' qp inter hgen
  obtain ⟨hdiag, hrule, n0, n1, hL, hblk⟩ := diagonalGroup_inv g hdg
  obtain ⟨hnA, hnfw⟩ := namesOk_inv g st hnames
  have hrank : g.bmLens.length = 2 := by rw [hL]; rfl
  obtain ⟨hlenO, hfwmap, _, hinv⟩ := genBlocks_all g (fun b o => ∃ a0 a1, DiagInv g b o a0 a1) g.blocks st st'
    outs hgb fun b hb st0 st1 o e => by
      obtain ⟨a0, a1, hargs, _⟩ := diagonalBlock_inv n0 g.aShape b (hblk b hb)
      exact (genOneBlock_inv_diag g st0 st1 b o e hdiag hrank a0 a1 hargs).imp_left fun h => ⟨a0, a1, h⟩
  have hok : ∀ p ∈ g.blocks.zip outs, ∃ a0 a1, DiagOk g σ q n0 p.1 p.2 a0 a1 := by
    intro p hp
    have hb : p.1 ∈ g.blocks := (List.of_mem_zip hp).1
    have ho : p.2.fw ∈ fwExprs g st g.blocks := hfwmap ▸ List.mem_map_of_mem (List.of_mem_zip hp).2
    obtain ⟨a0, a1, hi⟩ := hinv p hp
    obtain ⟨b0, b1, hargs, f0, f1, hnd, hcov⟩ := diagonalBlock_inv n0 g.aShape p.1 (hblk p.1 hb)
    obtain ⟨rfl, rfl⟩ : a0 = b0 ∧ a1 = b1 := by simpa using hi.args.symm.trans hargs
    have m0 : a0 ∈ p.1.args := hargs ▸ List.mem_cons_self ..
    have m1 : a1 ∈ p.1.args := hargs ▸ List.mem_cons_of_mem _ (List.mem_cons_self ..)
    exact ⟨a0, a1, hi, f0, f1, hnd, hcov, hnA _ hb a0 m0, hnA _ hb a1 m1, (hnfw _ ho).1,
      fun n hn => not_mem_of_mentions (hnfw _ ho).2 hn, htab _ hb a0 m0, htab _ hb a1 m1, hfw _ ho⟩
  -- the loop is that of the last block; `coversB` gives it the trip count `n0` of all blocks
  obtain ⟨bl, hbl⟩ := mem_zip_of_mem_right g.blocks outs last hlenO (List.mem_of_getLast? hlast)
  obtain ⟨a0, a1, hl⟩ := hok _ hbl
  obtain ⟨_, _, hndl⟩ := coversB_lens _ _ _ hl.cov
  simp only [List.map_cons, List.map_nil, List.cons.injEq, and_true] at hndl
  have hls : loopsOf last.bIdx = [("i", n0)] := by
    rw [hl.inv.bIdx, dofIndex_noTF _ _ hl.nf0, hndl]; rfl
  rw [← hfwmap, hls]
  refine Exists.imp (fun σ' h => ⟨h.1, (h.2.mono ?names (fun _ h => h)).congr (fun k => ?sum)⟩)
    (section_boxSum x g.aShape outs [("i", n0)] _ _ _
      (fun vs k => diagLeafL x σ g.entityType g.aShape n0 q (vs.headD 0) k g.blocks (outs.map (·.fw))) σ
      (coversB_pos _ _ _ hl.cov) hA (fun vs (hvs : InBox [n0] vs) => ?leaf))
  case names => intro n (hn : n ∈ ["i"]); rw [List.mem_singleton.mp hn]; decide
  case sum => simp only [diagSum, hL, boxSum, List.headD_cons, List.map_cons, List.map_nil]
  case leaf =>
    obtain ⟨v, _, rfl, _, hnil⟩ := hvs.cons_inv
    obtain rfl := hnil.nil_inv
    exact diag_leaf x hlaw g hrule n0 n1 hL σ (σ.setIV "i" v) q v
      (agree_setIVs σ ["i"] [v] dofNames (by decide))
      (by simp only [St.setIV]; rw [AList.get_set_ne _ _ _ _ (by decide)]; exact hq)
      (by simp [St.setIV]) hvs g.blocks outs hlenO hok

/-- the full kernel's entry `(I, J)` as a sum over blocks of extended table values -/
theorem blockSum_ext (g : GroupDesc) (e0 e1 n0 n1 I J : Nat) (hI : I < e0) (hJ : J < e1)
    (hS : g.aShape = [e0, e1]) (hL : g.bmLens = [n0, n1]) (fws : List Expr)
    (hargs : ∀ b ∈ g.blocks, ∃ a0 a1, b.args = [a0, a1])
    (σ : St R) (q : Int) :
    blockSum x g fws σ q (I * e1 + J) =
      IR.lsum (fun p : BlockData × Expr =>
        eval x σ p.2 * extProd σ g.entityType q p.1.args [n0, n1] [(I : Int), (J : Int)]) (g.blocks.zip fws) := by
  simp only [blockSum, hL, hS, dofSum, blockLeafL_eq_Φ]
  exact blockLeafΦ_ext2 (eval x σ) σ g.entityType e0 e1 n0 n1 I J hI hJ q g.blocks fws hargs

/-- a block whose two block maps are disjoint contributes nothing to a diagonal entry -/
theorem extProd_disjoint (σ : St R) (et : String) (q : Int) (a0 a1 : ArgDesc) (n0 n1 : Nat) (k : Int)
    (hdis : ∀ i j : Int, 0 ≤ i → i < n0 → 0 ≤ j → j < n1 → aCoord a0 n0 i ≠ aCoord a1 n1 j) :
    extProd σ et q [a0, a1] [n0, n1] [k, k] = 0 := by
  simp only [extProd, extVal, Semiring.mul_one]
  refine (isum_prod n0 n1 (fun i => aCoord a0 n0 i = k) (fun j => aCoord a1 n1 j = k) _ _).symm.trans ?_
  refine (isum_congr n1 0 fun j hj0 hj1 => ?_).trans (isum_zero n1 0)
  refine (isum_congr n0 0 fun i hi0 hi1 => ?_).trans (isum_zero n0 0)
  exact if_neg fun hc => hdis i j hi0 (by omega) hj0 (by omega) (hc.1.trans hc.2.symm)

/-- a block with coincident injective block maps contributes its diagonal `Σ_d [c d = k] T0(d)·T1(d)` -/
theorem extProd_coincident (σ : St R) (et : String) (q : Int) (a0 a1 : ArgDesc) (n : Nat) (k : Int)
    (hcc : ∀ d, aCoord a1 n d = aCoord a0 n d) (hinj : ∀ i j, aCoord a0 n i = aCoord a0 n j → i = j) :
    extProd σ et q [a0, a1] [n, n] [k, k] =
      isum 0 n (fun d => if aCoord a0 n d = k then argVal σ et q a0 d * argVal σ et q a1 d else 0) := by
  simp only [extProd, extVal, hcc, Semiring.mul_one]
  exact (isum_prod n n (fun i => aCoord a0 n i = k) (fun j => aCoord a0 n j = k) _ _).symm.trans
    (isum_diag_collapse n (aCoord a0 n) hinj k (fun i j => argVal σ et q a0 i * argVal σ et q a1 j))

/-- the diagonal kernel's entry `k` as a sum over its blocks -/
theorem diagSum_ext (et : String) (e0 n : Nat) (k : Nat) (hk : k < e0) (σ : St R) (q : Int)
    (bs : List BlockData) (fws : List Expr) :
    isum 0 n (fun d => diagLeafL x σ et [e0] n q d k bs fws) =
      IR.lsum (fun p : BlockData × Expr => match p.1.args with
        | [a0, a1] => eval x σ p.2 * isum 0 n (fun d =>
            if aCoord a0 n d = (k : Int) then argVal σ et q a0 d * argVal σ et q a1 d else 0)
        | _ => 0) (bs.zip fws) := by
  simp only [diagLeafL_eq_lsum]
  rw [isum_lsum]
  refine IR.lsum_congr _ _ _ fun p _ => ?_
  rcases p.1.args with _ | ⟨a0, _ | ⟨a1, _ | ⟨a2, r⟩⟩⟩
  · exact isum_zero n 0
  · exact isum_zero n 0
  · simp only []
    rw [← isum_mul_left]
    refine isum_congr n 0 fun d _ _ => ?_
    simp only [flatIdx_one_iff e0 k hk]
    split
    · rfl
    · exact (Semiring.mul_zero _).symm
  · exact isum_zero n 0

theorem coincidentBlock_inv (b : BlockData) (h : coincidentBlock b = true) :
    ∃ a0 a1, b.args = [a0, a1] ∧ ∀ n d, aCoord a1 n d = aCoord a0 n d := by
  unfold coincidentBlock at h
  split at h
  · rename_i a0 a1 hargs
    simp only [Bool.and_eq_true, beq_iff_eq] at h
    exact ⟨a0, a1, hargs, fun n d => by simp only [aCoord, h.1.1, h.1.2]⟩
  · exact absurd h (by decide)

/-- what `diagonal_of_full_filtered` and `diagonal_of_full` are instances of -/
theorem diagSum_eq_blockSum_diag (gF gD : GroupDesc) (n e0 : Nat)
    (het : gD.entityType = gF.entityType)
    (hLF : gF.bmLens = [n, n]) (hLD : gD.bmLens = [n, n])
    (hSF : gF.aShape = [e0, e0]) (hSD : gD.aShape = [e0])
    (fwsF fwsD : List Expr)
    (hD : gD.blocks.zip fwsD = (gF.blocks.zip fwsF).filter (fun p => coincidentBlock p.1))
    (hargs : ∀ b ∈ gF.blocks, ∃ a0 a1, b.args = [a0, a1])
    (hinj : injectiveBlocks gF = true)
    (hdis : ∀ b ∈ gF.blocks, coincidentBlock b = false → disjointMapsB n n b = true)
    (σ : St R) (q : Int) (k : Nat) (hk : k < e0) :
    diagSum x gD fwsD σ q k = blockSum x gF fwsF σ q (k * e0 + k) := by
  rw [blockSum_ext x gF e0 e0 n n k k hk hk hSF hLF fwsF hargs σ q]
  simp only [diagSum, hLD, hSD]
  rw [diagSum_ext x gD.entityType e0 n k hk σ q gD.blocks fwsD, hD, het, IR.lsum_filter]
  simp only [injectiveBlocks, List.all_eq_true, decide_eq_true_eq] at hinj
  -- block by block: a coincident block contributes its diagonal, a dropped one nothing
  apply IR.lsum_congr
  intro p hp
  have hb : p.1 ∈ gF.blocks := (List.of_mem_zip hp).1
  cases hpc : coincidentBlock p.1 with
  | true =>
    obtain ⟨a0, a1, ha, hcc⟩ := coincidentBlock_inv p.1 hpc
    have hb0 : 1 ≤ a0.table.blockSize := hinj p.1 hb a0 (by simp [ha])
    simp only [ha, if_true]
    rw [extProd_coincident σ gF.entityType q a0 a1 n k (hcc n) (aCoord_inj a0 n hb0)]
  | false =>
    obtain ⟨a0, a1, ha⟩ := hargs p.1 hb
    have hd := hdis p.1 hb hpc
    simp only [disjointMapsB, ha, List.all_eq_true, List.mem_range, bne_iff_ne, ne_eq] at hd
    rw [ha, extProd_disjoint σ gF.entityType q a0 a1 n n k ?_]
    · simp only [Bool.false_eq_true, if_false]
      exact (Semiring.mul_zero _).symm
    · intro i j hi0 hi1 hj0 hj1
      have := hd i.toNat (by omega) j.toNat (by omega)
      simp only [Int.toNat_of_nonneg hi0, Int.toNat_of_nonneg hj0] at this
      simpa [aCoord] using this

/-- The general statement behind `part = 'diagonal'` (mixed / blocked
    spaces): let `gF` be a rank-2 group of the full kernel (`A` of shape `e0 × e0`, blocks `n × n`) with
    injective block maps, `fwsF` its `fw` expressions.  The diagonal kernel keeps exactly the blocks with
    `blockmap[0] == blockmap[1]` (`coincidentBlock`).  If every dropped block has DISJOINT block maps
    (`disjointMapsB`, decidable), then the diagonal entry `(k, k)` of what the full kernel adds equals what
    the diagonal kernel's group — the coincident blocks with their `fw` expressions — adds to `A[k]`. -/
theorem diagonal_of_full_filtered (gF gD : GroupDesc) (n e0 : Nat)
    (het : gD.entityType = gF.entityType)
    (hLF : gF.bmLens = [n, n]) (hLD : gD.bmLens = [n, n])
    (hSF : gF.aShape = [e0, e0]) (hSD : gD.aShape = [e0])
    (fwsF fwsD : List Expr) (hl : gF.blocks.length = fwsF.length)
    (hD : gD.blocks.zip fwsD = (gF.blocks.zip fwsF).filter (fun p => coincidentBlock p.1))
    (hargs : ∀ b ∈ gF.blocks, ∃ a0 a1, b.args = [a0, a1])
    (hinj : injectiveBlocks gF = true)
    (hdis : ∀ b ∈ gF.blocks, coincidentBlock b = false → disjointMapsB n n b = true)
    (σ : St R) (q : Int) (k : Nat) (hk : k < e0) :
    diagSum x gD fwsD σ q k = blockSum x gF fwsF σ q (k * e0 + k) :=
  diagSum_eq_blockSum_diag x gF gD n e0 het hLF hLD hSF hSD fwsF fwsD hD hargs hinj hdis σ q k hk

/-- Let `gF` (full tensor, `A` of shape `e0 × e0`) and `gD` (`part = 'diagonal'`,
    `A` of shape `e0`) describe the same rank-2 block group (same blocks, same `n × n` block dimensions,
    same entity type), whose two block maps coincide (`blockmap[0] == blockmap[1]`: the guard
    `generate_dofblock_partition` applies) and are injective (`block_size ≥ 1`).  Then what the diagonal
    kernel adds to `A[k]` (`genBlock_diagonal_spec`) is what the full kernel adds to `A[k][k]`
    (`genBlock_spec`), for every `k < e0`. -/
theorem diagonal_of_full (gF gD : GroupDesc) (n e0 : Nat)
    (hblocks : gD.blocks = gF.blocks) (het : gD.entityType = gF.entityType)
    (hLF : gF.bmLens = [n, n]) (hLD : gD.bmLens = [n, n])
    (hSF : gF.aShape = [e0, e0]) (hSD : gD.aShape = [e0])
    (hco : coincidentMaps gF = true) (hinj : injectiveBlocks gF = true)
    (fws : List Expr) (σ : St R) (q : Int) (k : Nat) (hk : k < e0) :
    diagSum x gD fws σ q k = blockSum x gF fws σ q (k * e0 + k) := by
  -- every block is coincident: nothing is filtered out
  have hall : ∀ b ∈ gF.blocks, coincidentBlock b = true := List.all_eq_true.mp hco
  refine diagSum_eq_blockSum_diag x gF gD n e0 het hLF hLD hSF hSD fws fws ?_
    (fun b hb => by obtain ⟨a0, a1, h, _⟩ := coincidentBlock_inv b (hall b hb); exact ⟨a0, a1, h⟩) hinj
    (fun b hb h => absurd (hall b hb) (by simp [h])) σ q k hk
  rw [hblocks]
  exact (List.filter_eq_self.mpr (fun p hp => hall p.1 (List.of_mem_zip hp).1)).symm

/-- the names of the generated tensor-factor loops are usable: pairwise distinct, distinct from the
    quadrature index symbols, none is `A` (closed, decidable statements once `D` is a numeral) -/
structure FamNamesOk (D : Nat) : Prop where
  nodup : (famSyms "j" D ++ famSyms "i" D).Nodup
  iq : ∀ s ∈ famSyms "iq" D, s ∉ famSyms "j" D ++ famSyms "i" D
  aiq : aName ∉ famSyms "iq" D
  afam : ∀ nm ∈ dofNames, aName ∉ famSyms nm D

/-- **The nest of a tensor-factorised group.** With loop symbols `names` among the `j` and `i` families (`hsub`:
    so rank ≤ 2, `FamNamesOk` knows no third family), trip counts `sizes`, and `dv` splitting the loop values
    into the per-argument index value lists, the emitted section adds `Σ_vs tpLeafL … (dv vs)` to `A`. -/
theorem genBlock_tensor_nest (hlaw : LawfulExtra x) (g : GroupDesc) (st st' : GenState)
    (qp inter : List Stmt) (hgen : genBlockParts g st = .ok (qp, inter, st'))
    (D : Nat) (hD : 2 ≤ D) (hfam : FamNamesOk D) (ms : List Nat)
    (hdiag : g.diagonal = false) (hrule : g.rule.factors = some ms) (hms : ms.length = D)
    (hblk : ∀ b ∈ g.blocks, TpBlock g D b)
    (names : List String) (sizes : List Nat) (dv : List Int → List (List Int))
    (hloops : ∀ b ∈ g.blocks, (loopsOf (bIndices b.args dofNames)).map (·.1) = names ∧
      (loopsOf (bIndices b.args dofNames)).map (·.2) = sizes)
    (hnd : names.Nodup) (hsub : ∀ n ∈ names, n ∈ famSyms "j" D ++ famSyms "i" D)
    (hpos : ∀ d ∈ sizes, 1 ≤ d)
    (hdv : ∀ (τ : St R) vs, InBox sizes vs → BoundAll τ names vs →
      BoundFam τ D dofNames (dv vs) ∧ ∀ b ∈ g.blocks, (dv vs).length = b.args.length ∧ InBoxes b.args (dv vs))
    (hfwn : ∀ fw ∈ fwExprs g st g.blocks, mentionsE aName fw = false ∧
      ∀ n, mentionsE n fw = true → n ∉ allFamSyms D)
    (σ : St R) (qvs : List Int) (hq : BoundAll σ (famSyms "iq" D) qvs)
    (hA : AOk aName (sizeProd g.aShape) σ)
    (htab : ∀ b ∈ g.blocks, ∀ a ∈ b.args, TpArgOk σ g.entityType qvs a)
    (hfw : ∀ fw ∈ fwExprs g st g.blocks, safeE σ fw = true) :
    ∃ σ', execL x qp σ = .ok σ' ∧
      Acc aName (fun n => n ∈ names) (fun _ => False) (fun k => boxSum sizes (fun vs =>
        tpLeafL x σ g.entityType g.aShape g.bmLens qvs (dv vs) k g.blocks (fwExprs g st g.blocks))) σ σ' := by
  obtain ⟨outs, last, hgb, hlast, rfl, _⟩ := genBlockParts_inv g st st' qp inter hgen
  obtain ⟨hlenO, hfwmap, _, hpairs⟩ := genBlocks_all g (BlockInv g) g.blocks st st' outs hgb
    fun b hb st0 st1 o e => genOneBlock_inv g st0 st1 b o e hdiag (coversB_lens _ _ _ (hblk b hb).cov).1.symm
  have hok : ∀ p ∈ g.blocks.zip outs, TpOk g D σ qvs p.1 p.2 := by
    intro p hp
    have hb : p.1 ∈ g.blocks := (List.of_mem_zip hp).1
    have ho : p.2.fw ∈ fwExprs g st g.blocks := by
      rw [← hfwmap]; exact List.mem_map_of_mem (List.of_mem_zip hp).2
    exact ⟨hblk _ hb, hpairs p hp, (hfwn _ ho).1, (hfwn _ ho).2, htab p.1 hb, hfw _ ho⟩
  obtain ⟨bl, hbl⟩ := mem_zip_of_mem_right g.blocks outs last hlenO (List.mem_of_getLast? hlast)
  obtain ⟨hnames, hsizes⟩ := hloops bl (List.of_mem_zip hbl).1
  rw [← (hpairs _ hbl).1] at hnames hsizes
  have hsubL : ∀ n ∈ names, n ∈ allFamSyms D := by
    intro n hn
    simp only [allFamSyms, dofNames, List.map_cons, List.map_nil, List.flatten_cons, List.flatten_nil,
      List.mem_append]
    rcases List.mem_append.mp (hsub n hn) with h | h
    · exact Or.inr (Or.inl h)
    · exact Or.inl h
  rw [← hfwmap]
  subst hnames hsizes
  refine section_boxSum x g.aShape outs (loopsOf last.bIdx) _ _ _
    (fun vs k => tpLeafL x σ g.entityType g.aShape g.bmLens qvs (dv vs) k g.blocks (outs.map (·.fw))) σ
    hpos hA (fun vs hvs => ?_)
  have hb := setIVs_bound _ vs σ hnd (by rw [hvs.length, List.length_map, List.length_map])
  obtain ⟨hbf, hblk⟩ := hdv _ vs hvs hb
  exact tp_leaf x hlaw g D hD ms hrule hms hfam.aiq hfam.afam σ _ qvs (dv vs)
    (agree_setIVs σ _ vs (allFamSyms D) hsubL)
    (boundAll_of_notin σ _ vs _ qvs hq (fun s hs h => hfam.iq s hs (hsub s h)))
    hbf g.blocks outs hlenO hok hblk

theorem famNamesOk_2 : FamNamesOk 2 := ⟨by decide +kernel, by decide +kernel, by decide +kernel, by decide +kernel⟩
theorem famNamesOk_3 : FamNamesOk 3 := ⟨by decide +kernel, by decide +kernel, by decide +kernel, by decide +kernel⟩

/-- the per-argument index value lists of a rank-2 tensor-factorised block from the loop values
    `vs = (j_0…j_{D-1}, i_0…i_{D-1})` (loop order): argument order `[i-values, j-values]` -/
def dvss2 (D : Nat) (vs : List Int) : List (List Int) := [vs.drop D, vs.take D]

/-- **What a rank-2 tensor-factorised block group adds to `A[k]`** at the quadrature point
    `(q_0, …, q_{D-1})`:
    `Σ_{j_0}…Σ_{j_{D-1}} Σ_{i_0}…Σ_{i_{D-1}} Σ_b [flat(bs·(Σ s_d i_d)+off, bs·(Σ s_d j_d)+off) = k] · fw_b ·
      Π_d TF_{b0,d}[…][q_d][i_d] · Π_d TF_{b1,d}[…][q_d][j_d]`. -/
def tensorSum2 (g : GroupDesc) (D : Nat) (dims0 dims1 : List Nat) (fws : List Expr) (σ : St R)
    (qvs : List Int) (k : Nat) : R :=
  boxSum (dims1 ++ dims0) (fun vs =>
    tpLeafL x σ g.entityType g.aShape g.bmLens qvs (dvss2 D vs) k g.blocks fws)

/-- one block of a rank-2 tensor-factorised group; the factor dimensions `dims0`, `dims1` are those of every block
    of the group (the nest is built from the last block only, cf. `coversB`) -/
structure TpBlock2 (g : GroupDesc) (D : Nat) (dims0 dims1 : List Nat) (b : BlockData) : Prop where
  ex : ∃ a0 a1, b.args = [a0, a1] ∧ a0.fs.map (·.2) = dims0 ∧ a1.fs.map (·.2) = dims1
  tf : AllTF D b.args
  dims : TPDims b.args
  cov : coversB b.args g.bmLens g.aShape = true
  names : ∀ a ∈ b.args, ∀ f' ∈ a.fs, f'.1 ≠ aName

theorem TpBlock2.blk {g : GroupDesc} {D : Nat} {dims0 dims1 : List Nat} {b : BlockData}
    (h : TpBlock2 g D dims0 dims1 b) : TpBlock g D b := ⟨h.tf, h.dims, h.cov, h.names⟩

/-- Rank 2. For a full-tensor block group generated with sum factorisation
    (rule with `D ≥ 2` tensor factors, every argument table with `D` factor tables `FE_TF…` of
    dimensions `dims0` / `dims1`, `ndofs = Π dims`), the emitted section — the nest
    `for j0 … for j_{D-1} for i0 … for i_{D-1}` around
    `A[bs·(Σ s_d i_d)+off][bs·(Σ s_d j_d)+off] += fw · Π_d TF[…][iq_d][i_d] · Π_d TF[…][iq_d][j_d]` — adds
    `tensorSum2` to `A`; only the loop indices are overwritten besides. -/
theorem genBlock_tensor_spec (hlaw : LawfulExtra x) (g : GroupDesc) (st st' : GenState)
    (qp inter : List Stmt) (hgen : genBlockParts g st = .ok (qp, inter, st'))
    (D : Nat) (hD : 2 ≤ D) (hfam : FamNamesOk D) (ms : List Nat)
    (hdiag : g.diagonal = false) (hrule : g.rule.factors = some ms) (hms : ms.length = D)
    (dims0 dims1 : List Nat)
    (hblk : ∀ b ∈ g.blocks, TpBlock2 g D dims0 dims1 b) (hpos : ∀ d ∈ dims1 ++ dims0, 1 ≤ d)
    (hfwn : ∀ fw ∈ fwExprs g st g.blocks, mentionsE aName fw = false ∧
      ∀ n, mentionsE n fw = true → n ∉ allFamSyms D)
    (σ : St R) (qvs : List Int) (hq : BoundAll σ (famSyms "iq" D) qvs)
    (hA : AOk aName (sizeProd g.aShape) σ)
    (htab : ∀ b ∈ g.blocks, ∀ a ∈ b.args, TpArgOk σ g.entityType qvs a)
    (hfw : ∀ fw ∈ fwExprs g st g.blocks, safeE σ fw = true) :
    ∃ σ', execL x qp σ = .ok σ' ∧
      Acc aName (fun n => n ∈ famSyms "j" D ++ famSyms "i" D) (fun _ => False)
        (tensorSum2 x g D dims0 dims1 (fwExprs g st g.blocks) σ qvs) σ σ' := by
  refine genBlock_tensor_nest x hlaw g st st' qp inter hgen D hD hfam ms hdiag hrule hms
    (fun b hb => (hblk b hb).blk) _ (dims1 ++ dims0) (dvss2 D) (fun b hb => ?_) hfam.nodup
    (fun _ h => h) hpos (fun τ vs hvs hb => ?_) hfwn σ qvs hq hA htab hfw
  · obtain ⟨a0, a1, hargs, rfl, rfl⟩ := (hblk b hb).ex
    have htf := (hblk b hb).tf
    rw [hargs] at htf ⊢
    obtain ⟨i1, i2⟩ := loops_TF htf a0 (List.mem_cons_self ..) "i"
    obtain ⟨j1, j2⟩ := loops_TF htf a1 (List.mem_cons_of_mem _ (List.mem_cons_self ..)) "j"
    simp only [loopsOf, bIndices, dofNames, List.reverse_cons, List.reverse_nil, List.nil_append,
      List.cons_append, List.map_cons, List.map_nil, List.flatten_cons, List.flatten_nil, List.append_nil,
      List.map_append, i1, i2, j1, j2, and_self]
  · have hj := famSyms_length "j" D
    obtain ⟨bj, bi⟩ := BoundAll.split _ _ vs hb
    rw [hj] at bj bi
    refine ⟨⟨bi, bj, trivial⟩, fun b hb' => ?_⟩
    obtain ⟨a0, a1, hargs, rfl, rfl⟩ := (hblk b hb').ex
    obtain ⟨ij, ii⟩ := InBox.split _ _ vs hvs
    rw [(hblk b hb').tf.dims_length a1 (by simp [hargs])] at ij ii
    rw [hargs]
    exact ⟨rfl, ii, ij, trivial⟩

/-- **What a rank-1 tensor-factorised block group adds to `A[k]`** at the quadrature point `(q_0, …, q_{D-1})`:
    `Σ_{i_0}…Σ_{i_{D-1}} Σ_b [flat(bs·(Σ s_d i_d)+off) = k] · fw_b · Π_d TF_{b0,d}[…][q_d][i_d]`. -/
def tensorSum1 (g : GroupDesc) (dims0 : List Nat) (fws : List Expr) (σ : St R) (qvs : List Int) (k : Nat) : R :=
  boxSum dims0 (fun vs => tpLeafL x σ g.entityType g.aShape g.bmLens qvs [vs] k g.blocks fws)

structure TpBlock1 (g : GroupDesc) (D : Nat) (dims0 : List Nat) (b : BlockData) : Prop where
  ex : ∃ a0, b.args = [a0] ∧ a0.fs.map (·.2) = dims0
  tf : AllTF D b.args
  dims : TPDims b.args
  cov : coversB b.args g.bmLens g.aShape = true
  names : ∀ a ∈ b.args, ∀ f' ∈ a.fs, f'.1 ≠ aName

theorem TpBlock1.blk {g : GroupDesc} {D : Nat} {dims0 : List Nat} {b : BlockData}
    (h : TpBlock1 g D dims0 b) : TpBlock g D b := ⟨h.tf, h.dims, h.cov, h.names⟩

/-- Rank 1: the nest `for i0 … for i_{D-1}` around
    `A[bs·(Σ s_d i_d)+off] += fw · Π_d TF[…][iq_d][i_d]` adds `tensorSum1`. -/
theorem genBlock_tensor_spec1 (hlaw : LawfulExtra x) (g : GroupDesc) (st st' : GenState)
    (qp inter : List Stmt) (hgen : genBlockParts g st = .ok (qp, inter, st'))
    (D : Nat) (hD : 2 ≤ D) (hfam : FamNamesOk D) (ms : List Nat)
    (hdiag : g.diagonal = false) (hrule : g.rule.factors = some ms) (hms : ms.length = D)
    (dims0 : List Nat)
    (hblk : ∀ b ∈ g.blocks, TpBlock1 g D dims0 b) (hpos : ∀ d ∈ dims0, 1 ≤ d)
    (hfwn : ∀ fw ∈ fwExprs g st g.blocks, mentionsE aName fw = false ∧
      ∀ n, mentionsE n fw = true → n ∉ allFamSyms D)
    (σ : St R) (qvs : List Int) (hq : BoundAll σ (famSyms "iq" D) qvs)
    (hA : AOk aName (sizeProd g.aShape) σ)
    (htab : ∀ b ∈ g.blocks, ∀ a ∈ b.args, TpArgOk σ g.entityType qvs a)
    (hfw : ∀ fw ∈ fwExprs g st g.blocks, safeE σ fw = true) :
    ∃ σ', execL x qp σ = .ok σ' ∧
      Acc aName (fun n => n ∈ famSyms "i" D) (fun _ => False)
        (tensorSum1 x g dims0 (fwExprs g st g.blocks) σ qvs) σ σ' := by
  refine genBlock_tensor_nest x hlaw g st st' qp inter hgen D hD hfam ms hdiag hrule hms
    (fun b hb => (hblk b hb).blk) _ dims0 (fun vs => [vs]) (fun b hb => ?_)
    (List.nodup_append.mp hfam.nodup).2.1 (fun _ h => List.mem_append_right _ h) hpos
    (fun τ vs hvs hb => ⟨⟨hb, trivial⟩, fun b hb' => ?_⟩) hfwn σ qvs hq hA htab hfw
  · obtain ⟨a0, hargs, rfl⟩ := (hblk b hb).ex
    have htf := (hblk b hb).tf
    rw [hargs] at htf ⊢
    obtain ⟨i1, i2⟩ := loops_TF htf a0 (List.mem_cons_self ..) "i"
    simp only [loopsOf, bIndices, dofNames, List.reverse_cons, List.reverse_nil, List.nil_append,
      List.map_cons, List.map_nil, List.flatten_cons, List.flatten_nil, List.append_nil, i1, i2, and_self]
  · obtain ⟨a0, hargs, rfl⟩ := (hblk b hb').ex
    rw [hargs]
    exact ⟨rfl, hvs, trivial⟩

theorem famSymsB_eq (nm : String) (D : Nat) : famSymsB nm D = famSyms nm D := rfl

/-- The conjunct of `tensorGroupB` about one block.  It has to stay textually the `fun b => …` inside
    `tensorGroupB` (Codegen/Spec.lean): `tensorGroupB_sound` applies `tensorBlock_sound` to that conjunct as it
    stands (`List.all_eq_true.mp hblk b hb`), by definitional unfolding alone; likewise `tfDims a` there is
    `a.fs.map (·.2)` here. -/
def tensorBlockB (g : GroupDesc) (D : Nat) (dims : List (List Nat)) (b : BlockData) : Bool :=
  b.args.map tfDims == dims &&
  b.args.all (fun a => (match a.table.factors with | some fs => fs.length == D | none => false) &&
    a.table.ndofs == (tfDims a).foldr (· * ·) 1 &&
    (a.table.factors.getD []).all (fun f => f.1 != aName)) &&
  coversB b.args g.bmLens g.aShape

theorem tensorBlock_sound (g : GroupDesc) (D : Nat) (dims : List (List Nat)) (b : BlockData)
    (h : tensorBlockB g D dims b = true) :
    b.args.map (fun a => a.fs.map (·.2)) = dims ∧ TpBlock g D b := by
  simp only [tensorBlockB, Bool.and_eq_true, List.all_eq_true, beq_iff_eq, bne_iff_ne] at h
  obtain ⟨⟨hdims, hargs⟩, hcov⟩ := h
  refine ⟨hdims, fun a ha => ?_, fun a ha => (hargs a ha).1.2, hcov, fun a ha => (hargs a ha).2⟩
  have hD := (hargs a ha).1.1
  cases hf : a.table.factors with
  | none => simp [hf] at hD
  | some fs => exact ⟨fs, rfl, by simpa [hf] using hD⟩

/-- Rank 2: `tensorGroupB g st = true` — evaluated by `driver_codegen` on every
    real sum-factorised group — yields every structural hypothesis of `genBlock_tensor_spec`. -/
theorem tensorGroupB_sound (g : GroupDesc) (st : GenState) (h : tensorGroupB g st = true)
    (hr : g.bmLens.length = 2) :
    ∃ (ms : List Nat) (D : Nat) (dims0 dims1 : List Nat),
      g.diagonal = false ∧ g.rule.factors = some ms ∧ ms.length = D ∧ 2 ≤ D ∧ FamNamesOk D ∧
      (∀ b ∈ g.blocks, TpBlock2 g D dims0 dims1 b) ∧ (∀ d ∈ dims1 ++ dims0, 1 ≤ d) ∧
      (∀ fw ∈ fwExprs g st g.blocks, mentionsE aName fw = false ∧
        ∀ n, mentionsE n fw = true → n ∉ allFamSyms D) := by
  unfold tensorGroupB at h
  split at h
  case h_2 => simp at h
  rename_i ms b0 _ hms hbl
  simp only [Bool.and_eq_true, Bool.not_eq_true', famSymsB_eq] at h
  obtain ⟨hdiag, ⟨⟨⟨⟨⟨⟨⟨hD, _⟩, hpos⟩, hblk⟩, hnd⟩, hiq⟩, haiq⟩, hafam⟩, hfw⟩ := h
  have hB : ∀ b ∈ g.blocks, b.args.map (fun a => a.fs.map (·.2)) = b0.args.map tfDims ∧
      TpBlock g ms.length b :=
    fun b hb => tensorBlock_sound g _ _ b (List.all_eq_true.mp hblk b hb)
  have hpair : ∀ b ∈ g.blocks, ∃ c0 c1, b.args = [c0, c1] := fun b hb =>
    ⟨_, _, List.eq_getElem_of_length_eq_two b.args (((coversB_lens _ _ _ (hB b hb).2.cov).1.symm).trans hr)⟩
  -- the dimensions are those of the first block
  obtain ⟨a0, a1, ha0⟩ := hpair b0 (hbl ▸ List.mem_cons_self ..)
  rw [ha0] at hB hpos
  refine ⟨ms, ms.length, a0.fs.map (·.2), a1.fs.map (·.2), hdiag, hms, rfl, of_decide_eq_true hD,
    ⟨of_decide_eq_true hnd, fun s hs hin => ?_, fun hin => ?_, fun nm hnm hin => ?_⟩,
    fun b hb => ?_, fun d hd => ?_, fun fw hfwm => ?_⟩
  · simpa [hin] using List.all_eq_true.mp hiq s hs
  · simp [hin] at haiq
  · have : aName ∈ allFamSyms ms.length :=
      List.mem_flatten.mpr ⟨_, List.mem_map.mpr ⟨nm, hnm, rfl⟩, hin⟩
    exact Bool.false_ne_true (hafam.symm.trans (List.contains_iff_mem.mpr this))
  · obtain ⟨c0, c1, hab⟩ := hpair b hb
    obtain ⟨e1, e2⟩ := hB b hb
    rw [hab] at e1
    simp only [List.map_cons, List.map_nil, List.cons.injEq, and_true] at e1
    exact ⟨⟨c0, c1, hab, e1.1, e1.2⟩, e2.tf, e2.dims, e2.cov, e2.names⟩
  · refine of_decide_eq_true (List.all_eq_true.mp hpos d ?_)
    simp only [List.map_cons, List.map_nil, List.flatten_cons, List.flatten_nil, List.append_nil,
      List.mem_append] at hd ⊢
    exact hd.symm
  · have := List.all_eq_true.mp hfw fw hfwm
    simp only [Bool.and_eq_true, Bool.not_eq_true', List.all_eq_true] at this
    exact ⟨this.1, fun n hn => not_mem_of_mentions this.2 hn⟩

/-- **Each full table is the tensor product of its factor tables** under the row-major index
    bijections the generator uses: `T[perm][ent][Σ s_d q_d][Σ s_d i_d] = Π_d TF_d[perm][ent][q_d][i_d]`.
    A hypothesis on the table contents (the harness checks it numerically on every real
    sum-factorised group: `tensor_table_error` in `harness/codegen_checks.py`). -/
def TPTables (σ : St R) (et : String) (ms : List Nat) (args : List ArgDesc) : Prop :=
  ∀ a ∈ args, ∀ qvs dvs, InBox ms qvs → InBox (a.fs.map (·.2)) dvs →
    argVal σ et (dotStrides (strides ms) qvs) a (dotStrides (strides (a.fs.map (·.2))) dvs) =
      tpArgVal σ et qvs a dvs

theorem tpArgVals_eq (σ : St R) (et : String) (ms : List Nat) (qvs : List Int) (hq : InBox ms qvs) :
    ∀ (args : List ArgDesc) (dvss : List (List Int)), TPTables σ et ms args → InBoxes args dvss →
      tpArgVals σ et qvs args dvss = argVals σ et (dotStrides (strides ms) qvs) args (flatVals args dvss)
  | [], _, _, _ => rfl
  | _ :: _, [], _, _ => rfl
  | a :: as, dvs :: dvss, htp, hin =>
    congr (congrArg _ (htp a (List.mem_cons_self ..) qvs dvs hq hin.1).symm)
      (tpArgVals_eq σ et ms qvs hq as dvss (fun b hb => htp b (List.mem_cons_of_mem _ hb)) hin.2)

/-- the blocks of a group at one index tuple: with `TPTables`, the tensor-factorised closed form at the
    factor indices `dvss` is the unfactorised one at the flat indices `ds` -/
theorem tpLeaf_eq_blockLeaf (σ : St R) (et : String) (aShape lens ms : List Nat) (qvs : List Int)
    (dvss : List (List Int)) (ds : List Int) (k : Nat) (hq : InBox ms qvs)
    (bs : List BlockData) (fws : List Expr)
    (hsh : ∀ b ∈ bs, InBoxes b.args dvss ∧ flatVals b.args dvss = ds)
    (htp : ∀ b ∈ bs, TPTables σ et ms b.args) :
    tpLeafL x σ et aShape lens qvs dvss k bs fws =
      blockLeafL x σ et aShape lens (dotStrides (strides ms) qvs) ds k bs fws := by
  rw [tpLeafL_eq_lsum, blockLeafL_eq_lsum]
  refine IR.lsum_congr _ _ _ fun p hp => ?_
  have hb := (List.of_mem_zip hp).1
  rw [aCoordsTP_eq, tpArgVals_eq σ et ms qvs hq p.1.args dvss (htp _ hb) (hsh _ hb).1, (hsh _ hb).2]

theorem dvss2_append (D : Nat) (vj vi : List Int) (h : vj.length = D) : dvss2 D (vj ++ vi) = [vi, vj] := by
  subst h
  simp [dvss2]

/-- If every full argument table is the tensor product of its factor tables
    (`TPTables`), what the sum-factorised nest adds (`genBlock_tensor_spec`) is what the unfactorised
    nest adds (`genBlock_spec`: `blockSum`, loops over the flat dof indices) at the flat quadrature
    point `q = Σ s_d q_d` — for every entry `k` of `A`. -/
theorem tensor_equals_full (g : GroupDesc) (D : Nat) (ms dims0 dims1 : List Nat)
    (hL : g.bmLens = [sizeProd dims0, sizeProd dims1]) (hd1 : dims1.length = D)
    (hsh : ∀ b ∈ g.blocks, ∃ a0 a1, b.args = [a0, a1] ∧ a0.fs.map (·.2) = dims0 ∧ a1.fs.map (·.2) = dims1)
    (fws : List Expr) (σ : St R) (qvs : List Int) (hq : InBox ms qvs)
    (htp : ∀ b ∈ g.blocks, TPTables σ g.entityType ms b.args) (k : Nat) :
    tensorSum2 x g D dims0 dims1 fws σ qvs k =
      blockSum x g fws σ (dotStrides (strides ms) qvs) k := by
  simp only [tensorSum2, blockSum, hL, dofSum]
  rw [boxSum_append, ← boxSum_flatten dims1]
  refine boxSum_congr _ _ _ (fun vj hj => ?_)
  rw [← boxSum_flatten dims0]
  refine boxSum_congr _ _ _ (fun vi hi => ?_)
  rw [dvss2_append D vj vi (hj.length.trans hd1)]
  refine tpLeaf_eq_blockLeaf x σ g.entityType g.aShape _ ms qvs _ _ k hq g.blocks fws (fun b hb => ?_) htp
  obtain ⟨a0, a1, hargs, rfl, rfl⟩ := hsh b hb
  rw [hargs]
  exact ⟨⟨hi, hj, trivial⟩, rfl⟩

theorem tensor_equals_full1 (g : GroupDesc) (ms dims0 : List Nat) (hL : g.bmLens = [sizeProd dims0])
    (hsh : ∀ b ∈ g.blocks, ∃ a0, b.args = [a0] ∧ a0.fs.map (·.2) = dims0)
    (fws : List Expr) (σ : St R) (qvs : List Int) (hq : InBox ms qvs)
    (htp : ∀ b ∈ g.blocks, TPTables σ g.entityType ms b.args) (k : Nat) :
    tensorSum1 x g dims0 fws σ qvs k = blockSum x g fws σ (dotStrides (strides ms) qvs) k := by
  simp only [tensorSum1, blockSum, hL, dofSum]
  rw [← boxSum_flatten dims0]
  refine boxSum_congr _ _ _ (fun vi hi => ?_)
  refine tpLeaf_eq_blockLeaf x σ g.entityType g.aShape _ ms qvs _ _ k hq g.blocks fws (fun b hb => ?_) htp
  obtain ⟨a0, hargs, rfl⟩ := hsh b hb
  rw [hargs]
  exact ⟨⟨hi, trivial⟩, rfl⟩

/-- `n` as a rational (avoids casts) -/
def cnt : Nat → Rat
  | 0 => 0
  | n + 1 => cnt n + 1

def boxCount : List Nat → Rat
  | [] => 1
  | n :: ns => cnt n * boxCount ns

theorem cnt_nonneg : ∀ n, 0 ≤ cnt n
  | 0 => Rat.le_refl
  | n + 1 => Rat.add_nonneg (cnt_nonneg n) (by decide)

/-- one more summand: `|a − b| ≤ c` and `|u − v| ≤ n·c` give `|(a + u) − (b + v)| ≤ (n + 1)·c` -/
theorem near_step (a b u v n c : Rat) (hab : (a - b).abs ≤ c) (huv : (u - v).abs ≤ n * c) :
    (a + u - (b + v)).abs ≤ (n + 1) * c := by
  have e : a + u - (b + v) = (a - b) + (u - v) := by grind
  have := rabs_add (a - b) (u - v)
  rw [e]; grind

/-- … where the summand is present on both sides or on neither -/
theorem near_step_if (p : Prop) [Decidable p] (a b u v n c : Rat) (hab : (a - b).abs ≤ c)
    (huv : (u - v).abs ≤ n * c) :
    ((if p then a else 0) + u - ((if p then b else 0) + v)).abs ≤ (n + 1) * c := by
  split
  · exact near_step _ _ _ _ _ _ hab huv
  · refine near_step 0 0 _ _ _ _ ?_ huv
    rw [Rat.sub_self, Rat.abs_zero]
    exact Rat.le_trans Rat.abs_nonneg hab

theorem prod_near (P0 P1 T0 T1 ε M : Rat) (h0 : (T0 - P0).abs ≤ ε) (h1 : (T1 - P1).abs ≤ ε)
    (m0 : P0.abs ≤ M) (m1 : P1.abs ≤ M) : (P0 * P1 - T0 * T1).abs ≤ ε * (2 * M + ε) := by
  have e : P0 * P1 - T0 * T1 = -((T0 - P0) * (T1 - P1) + (P0 * (T1 - P1) + (T0 - P0) * P1)) := by grind
  have hr : ε * (2 * M + ε) = ε * ε + (M * ε + ε * M) := by grind
  have hε : 0 ≤ ε := Rat.le_trans Rat.abs_nonneg h0
  have hM : 0 ≤ M := Rat.le_trans Rat.abs_nonneg m0
  have b1 : ((T0 - P0) * (T1 - P1)).abs ≤ ε * ε := by
    rw [rabs_mul]; exact rmul_le_mul h0 h1 Rat.abs_nonneg hε
  have b2 : (P0 * (T1 - P1)).abs ≤ M * ε := by
    rw [rabs_mul]; exact rmul_le_mul m0 h1 Rat.abs_nonneg hε
  have b3 : ((T0 - P0) * P1).abs ≤ ε * M := by
    rw [rabs_mul]; exact rmul_le_mul h0 m1 Rat.abs_nonneg hM
  rw [e, Rat.abs_neg, hr]
  exact rabs_add_le b1 (rabs_add_le b2 b3)

theorem block_near (φ P0 P1 T0 T1 ε M Φ : Rat) (h0 : (T0 - P0).abs ≤ ε) (h1 : (T1 - P1).abs ≤ ε)
    (m0 : P0.abs ≤ M) (m1 : P1.abs ≤ M) (hφ : φ.abs ≤ Φ) :
    (φ * (P0 * P1) - φ * (T0 * T1)).abs ≤ Φ * (ε * (2 * M + ε)) := by
  have hp := prod_near P0 P1 T0 T1 ε M h0 h1 m0 m1
  have e : φ * (P0 * P1) - φ * (T0 * T1) = φ * (P0 * P1 - T0 * T1) := by grind
  rw [e, rabs_mul]
  exact rmul_le_mul hφ hp Rat.abs_nonneg (Rat.le_trans Rat.abs_nonneg hp)

theorem isum_near (δ : Rat) : ∀ (n : Nat) (lo : Int) (f g : Int → Rat),
    (∀ v, lo ≤ v → v < lo + n → (f v - g v).abs ≤ δ) → (isum lo n f - isum lo n g).abs ≤ cnt n * δ
  | 0, _, _, _, _ => by simp only [isum, cnt, Rat.abs]; grind
  | n + 1, lo, f, g, h =>
    near_step _ _ _ _ _ _ (h lo (by omega) (by omega))
      (isum_near δ n (lo + 1) f g (fun v h1 h2 => h v (by omega) (by omega)))

theorem boxSum_near (δ : Rat) : ∀ (ns : List Nat) (f g : List Int → Rat),
    (∀ vs, InBox ns vs → (f vs - g vs).abs ≤ δ) → (boxSum ns f - boxSum ns g).abs ≤ boxCount ns * δ
  | [], f, g, h => by
    have := h [] trivial
    simp only [boxSum, boxCount]; grind
  | n :: ns, f, g, h => by
    simp only [boxSum, boxCount]
    rw [Rat.mul_assoc]
    exact isum_near (boxCount ns * δ) n 0 _ _
      (fun v h1 h2 => boxSum_near δ ns _ _ (fun vs hvs => h (v :: vs) ⟨⟨h1, by omega⟩, hvs⟩))

/-- the table entries of one argument: the full table differs from the product of the factor tables by
    at most `ε`, and the product is bounded by `M` -/
def TPTablesε (σ : St Rat) (et : String) (qvs : List Int) (ms : List Nat) (ε M : Rat) (args : List ArgDesc) : Prop :=
  ∀ a ∈ args, ∀ dvs, InBox (a.fs.map (·.2)) dvs →
    (argVal σ et (dotStrides (strides ms) qvs) a (dotStrides (strides (a.fs.map (·.2))) dvs) -
      tpArgVal σ et qvs a dvs).abs ≤ ε ∧ (tpArgVal σ et qvs a dvs).abs ≤ M

theorem tpLeaf_near_blockLeaf (σ : St Rat) (et : String) (aShape lens ms : List Nat) (qvs vi vj : List Int)
    (dims0 dims1 : List Nat) (k : Nat) (hi : InBox dims0 vi) (hj : InBox dims1 vj) (ε M Φ : Rat)
    (hε : 0 ≤ ε) (hM : 0 ≤ M) (hΦ0 : 0 ≤ Φ) :
    ∀ (bs : List BlockData) (fws : List Expr),
      (∀ b ∈ bs, ∃ a0 a1, b.args = [a0, a1] ∧ a0.fs.map (·.2) = dims0 ∧ a1.fs.map (·.2) = dims1) →
      (∀ b ∈ bs, TPTablesε σ et qvs ms ε M b.args) →
      (∀ fw ∈ fws, (eval ratExtra σ fw).abs ≤ Φ) →
      (tpLeafL ratExtra σ et aShape lens qvs [vi, vj] k bs fws -
        blockLeafL ratExtra σ et aShape lens (dotStrides (strides ms) qvs)
          [dotStrides (strides dims0) vi, dotStrides (strides dims1) vj] k bs fws).abs ≤
        cnt bs.length * (Φ * (ε * (2 * M + ε)))
  | [], _, _, _, _ => by simp only [tpLeafL, blockLeafL, List.length_nil, cnt, Rat.abs]; grind
  | b :: bs, [], _, _, _ => by
    have h2 : 0 ≤ cnt (b :: bs).length * (Φ * (ε * (2 * M + ε))) := by
      have := cnt_nonneg (b :: bs).length
      exact Rat.mul_nonneg this (Rat.mul_nonneg hΦ0 (Rat.mul_nonneg hε (by grind)))
    simpa only [tpLeafL, blockLeafL, Rat.sub_self, Rat.abs_zero] using h2
  | b :: bs, fw :: fws, hsh, htp, hΦ => by
    have ih := tpLeaf_near_blockLeaf σ et aShape lens ms qvs vi vj dims0 dims1 k hi hj ε M Φ hε hM hΦ0 bs fws
      (fun b' hb' => hsh b' (List.mem_cons_of_mem _ hb')) (fun b' hb' => htp b' (List.mem_cons_of_mem _ hb'))
      (fun fw' hfw' => hΦ fw' (List.mem_cons_of_mem _ hfw'))
    obtain ⟨a0, a1, hargs, rfl, rfl⟩ := hsh b (List.mem_cons_self ..)
    obtain ⟨t0, m0⟩ := htp b (List.mem_cons_self ..) a0 (by simp [hargs]) vi hi
    obtain ⟨t1, m1⟩ := htp b (List.mem_cons_self ..) a1 (by simp [hargs]) vj hj
    have hblock := block_near _ _ _ _ _ ε M Φ t0 t1 m0 m1 (hΦ fw (List.mem_cons_self ..))
    simp only [tpLeafL, blockLeafL, hargs, aCoordsTP_eq, flatVals, tpArgVals, argVals, prodR, Rat.mul_one,
      List.length_cons, cnt]
    exact near_step_if _ _ _ _ _ _ _ hblock ih

/-- The ε-version of `tensor_equals_full`, over `Rat`.  In real kernels the factor tables
    reproduce the full table only up to rounding: if every full table entry differs from the product of the
    factor-table entries by at most `ε` in absolute value (`TPTablesε`), the products are bounded by `M` and the `fw` values by `Φ`, then what the
    sum-factorised nest adds to `A[k]` differs from what the unfactorised nest adds by at most
    `(Π dims)·(#blocks)·Φ·ε·(2M + ε)`. -/
theorem tensor_near_full (g : GroupDesc) (D : Nat) (ms dims0 dims1 : List Nat)
    (hL : g.bmLens = [sizeProd dims0, sizeProd dims1]) (hd1 : dims1.length = D)
    (hsh : ∀ b ∈ g.blocks, ∃ a0 a1, b.args = [a0, a1] ∧ a0.fs.map (·.2) = dims0 ∧ a1.fs.map (·.2) = dims1)
    (fws : List Expr) (σ : St Rat) (qvs : List Int) (ε M Φ : Rat) (hε : 0 ≤ ε) (hM : 0 ≤ M) (hΦ0 : 0 ≤ Φ)
    (htp : ∀ b ∈ g.blocks, TPTablesε σ g.entityType qvs ms ε M b.args)
    (hΦ : ∀ fw ∈ fws, (eval ratExtra σ fw).abs ≤ Φ) (k : Nat) :
    (tensorSum2 ratExtra g D dims0 dims1 fws σ qvs k -
      blockSum ratExtra g fws σ (dotStrides (strides ms) qvs) k).abs ≤
      boxCount dims1 * (boxCount dims0 * (cnt g.blocks.length * (Φ * (ε * (2 * M + ε))))) := by
  simp only [tensorSum2, blockSum, hL, dofSum]
  -- the unfactorised sum over flat indices is a box sum over the factor indices
  rw [boxSum_append, ← boxSum_flatten dims1]
  refine boxSum_near _ _ _ _ (fun vj hj => ?_)
  rw [← boxSum_flatten dims0]
  refine boxSum_near _ _ _ _ (fun vi hi => ?_)
  rw [dvss2_append D vj vi (hj.length.trans hd1)]
  exact tpLeaf_near_blockLeaf σ g.entityType g.aShape _ ms qvs vi vj dims0 dims1 k hi hj ε M Φ hε hM hΦ0
    g.blocks fws hsh htp hΦ

namespace C10Example

def tab (name : String) (n : Nat) (fac : Option (List (String × Nat))) : TableRef :=
  { name := name, ttype := "varying", ndofs := n, offset := 0, blockSize := 1, isPermuted := false,
    factors := fac }

def arr (dims : List Nat) (vals : List Rat) : Arr Rat := { dims := dims, data := vals.toArray }

/-- a `diagonal` group: one rank-2 block with 3 × 3 dofs, `A` of shape `[3]` -/
def gD : GroupDesc :=
  { rule := { id := "ab12cd34", nweights := 2, factors := none }, custom := false, entityType := "cell",
    diagonal := true, aShape := [3], bmLens := [3, 3],
    blocks := [{ ttypes := ["varying", "varying"],
                 args := [{ table := tab "FE0" 3 none, restriction := .none },
                          { table := tab "FE1" 3 none, restriction := .none }],
                 nFactorComps := 1, factorIndex := 7, allFactorsPiecewise := false, transposed := false,
                 f := .sym "sv_ab12cd34_3" .scalar }] }

/-- the same block in the full-tensor kernel -/
def gF : GroupDesc := { gD with diagonal := false, aShape := [3, 3] }

def σD : St Rat :=
  { iv := [("iq", 1)], sv := [("fw0", 5)],
    sa := [("A", arr [3] [0, 0, 0]),
           ("FE0", arr [1, 1, 2, 3] [1, 2, 3, 4, 5, 6]), ("FE1", arr [1, 1, 2, 3] [7, 8, 9, 10, 11, 12])] }

example : diagonalGroup gD = true ∧ namesOk gD {} = true ∧ coincidentMaps gF = true ∧
    injectiveBlocks gF = true ∧ regularGroup gF = true ∧ coversA gF = true := by decide +kernel

/-- the generated diagonal section adds `5·FE0[1][i]·FE1[1][i]` to `A[i]` -/
example : (match genBlockParts gD {} with
    | .ok (qp, _, _) => (match execL ratExtra qp σD with
        | .ok σ' => (σ'.sa.get "A").map (·.data.toList)
        | .error _ => none)
    | .error _ => none) = some [5 * 4 * 10, 5 * 5 * 11, 5 * 6 * 12] := by decide +kernel

/-- `diagSum` gives the same numbers, and they are the diagonal entries `k·3 + k` of `blockSum` of the
    full group (`diagonal_of_full`) -/
example : (List.range 3).map (diagSum ratExtra gD [.sym "fw0" .scalar] σD 1) =
    [5 * 4 * 10, 5 * 5 * 11, 5 * 6 * 12] ∧
    (List.range 3).map (fun k => blockSum ratExtra gF [.sym "fw0" .scalar] σD 1 (k * 3 + k)) =
    [5 * 4 * 10, 5 * 5 * 11, 5 * 6 * 12] := by decide +kernel

theorem lawfulRat : LawfulExtra (R := Rat) ratExtra := ratExtra_lawful

def outD : List Stmt × List Stmt × GenState :=
  match genBlockParts gD {} with | .ok r => r | .error _ => ([], [], {})

theorem argOkD (name : String) (vals : List Rat) (h : σD.sa.get name = some (arr [1, 1, 2, 3] vals)) :
    ArgOk σD "cell" 1 { table := tab name 3 none, restriction := .none } := by
  refine Or.inr ⟨.litI 0, 0, 0, arr [1, 1, 2, 3] vals, rfl, rfl, rfl, h, ?_⟩
  intro d hd
  have hp : (tab name 3 none).isPiecewise = false := rfl
  simp only [hp, arr]
  match d, hd with
  | 0, _ => rfl
  | 1, _ => rfl
  | 2, _ => rfl
  | n + 3, h => exact absurd h (by simp [tab])

/-- **`genBlock_diagonal_spec` applied**: all its hypotheses hold for `gD`, `σD`, `q = 1` -/
example : ∃ σ', execL ratExtra outD.1 σD = .ok σ' ∧
    Acc aName (fun n => n ∈ dofNames) (fun _ => False)
      (diagSum ratExtra gD (fwExprs gD {} gD.blocks) σD 1) σD σ' := by
  have hgen : genBlockParts gD {} = .ok (outD.1, outD.2.1, outD.2.2) := rfl
  refine genBlock_diagonal_spec ratExtra lawfulRat gD {} _ _ _ hgen (by decide +kernel) (by decide +kernel) σD 1 rfl
    ⟨arr [3] [0, 0, 0], rfl, rfl, rfl, rfl⟩ ?_ ?_
  · exact List.forall_mem_singleton.mpr (List.forall_mem_cons.mpr
      ⟨argOkD "FE0" [1, 2, 3, 4, 5, 6] rfl, List.forall_mem_singleton.mpr (argOkD "FE1" [7, 8, 9, 10, 11, 12] rfl)⟩)
  · decide +kernel

def tabO (name : String) (off : Int) : TableRef :=
  { name := name, ttype := "varying", ndofs := 2, offset := off, blockSize := 2, isPermuted := false,
    factors := none }

def blkM (n0 n1 : String) (o0 o1 : Int) (fi : Nat) : BlockData :=
  { ttypes := ["varying", "varying"],
    args := [{ table := tabO n0 o0, restriction := .none }, { table := tabO n1 o1, restriction := .none }],
    nFactorComps := 1, factorIndex := fi, allFactorsPiecewise := false, transposed := false,
    f := .sym "sv_ab12cd34_3" .scalar }

/-- a vector-P1-like full group: the four blocks (component r of the test function) × (component c of the
    trial function), dofs `2·d + r`; `A` is `4 × 4` -/
def gMF : GroupDesc :=
  { rule := { id := "ab12cd34", nweights := 2, factors := none }, custom := false, entityType := "cell",
    diagonal := false, aShape := [4, 4], bmLens := [2, 2],
    blocks := [blkM "FE0" "FE0" 0 0 7, blkM "FE0" "FE1" 0 1 8, blkM "FE1" "FE0" 1 0 8, blkM "FE1" "FE1" 1 1 9] }

/-- what `part = diagonal` generates from it: the coincident blocks only -/
def gMD : GroupDesc := { gMF with diagonal := true, aShape := [4], blocks := gMF.blocks.filter coincidentBlock }

def fwsM : List Expr := [.sym "fw0" .scalar, .sym "fw1" .scalar, .sym "fw1" .scalar, .sym "fw2" .scalar]

def σM : St Rat :=
  { iv := [("iq", 1)], sv := [("fw0", 5), ("fw1", 7), ("fw2", 11)],
    sa := [("A", arr [4] [0, 0, 0, 0]),
           ("FE0", arr [1, 1, 2, 2] [1, 2, 3, 4]), ("FE1", arr [1, 1, 2, 2] [7, 8, 9, 10])] }

example : diagonalPairB gMF gMD = true ∧ injectiveBlocks gMF = true ∧ coincidentMaps gMF = false := by decide +kernel

/-- `diagonal_of_full_filtered` applied: for every `k < 4` the diagonal kernel's `A[k]` contribution is the
    `(k, k)` entry of the full kernel's (the two dropped blocks have disjoint block maps) -/
example : ∀ k, k < 4 → diagSum ratExtra gMD
      (((gMF.blocks.zip fwsM).filter (fun p => coincidentBlock p.1)).map (·.2)) σM 1 k =
    blockSum ratExtra gMF fwsM σM 1 (k * 4 + k) := by
  intro k hk
  refine diagonal_of_full_filtered ratExtra gMF gMD 2 4 rfl rfl rfl rfl rfl fwsM _ rfl ?_ ?_ (by decide +kernel) ?_ σM 1 k hk
  · rfl
  · intro b hb
    simp only [gMF, List.mem_cons, List.mem_nil_iff, or_false] at hb
    rcases hb with rfl | rfl | rfl | rfl <;> exact ⟨_, _, rfl⟩
  · decide +kernel

/-- the numbers: `A[k] += fw·FE_r[1][d]²` for `k = 2d + r` -/
example : (List.range 4).map (fun k => blockSum ratExtra gMF fwsM σM 1 (k * 4 + k)) =
    [5 * 3 * 3, 11 * 9 * 9, 5 * 4 * 4, 11 * 10 * 10] := by decide +kernel

/-- The disjointness hypothesis of
    `diagonal_of_full_filtered` cannot be dropped: a block whose block maps overlap without being equal
    (test dofs `{0, 1}`, trial dofs `{1, 2}`) is NOT coincident, so `part = diagonal` drops it, but it
    contributes `fw·T0[q][1]·T1[q][0]` to the diagonal entry `(1, 1)` of the full tensor.  (No such block was
    found in real kernels: the block maps of FFCx come from sub-elements / components / restrictions and are
    equal or disjoint — checked per real full/diagonal pair by `diagonalPairB`.) -/
theorem diagonal_filter_overlap_counterexample :
    let blk : BlockData :=
      { ttypes := ["varying", "varying"],
        args := [{ table := { tabO "FE0" 0 with blockSize := 1 }, restriction := .none },
                 { table := { tabO "FE1" 1 with blockSize := 1 }, restriction := .none }],
        nFactorComps := 1, factorIndex := 7, allFactorsPiecewise := false, transposed := false,
        f := .sym "sv_ab12cd34_3" .scalar }
    let gF : GroupDesc :=
      { rule := { id := "ab12cd34", nweights := 2, factors := none }, custom := false, entityType := "cell",
        diagonal := false, aShape := [3, 3], bmLens := [2, 2], blocks := [blk] }
    let gD : GroupDesc := { gF with diagonal := true, aShape := [3], blocks := gF.blocks.filter coincidentBlock }
    coincidentBlock blk = false ∧ disjointMapsB 2 2 blk = false ∧ injectiveBlocks gF = true ∧
    blockSum ratExtra gF [.sym "fw0" .scalar] σM 1 (1 * 3 + 1) = 5 * 4 * 9 ∧
    diagSum ratExtra gD [] σM 1 1 = 0 := by decide +kernel

/-- a sum-factorised group: rule `2 × 2` points, tables `2 × 2` dofs with factor tables `TFa`, `TFb` -/
def gT : GroupDesc :=
  { rule := { id := "ab12cd34", nweights := 4, factors := some [2, 2] }, custom := false,
    entityType := "cell", diagonal := false, aShape := [4, 4], bmLens := [4, 4],
    blocks := [{ ttypes := ["varying", "varying"],
                 args := [{ table := tab "FE0" 4 (some [("TFa", 2), ("TFb", 2)]), restriction := .none },
                          { table := tab "FE1" 4 (some [("TFb", 2), ("TFa", 2)]), restriction := .none }],
                 nFactorComps := 1, factorIndex := 7, allFactorsPiecewise := false, transposed := false,
                 f := .sym "sv_ab12cd34_3" .scalar }] }

/-- `TFa[q][i] = 1 + 2q + i`, `TFb[q][i] = 10 + 2q + i`; the full tables are their tensor products:
    `FE0[2 q0 + q1][2 i0 + i1] = TFa[q0][i0]·TFb[q1][i1]`, `FE1 = TFb ⊗ TFa` -/
def σT : St Rat :=
  { iv := [("iq0", 1), ("iq1", 0)], sv := [("fw0", 3)],
    sa := [("A", arr [16] (List.replicate 16 0)),
           ("TFa", arr [1, 1, 2, 2] [1, 2, 3, 4]), ("TFb", arr [1, 1, 2, 2] [10, 11, 12, 13]),
           ("FE0", arr [1, 1, 4, 4] ((List.range 16).map (fun n =>
              ([1, 2, 3, 4].getD (2 * (n / 4 / 2) + n % 4 / 2) 0 : Rat) *
                [10, 11, 12, 13].getD (2 * (n / 4 % 2) + n % 4 % 2) 0))),
           ("FE1", arr [1, 1, 4, 4] ((List.range 16).map (fun n =>
              ([10, 11, 12, 13].getD (2 * (n / 4 / 2) + n % 4 / 2) 0 : Rat) *
                [1, 2, 3, 4].getD (2 * (n / 4 % 2) + n % 4 % 2) 0)))] }

example : tensorGroupB gT {} = true := by decide +kernel

/-- executing the generated sum-factorised section at `(iq0, iq1) = (1, 0)` gives exactly `tensorSum2`,
    which equals `blockSum` of the unfactorised group at the flat point `q = 2·1 + 0`
    (`tensor_equals_full`) -/
example : (match genBlockParts gT {} with
    | .ok (qp, _, _) => (match execL ratExtra qp σT with
        | .ok σ' => (σ'.sa.get "A").map (·.data.toList)
        | .error _ => none)
    | .error _ => none) =
    some ((List.range 16).map (tensorSum2 ratExtra gT 2 [2, 2] [2, 2] [.sym "fw0" .scalar] σT [1, 0])) ∧
    (List.range 16).map (tensorSum2 ratExtra gT 2 [2, 2] [2, 2] [.sym "fw0" .scalar] σT [1, 0]) =
    (List.range 16).map (blockSum ratExtra gT [.sym "fw0" .scalar] σT 2) := by decide +kernel

def outT : List Stmt × List Stmt × GenState :=
  match genBlockParts gT {} with | .ok r => r | .error _ => ([], [], {})

theorem tfOkT (n1 n2 : String) (v1 v2 : List Rat) (h1 : σT.sa.get n1 = some (arr [1, 1, 2, 2] v1))
    (h2 : σT.sa.get n2 = some (arr [1, 1, 2, 2] v2)) :
    TfOk σT 0 0 [(n1, 2), (n2, 2)] [1, 0] := by
  refine ⟨⟨_, h1, ?_⟩, ⟨_, h2, ?_⟩, trivial⟩ <;>
  · intro v hv
    match v, hv with
    | 0, _ => rfl
    | 1, _ => rfl
    | n + 2, h => exact absurd h (by omega)

/-- **`genBlock_tensor_spec` applied** (`TpBlock2`, `TpArgOk` instantiated): all its hypotheses hold for the
    sum-factorised group `gT`, the state `σT`, the quadrature point `(iq0, iq1) = (1, 0)` -/
example : ∃ σ', execL ratExtra outT.1 σT = .ok σ' ∧
    Acc aName (fun n => n ∈ famSyms "j" 2 ++ famSyms "i" 2) (fun _ => False)
      (tensorSum2 ratExtra gT 2 [2, 2] [2, 2] (fwExprs gT {} gT.blocks) σT [1, 0]) σT σ' := by
  have hgen : genBlockParts gT {} = .ok (outT.1, outT.2.1, outT.2.2) := rfl
  have hfws : fwExprs gT {} gT.blocks = [.sym "fw0" .scalar] := by rfl
  refine genBlock_tensor_spec ratExtra lawfulRat gT {} _ _ _ hgen 2 (by decide +kernel) famNamesOk_2 [2, 2] rfl rfl rfl
    [2, 2] [2, 2] ?_ (by decide +kernel) ?_ σT [1, 0] ⟨rfl, rfl, trivial⟩
    ⟨arr [16] (List.replicate 16 0), rfl, rfl, rfl, rfl⟩ ?_ ?_
  · exact List.forall_mem_singleton.mpr ⟨⟨_, _, rfl, rfl, rfl⟩,
      List.forall_mem_cons.mpr ⟨⟨_, rfl, rfl⟩, List.forall_mem_singleton.mpr ⟨_, rfl, rfl⟩⟩,
      List.forall_mem_cons.mpr ⟨rfl, List.forall_mem_singleton.mpr rfl⟩, by decide +kernel, by decide +kernel⟩
  · rw [hfws]
    refine List.forall_mem_singleton.mpr ⟨by decide +kernel, fun n hn => ?_⟩
    have : "fw0" = n := by simpa [mentionsE] using hn
    subst this
    decide +kernel
  · exact List.forall_mem_singleton.mpr (List.forall_mem_cons.mpr
      ⟨Or.inr ⟨.litI 0, 0, 0, rfl, rfl, rfl, tfOkT "TFa" "TFb" _ _ rfl rfl⟩,
        List.forall_mem_singleton.mpr (Or.inr ⟨.litI 0, 0, 0, rfl, rfl, rfl, tfOkT "TFb" "TFa" _ _ rfl rfl⟩)⟩)
  · decide +kernel

/-- `tensorGroupB_sound` applies to `gT` -/
example : ∃ (ms : List Nat) (D : Nat) (dims0 dims1 : List Nat), gT.rule.factors = some ms ∧ ms.length = D ∧
    ∀ b ∈ gT.blocks, TpBlock2 gT D dims0 dims1 b := by
  obtain ⟨ms, D, d0, d1, _, h2, h3, _, _, h6, _⟩ := tensorGroupB_sound gT {} (by decide +kernel) rfl
  exact ⟨ms, D, d0, d1, h2, h3, h6⟩

/-- `σT` with one entry of `FE0` perturbed: the full table is the tensor product of its factor tables only up to
    `1/1000` -/
def σTε : St Rat :=
  { σT with sa := [("A", arr [16] (List.replicate 16 0)),
           ("TFa", arr [1, 1, 2, 2] [1, 2, 3, 4]), ("TFb", arr [1, 1, 2, 2] [10, 11, 12, 13]),
           ("FE0", arr [1, 1, 4, 4] ((List.range 16).map (fun n =>
              ([1, 2, 3, 4].getD (2 * (n / 4 / 2) + n % 4 / 2) 0 : Rat) *
                [10, 11, 12, 13].getD (2 * (n / 4 % 2) + n % 4 % 2) 0 + (if n = 8 then 1 / 1000 else 0)))),
           ("FE1", arr [1, 1, 4, 4] ((List.range 16).map (fun n =>
              ([10, 11, 12, 13].getD (2 * (n / 4 / 2) + n % 4 / 2) 0 : Rat) *
                [1, 2, 3, 4].getD (2 * (n / 4 % 2) + n % 4 % 2) 0)))] }

theorem inBox22 (dvs : List Int) (h : InBox [2, 2] dvs) :
    dvs = [0, 0] ∨ dvs = [0, 1] ∨ dvs = [1, 0] ∨ dvs = [1, 1] := by
  match dvs, h with
  | [a, b], ⟨⟨a0, a1⟩, ⟨b0, b1⟩, _⟩ =>
    have ha : a = 0 ∨ a = 1 := by omega
    have hb : b = 0 ∨ b = 1 := by omega
    rcases ha with rfl | rfl <;> rcases hb with rfl | rfl <;> simp

example : ∀ k, (tensorSum2 ratExtra gT 2 [2, 2] [2, 2] [.sym "fw0" .scalar] σTε [1, 0] k -
      blockSum ratExtra gT [.sym "fw0" .scalar] σTε (dotStrides (strides [2, 2]) [1, 0]) k).abs ≤
    boxCount [2, 2] * (boxCount [2, 2] * (cnt gT.blocks.length * (3 * (1 / 1000 * (2 * 44 + 1 / 1000))))) := by
  intro k
  refine tensor_near_full gT 2 [2, 2] [2, 2] [2, 2] rfl rfl ?_ _ σTε [1, 0] (1 / 1000) 44 3 (by decide +kernel)
    (by decide +kernel) (by decide +kernel) ?_ ?_ k
  · exact List.forall_mem_singleton.mpr ⟨_, _, rfl, rfl, rfl⟩
  · refine List.forall_mem_singleton.mpr fun a ha dvs hd => ?_
    simp only [List.mem_cons, List.mem_nil_iff, or_false] at ha
    rcases ha with rfl | rfl <;> rcases inBox22 dvs hd with rfl | rfl | rfl | rfl <;> decide +kernel
  · decide +kernel

/-- … and the two kernels really differ there (entry `k = 0`: by `fw·(1/1000)·T1 = 3·(1/1000)·12`) -/
example : tensorSum2 ratExtra gT 2 [2, 2] [2, 2] [.sym "fw0" .scalar] σTε [1, 0] 0 -
    blockSum ratExtra gT [.sym "fw0" .scalar] σTε 2 0 = -(3 * (1 / 1000) * 12) := by decide +kernel

end C10Example

end Ffcx.Codegen
