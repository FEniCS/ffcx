/-
C18 (descriptor half) — the numba backend's descriptors carry the same metadata as the C backend's.

Model: FfcxModel/Backend/Descriptors.lean (two independent transcriptions per object kind: `C.form` /
`Numba.form`, `C.integral` / `Numba.integral`, `C.expression` / `Numba.expression`, the shared
`integralData`); helper lemmas: FfcxProofs/Lemmas/Descr.lean; tie to the code: harness/descr_checks.py.
`integralData` and `formIRIntegrals` are a second transcription of `common.integral_data` and the id loop of
`_compute_form_ir`, independent of the one in FfcxModel/IR/Layout.lean that C06 is about (see the head of
FfcxProofs/C06.lean); no theorem relates the two.

FORMS.  Level 1: the values WRITTEN into the initialisers.  Level 2: the struct a consumer READS through cffi
(`C.storeForm`: `int`, `uint64_t` members), under hypotheses on the C descriptor (`FitsC`) or on the FormIR (`idsFit`,
which `_compute_form_ir` guarantees; `FieldsFit` and fewer than 2³¹ table rows, which nothing guards).
INTEGRALS, EXPRESSIONS, MODULE PRELUDE: the agreement theorem of each kind, with the example that bounds it.
-/
import FfcxModel.Backend.Descriptors
import FfcxProofs.Lemmas.Descr

namespace Ffcx.C18Descr
open Ffcx.Backend

instance {δ : Type} (eq : δ → δ → Prop) [∀ a b, Decidable (eq a b)] (r s : Except String δ) :
    Decidable (resEq eq r s) := by
  cases r <;> cases s
  · exact inferInstanceAs (Decidable True)
  · exact inferInstanceAs (Decidable False)
  · exact inferInstanceAs (Decidable False)
  · exact inferInstanceAs (Decidable (eq _ _))

/-- `NULL` / `None` stands for the empty table -/
theorem toList_ite {α} {c : Prop} [Decidable c] {xs : List α} (h : ¬ c → xs = []) :
    (if c then Enc.arr xs else Enc.absent).toList = xs := by
  split
  · rfl
  · exact (h ‹_›).symm

@[simp] theorem toList_ifNonempty {α} (xs : List α) :
    (if xs.length > 0 then Enc.arr xs else Enc.absent).toList = xs :=
  toList_ite fun h => List.eq_nil_of_length_eq_zero (Nat.eq_zero_of_not_pos h)

theorem mem_toList_ite {α} {c : Prop} [Decidable c] {xs : List α} {x : α}
    (h : x ∈ (if c then Enc.arr xs else Enc.absent).toList) : x ∈ xs := by
  split at h
  · exact h
  · cases h

/-- The `constant_shapes` tables: both generators reference an undefined name for the same IRs and
otherwise produce the same rows (NULL where numba has None). -/
theorem constantShapes_agree (ir : FormIR) :
    resEq Eq (C.formConstantShapes ir) (Numba.formConstantShapes ir) := by
  unfold C.formConstantShapes Numba.formConstantShapes
  split
  · refine resEq_bind (mapM_resEq _ _ _ ?_) fun _ => rfl
    intro p _
    split
    · split
      · split <;> simp [resEq]
      · simp [resEq]
    · simp [resEq]
  · simp [resEq, pure, Except.pure]

/-- For every FormIR (any number of integral types, ids, domains per integral,
coefficients, constants) and every `argsort`, the two form generators fail together (IndexError in
`integral_data`, reference to an undefined `constant_shapes_…` name) or initialise every descriptor
field with the same value, with `NULL` exactly where the numba class has `None`. -/
theorem form_same_encoding (argsort : List Int → List Nat) (ir : FormIR) :
    resEq Eq (C.form argsort ir) (Numba.form argsort ir) := by
  unfold C.form Numba.form
  exact resEq_bind (constantShapes_agree ir) fun _ => resEq_bind (resEq_refl (fun _ => rfl) _) fun _ => rfl

theorem form_descriptors_agree (argsort : List Int → List Nat) (ir : FormIR) :
    resEq FormDescr.descrEq (C.form argsort ir) (Numba.form argsort ir) :=
  resEq_iff.2 ((resEq_iff.1 (form_same_encoding argsort ir)).mono fun a _ h => by
    subst h; simp [FormDescr.descrEq])

/-- the fields of a successful `C.form` in terms of the IR, of its `constant_shapes` table `cs` and of the result `d`
of `integral_data` -/
structure CFormFields (ir : FormIR) (cs : Enc (Enc Int)) (d : IntegralData) (c : FormDescr) : Prop where
  rank : c.rank = ir.rank
  numCoefficients : c.numCoefficients = ir.numCoefficients
  numConstants : c.numConstants = ir.numConstants
  positions : c.originalCoefficientPositions.toList = ir.originalCoefficientPositions
  ranks : ∀ x ∈ c.constantRanks.toList, x ∈ ir.constantRanks
  shapes : c.constantShapes = cs
  hashes : ∀ x ∈ c.finiteElementHashes.toList, x = 0 ∨ some x ∈ ir.finiteElementHashes
  offsets : c.formIntegralOffsets = d.offsets.map Int.ofNat
  integrals : c.formIntegrals = (if d.names.length > 0 then
      .arr ((d.names.zip d.domains).flatMap (fun p => p.2.map (fun domain => p.1 ++ "_" ++ domain.name)))
    else .absent)
  ids : c.formIntegralIds = (if d.names.length > 0 then
      .arr ((d.ids.zip d.domains).flatMap (fun p => p.2.map (fun _ => p.1))) else .absent)

theorem cForm_fields (argsort : List Int → List Nat) (ir : FormIR) (c : FormDescr)
    (h : C.form argsort ir = .ok c) :
    ∃ cs d, C.formConstantShapes ir = .ok cs ∧ integralData argsort ir = .ok d ∧ CFormFields ir cs d c := by
  unfold C.form at h
  obtain ⟨cs, hc, h⟩ := bind_eq_ok.mp h
  obtain ⟨d, hi, h⟩ := bind_eq_ok.mp h
  cases h
  refine ⟨cs, d, hc, hi, rfl, rfl, rfl, toList_ifNonempty _, fun x hx => mem_toList_ite hx, rfl, ?_, rfl, rfl, rfl⟩
  intro x hx
  obtain ⟨el, hel, rfl⟩ := List.mem_map.mp (mem_toList_ite hx)
  cases el with
  | none => exact .inl rfl
  | some v => exact .inr hel

/-- In the descriptor of every form, `form_integrals` and `form_integral_ids`
are parallel tables whose common length is the last entry of `form_integral_offsets`, and there is one
offset per integral type plus the leading 0 — for integrals with any number of domains.  (By
`form_same_encoding` the same holds for the numba class.) -/
theorem form_table_parallel (argsort : List Int → List Nat) (ir : FormIR) (c : FormDescr)
    (h : C.form argsort ir = .ok c) :
    c.formIntegralIds.toList.length = c.formIntegrals.toList.length
    ∧ c.formIntegralOffsets.getLast? = some (c.formIntegrals.toList.length : Int)
    ∧ c.formIntegralOffsets.length = ir.integrals.length + 1 := by
  obtain ⟨_, d, -, hd, F⟩ := cForm_fields argsort ir c h
  have al := integralData_aligned argsort ir d hd
  have ol := integralData_offsets_length argsort ir d hd
  have e1 := flatMap_zip_length d.names d.domains (fun n domain => n ++ "_" ++ domain.name)
    (by rw [al.names, al.domains])
  have e2 := flatMap_zip_length d.ids d.domains (fun i _ => i) al.domains.symm
  have hlast : d.offsets.getLast? = some ((d.domains.map List.length).sum) := by
    have := al.last
    cases hl : d.offsets.getLast? with
    | none => exact absurd (List.getLast?_eq_none_iff.mp hl) al.len
    | some v => rw [hl] at this; simp at this; rw [this]
  -- without names there are no domains: the `NULL` tables stand for empty comprehensions
  have hdz : ¬ d.names.length > 0 → d.domains = [] := fun hn =>
    List.eq_nil_of_length_eq_zero (by rw [al.domains, ← al.names]; omega)
  rw [F.integrals, F.ids, F.offsets, toList_ite fun hn => by simp [hdz hn], toList_ite fun hn => by simp [hdz hn], e1, e2,
    List.getLast?_map, hlast]
  exact ⟨rfl, rfl, by simp [ol]⟩

/-- The consistency of the redundant constant fields of a FormIR that `_compute_form_ir` establishes by
construction (`num_constants = len(constants)`, `constant_ranks = [len(c.ufl_shape) …]`). -/
def _root_.Ffcx.Backend.FormIR.ConstantsConsistent (ir : FormIR) : Prop :=
  ir.numConstants = ir.constantRanks.length

instance (ir : FormIR) : Decidable ir.ConstantsConsistent := by
  unfold FormIR.ConstantsConsistent; exact inferInstance

/-- Every array definition emitted by `C/form.py` has exactly as many initialisers
as its declared size (so no member is zero-padded and no initialiser is excess) — in particular
`form_integrals[sizes]` / `form_integral_ids[sizes]` with `sizes = Σ len(domains)`. -/
theorem form_decls_exact (argsort : List Int → List Nat) (ir : FormIR) (ds : List ArrayDecl)
    (hc : ir.ConstantsConsistent) (h : C.formDecls argsort ir = .ok ds) :
    ∀ d ∈ ds, d.size = d.count := by
  unfold C.formDecls at h
  obtain ⟨idata, hi, h⟩ := bind_eq_ok.mp h
  have al := integralData_aligned argsort ir idata hi
  have e1 := flatMap_zip_length idata.names idata.domains (fun n _ => n) (by rw [al.names, al.domains])
  have e2 := flatMap_zip_length idata.ids idata.domains (fun i _ => i) al.domains.symm
  cases h
  have hc' : ir.numConstants = ir.constantRanks.length := hc
  -- the definitions are emitted group by group, most groups only for a non-empty table
  have ite : ∀ {c : Prop} [Decidable c] {l : List ArrayDecl}, (∀ d ∈ l, d.size = d.count) →
      ∀ d ∈ (if c then l else []), d.size = d.count := by
    intro c _ l hl
    split
    · exact hl
    · nofun
  have one : ∀ {n : String} {k : Nat}, ∀ d ∈ [(⟨n, k, k⟩ : ArrayDecl)], d.size = d.count :=
    fun _ hd => List.mem_singleton.mp hd ▸ rfl
  simp only [List.forall_mem_append]
  refine ⟨⟨⟨⟨⟨⟨ite one, ite one⟩, one⟩, ite ?_⟩, ite one⟩, ite one⟩, ite ?_⟩
  · simp only [List.forall_mem_cons, List.not_mem_nil, false_imp_iff, implies_true, and_true]
    exact ⟨congrArg Int.ofNat e1.symm, congrArg Int.ofNat e2.symm⟩
  · simp only [List.forall_mem_append, List.forall_mem_singleton, List.forall_mem_map]
    exact ⟨⟨hc', fun _ _ => trivial⟩, by simp [hc']⟩

/-- Every value written into an `int` / `uint64_t` member of `ufcx_form` (or into an array it points
to) is representable. -/
structure FitsC (d : FormDescr) : Prop where
  rank : FitsInt32 d.rank
  numCoefficients : FitsInt32 d.numCoefficients
  numConstants : FitsInt32 d.numConstants
  positions : ∀ x ∈ d.originalCoefficientPositions.toList, FitsInt32 x
  ranks : ∀ x ∈ d.constantRanks.toList, FitsInt32 x
  shapes : ∀ s ∈ d.constantShapes.toList, ∀ x ∈ s.toList, FitsInt32 x
  hashes : ∀ x ∈ d.finiteElementHashes.toList, x < 18446744073709551616
  ids : ∀ x ∈ d.formIntegralIds.toList, FitsInt32 x
  offsets : ∀ x ∈ d.formIntegralOffsets, FitsInt32 x

theorem storeForm_id (d : FormDescr) (h : FitsC d) : C.storeForm d = d := by
  cases d
  simp only [C.storeForm, FormDescr.mk.injEq, true_and]
  refine ⟨wrap32_id _ h.rank, wrap32_id _ h.numCoefficients,
    Enc.map_id_of_forall _ _ (fun x hx => wrap32_id x (h.positions x hx)),
    wrap32_id _ h.numConstants, Enc.map_id_of_forall _ _ (fun x hx => wrap32_id x (h.ranks x hx)),
    Enc.map_id_of_forall _ _ (fun s hs => Enc.map_id_of_forall _ _ (fun x hx => wrap32_id x (h.shapes s hs x hx))),
    Enc.map_id_of_forall _ _ (fun x hx => wrap64_id x (h.hashes x hx)),
    Enc.map_id_of_forall _ _ (fun x hx => wrap32_id x (h.ids x hx)),
    map_fixes (fun x hx => wrap32_id x (h.offsets x hx))⟩

/-- Level 2.  If the C generator succeeds and every written value fits
its member, the struct a consumer reads agrees with the numba class.
FULL STATEMENT (false, see `form_descriptors_counterexample`):
`∀ argsort ir, resEq FormDescr.descrEq ((C.form argsort ir).map C.storeForm) (Numba.form argsort ir)`. -/
theorem form_descriptors_partial (argsort : List Int → List Nat) (ir : FormIR) (c : FormDescr)
    (h : C.form argsort ir = .ok c) (hfit : FitsC c) :
    ∃ n, Numba.form argsort ir = .ok n ∧ (C.storeForm c).descrEq n := by
  obtain ⟨n, hn, he⟩ := resEq_ok_left (form_descriptors_agree argsort ir) h
  exact ⟨n, hn, by rw [storeForm_id c hfit]; exact he⟩

def tri : Domain := ⟨"triangle", 2⟩
def quad : Domain := ⟨"quadrilateral", 4⟩

/-- A prism-like form: cell integrals with ids 2 and 1 (to be sorted), an exterior-facet integral with
ids (5, otherwise) whose kernel exists for TWO facet types, no interior-facet/vertex/ridge integrals;
two coefficients, a scalar and a 2×3 constant, one non-Basix element. -/
def exIR : FormIR :=
  { name := "form_a", nameFromUflfile := "form_x_a", signature := "sig", rank := 1, numCoefficients := 2,
    originalCoefficientPositions := [0, 2], coefficientNames := ["f", "g"],
    numConstants := 2, constantRanks := [0, 2], constantShapes := [[], [2, 3]], constantNames := ["c", "K"],
    finiteElementHashes := [some 11, none, some 13],
    integrals := [
      { ids := [2, 1], names := ["itg_c2", "itg_c1"], domains := [[⟨"prism", 6⟩], [⟨"prism", 6⟩]] },
      { ids := [5, -1], names := ["itg_f", "itg_f"], domains := [[tri, quad], [tri, quad]] },
      { ids := [], names := [], domains := [] },
      { ids := [], names := [], domains := [] },
      { ids := [], names := [], domains := [] }] }

/-- the descriptor both generators produce for `exIR` -/
def exDescr : FormDescr :=
  { factoryName := "form_a", nameFromUflfile := "form_x_a", signature := "sig", rank := 1, numCoefficients := 2,
    originalCoefficientPositions := .arr [0, 2], coefficientNameMap := .arr ["f", "g"],
    numConstants := 2, constantRanks := .arr [0, 2], constantShapes := .arr [.absent, .arr [2, 3]],
    constantNameMap := .arr ["c", "K"], finiteElementHashes := .arr [11, 0, 13],
    formIntegrals := .arr ["itg_c1_prism", "itg_c2_prism", "itg_f_triangle", "itg_f_quadrilateral",
                           "itg_f_triangle", "itg_f_quadrilateral"],
    formIntegralIds := .arr [1, 2, -1, -1, 5, 5],
    formIntegralOffsets := [0, 2, 6, 6, 6, 6] }

theorem exIR_c : C.form argsortIns exIR = .ok exDescr := by decide +kernel
example : C.form argsortIns exIR = .ok exDescr := exIR_c
example : Numba.form argsortIns exIR = .ok exDescr := by
  obtain ⟨n, hn, rfl⟩ := resEq_ok_left (form_same_encoding argsortIns exIR) exIR_c
  exact hn
example : FitsC exDescr := by
  constructor <;> decide
example : exIR.ConstantsConsistent := by decide +kernel
example : (C.formDecls argsortIns exIR).map (fun ds => ds.map (fun d => (d.size, d.count)))
    = .ok [(2, 2), (3, 3), (6, 6), (6, 6), (6, 6), (2, 2), (2, 2), (2, 2), (2, 2), (2, 2)] := by decide +kernel

/-- a form with an empty table: `NULL`/`None` everywhere, offsets all 0 -/
def emptyIR : FormIR :=
  { name := "form_e", nameFromUflfile := "form_x_e", signature := "", rank := 0, numCoefficients := 0,
    originalCoefficientPositions := [], coefficientNames := [], numConstants := 0, constantRanks := [],
    constantShapes := [], constantNames := [], finiteElementHashes := [],
    integrals := [⟨[], [], []⟩, ⟨[], [], []⟩] }

example : C.form argsortIns emptyIR = .ok
    { factoryName := "form_e", nameFromUflfile := "form_x_e", signature := "", rank := 0, numCoefficients := 0,
      originalCoefficientPositions := .absent, coefficientNameMap := .absent, numConstants := 0,
      constantRanks := .absent, constantShapes := .absent, constantNameMap := .absent,
      finiteElementHashes := .absent, formIntegrals := .absent, formIntegralIds := .absent,
      formIntegralOffsets := [0, 0, 0] } := by decide +kernel

/-- both generators fail together: names shorter than ids (IndexError in `integral_data`), and a constant
of rank 1 whose shape is empty (undefined `constant_shapes_…` name) -/
def badNamesIR : FormIR := { emptyIR with integrals := [⟨[1], [], [[tri]]⟩] }
def badShapeIR : FormIR := { emptyIR with numConstants := 1, constantRanks := [1], constantShapes := [[]] }

example : (C.form argsortIns badNamesIR).toBool = false ∧ (Numba.form argsortIns badNamesIR).toBool = false
    ∧ (C.form argsortIns badShapeIR).toBool = false ∧ (Numba.form argsortIns badShapeIR).toBool = false := by
  decide +kernel

/-- the witness of `form_descriptors_counterexample`: `v*dx(3) + v*dx(2**31 + 5)` on a triangle -/
def bigIdIR : FormIR :=
  { emptyIR with
    rank := 1
    integrals := [⟨[3, 2147483653], ["itg_a", "itg_b"], [[tri], [tri]]⟩, ⟨[], [], []⟩, ⟨[], [], []⟩,
                  ⟨[], [], []⟩, ⟨[], [], []⟩] }

/-- Level 2.  For the subdomain ids `(3, 2^31 + 5)` the compiled
`ufcx_form` holds `form_integral_ids = {3, -2147483643}` while the numba class holds
`[3, 2147483653]`: the struct read through cffi and the numba attribute differ (and the C ids are
not even ascending any more).  This is about the two GENERATORS on an arbitrary IR: FFCx no longer produces such an IR
(the finding c18:descriptor:form_integral_ids:int32-overflow, repaired by /repo 9a772cd; `formIR_idsFit`).  It refutes
the statement without `idsFit`: `∀ ir, resEq descrEq ((C.form ir).map C.storeForm) (Numba.form ir)`. -/
theorem form_descriptors_counterexample :
    (C.form argsortIns bigIdIR).map (fun c => (C.storeForm c).formIntegralIds) = .ok (.arr [3, -2147483643])
    ∧ (Numba.form argsortIns bigIdIR).map (·.formIntegralIds) = .ok (.arr [3, 2147483653])
    ∧ ¬ resEq FormDescr.descrEq ((C.form argsortIns bigIdIR).map C.storeForm) (Numba.form argsortIns bigIdIR) := by
  decide +kernel

/-- … although the values WRITTEN agree (`form_descriptors_agree`): the divergence is the C conversion. -/
example : resEq FormDescr.descrEq (C.form argsortIns bigIdIR) (Numba.form argsortIns bigIdIR) :=
  form_descriptors_agree _ _

theorem cConstantShapes_mem (ir : FormIR) (cs : Enc (Enc Int)) (h : C.formConstantShapes ir = .ok cs) :
    ∀ s ∈ cs.toList, ∀ x ∈ s.toList, ∃ sh ∈ ir.constantShapes, x ∈ sh := by
  unfold C.formConstantShapes at h
  split at h
  · obtain ⟨rows, hm, h⟩ := bind_eq_ok.mp h
    cases h
    refine (mapM_ok_forall _ (fun (s : Enc Int) => ∀ x ∈ s.toList, ∃ sh ∈ ir.constantShapes, x ∈ sh) _ rows hm ?_).2
    intro p _ y hy
    split at hy
    · split at hy
      · rename_i shape hsh
        split at hy
        · simp at hy; subst hy
          intro x hx
          exact ⟨shape, List.mem_of_getElem? hsh, hx⟩
        · simp at hy
      · simp at hy
    · simp at hy; subst hy; simp
  · simp [pure, Except.pure] at h; subst h; simp

/-- Under the guard on the ids and the representability of the other written fields, every value
`C/form.py` writes fits the member it is written to. -/
theorem cForm_fitsC (argsort : List Int → List Nat) (ir : FormIR) (c : FormDescr)
    (h : C.form argsort ir = .ok c) (hids : idsFit ir) (hf : ir.FieldsFit)
    (hrows : ∀ d, integralData argsort ir = .ok d → (d.domains.map List.length).sum < 2147483648) :
    FitsC c := by
  obtain ⟨cs, d, hcs, hd, F⟩ := cForm_fields argsort ir c h
  refine ⟨F.rank ▸ hf.rank, F.numCoefficients ▸ hf.numCoefficients, F.numConstants ▸ hf.numConstants, ?_, ?_, ?_, ?_,
    ?_, ?_⟩
  · rw [F.positions]; exact hf.positions
  · exact fun x hx => hf.ranks x (F.ranks x hx)
  · rw [F.shapes]
    intro s hs x hx
    obtain ⟨sh, hsh, hxs⟩ := cConstantShapes_mem ir cs hcs s hs x hx
    exact hf.shapes sh hsh x hxs
  · intro x hx
    rcases F.hashes x hx with rfl | hel
    · simp
    · exact hf.hashes _ hel x rfl
  · intro x hx
    rw [F.ids] at hx
    obtain ⟨p, hp, hx⟩ := List.mem_flatMap.mp (mem_toList_ite hx)
    obtain ⟨_, _, rfl⟩ := List.mem_map.mp hx
    obtain ⟨t, ht, hxt⟩ := integralData_ids_mem argsort ir d hd p.1 (List.of_mem_zip hp).1
    have := hids t ht p.1 hxt
    unfold idFits at this; unfold FitsInt32; omega
  · rw [F.offsets]
    intro x hx
    simp only [List.mem_map] at hx
    obtain ⟨n, hn, rfl⟩ := hx
    have hle := integralData_offsets_le_last argsort ir d hd n hn
    have hlast := (integralData_aligned argsort ir d hd).last
    have := hrows d hd
    unfold FitsInt32
    simp only [Int.ofNat_eq_natCast]
    omega

/-- For every FormIR whose subdomain ids passed the guards of
`_compute_form_ir` (`idsFit`: −1 ≤ id ≤ 2³¹−1, see `formIR_idsFit`), whose other written fields are
representable (`FieldsFit`) and whose kernel table has fewer than 2³¹ rows, the two generators fail
together or the COMPILED `ufcx_form` (members of type `int` / `uint64_t`, `C.storeForm`) carries the
same metadata as the numba class.  Every `argsort`. -/
theorem form_descriptors_agree_compiled (argsort : List Int → List Nat) (ir : FormIR)
    (hids : idsFit ir) (hf : ir.FieldsFit)
    (hrows : ∀ d, integralData argsort ir = .ok d → (d.domains.map List.length).sum < 2147483648) :
    resEq FormDescr.descrEq ((C.form argsort ir).map C.storeForm) (Numba.form argsort ir) := by
  have hw := form_descriptors_agree argsort ir
  cases hC : C.form argsort ir with
  | error e =>
    rw [hC] at hw
    exact hw
  | ok c =>
    obtain ⟨n, hn, he⟩ := form_descriptors_partial argsort ir c hC (cForm_fitsC argsort ir c hC hids hf hrows)
    rw [hn]
    exact he

/-- What makes `idsFit` a guarantee and not an assumption: the id / name / domain lists
that the loop of `_compute_form_ir` builds — when it does not raise — contain only ids in
[−1, 2³¹−1] (−1 only for 'otherwise'), and the three lists of every type have equal length. -/
theorem formIR_idsFit (ntypes : Nat) (itgs : List ItgData) (gs : List TypeIntegrals)
    (h : formIRIntegrals ntypes itgs = .ok gs) (ir : FormIR) (hir : ir.integrals = gs) :
    idsFit ir ∧ ∀ t ∈ ir.integrals, t.names.length = t.ids.length ∧ t.domains.length = t.ids.length := by
  have := formIRIntegrals_ok ntypes itgs gs h
  subst hir
  exact ⟨fun t ht => (this t ht).1, fun t ht => (this t ht).2⟩

/-- the guards: an id above 2³¹−1 or below 0 is rejected, the boundary values pass -/
theorem formIR_guard_examples :
    (formIRIntegrals 5 [⟨0, [.num 3, .num 2147483648], "a", [tri]⟩]).toBool = false
    ∧ (formIRIntegrals 5 [⟨0, [.num (-1)], "a", [tri]⟩]).toBool = false
    ∧ formIRIntegrals 5 [⟨1, [.num 2147483647, .otherwise], "a", [tri, quad]⟩, ⟨0, [.num 0], "b", [tri]⟩]
        = .ok [⟨[0], ["b"], [[tri]]⟩, ⟨[2147483647, -1], ["a", "a"], [[tri, quad], [tri, quad]]⟩,
               ⟨[], [], []⟩, ⟨[], [], []⟩, ⟨[], [], []⟩] := by decide +kernel

/-- non-vacuity of `form_descriptors_agree_compiled`: the prism-like IR satisfies every hypothesis -/
example : idsFit exIR ∧ exIR.fieldsFitB = true := by decide +kernel
example : exIR.FieldsFit := by constructor <;> decide
/-- … and the IR of `form_descriptors_counterexample` is exactly what `idsFit` excludes -/
example : ¬ idsFit bigIdIR := by decide +kernel

/-- The seeded change C18_m2 (numba `form_integral_ids` not repeated per domain)
violates the agreement statement on the prism-like IR … -/
theorem seeded_m2_detected :
    ¬ resEq FormDescr.descrEq (C.form argsortIns exIR) (Numba.formSeededM2 argsortIns exIR) := by decide +kernel

/-- … and is invisible on an IR whose integrals all have one domain. -/
theorem seeded_m2_invisible :
    resEq FormDescr.descrEq (C.form argsortIns bigIdIR) (Numba.formSeededM2 argsortIns bigIdIR) := by decide +kernel

/-- For every IntegralIR, domain, scalar type and platform flag the two
integral generators fail together (`assert … is not None`) or describe the same integral: same name,
same enabled-coefficient flags, same permutation flag, hash and domain tag, and the same single callable
kernel. -/
theorem integral_descriptors_agree (ir : IntegralIR) (domain : Domain) (o : Options) :
    resEq IntegralDescr.descrEq (C.integral ir domain o) (Numba.integral ir domain o) := by
  unfold C.integral Numba.integral
  rcases o with ⟨st, w⟩
  cases ir.coordinateElementHash with
  | none => simp [resEq]
  | some h =>
    cases st <;> cases w <;>
      simp [resEq, IntegralDescr.descrEq, IntegralDescr.fnNames, C.integralSlot, ScalarType.npName,
        pure, Except.pure]

/-- the kernel members `C.integral` initialises, as a map over the scalar types of the template -/
theorem cIntegral_kernels (ir : IntegralIR) (domain : Domain) (o : Options) (c : IntegralDescr)
    (h : C.integral ir domain o = .ok c) :
    c.kernels = [("float32", false), ("float64", false), ("complex64", true), ("complex128", true)].map
      (fun p => C.integralSlot o (ir.name ++ "_" ++ domain.name) p.1 p.2) := by
  unfold C.integral at h
  cases hh : ir.coordinateElementHash with
  | none => rw [hh] at h; cases h
  | some v => rw [hh] at h; cases h; rfl

/-- whichever entry of a list of `integralSlot`s is named after the scalar type carries the kernel -/
theorem lookup_integralSlot (o : Options) (factory : String) (ks : List (String × Bool))
    (h : o.scalarType.npName ∈ ks.map (·.1)) :
    (ks.map (fun p => C.integralSlot o factory p.1 p.2)).lookup ("tabulate_tensor_" ++ o.scalarType.npName)
      = some (.fn ("tabulate_tensor_" ++ factory)) := by
  induction ks with
  | nil => simp at h
  | cons p ks ih =>
    by_cases hp : p.1 = o.scalarType.npName
    · simp [C.integralSlot, hp]
    · have hmem := (List.mem_cons.mp h).resolve_left (fun e => hp e.symm)
      have hne : ("tabulate_tensor_" ++ o.scalarType.npName == "tabulate_tensor_" ++ p.1) = false := by
        simpa [String.append_right_inj] using Ne.symm hp
      simp only [List.map_cons, List.lookup, C.integralSlot, hne]
      exact ih hmem

/-- … and an entry with another name is `NULL` or not emitted -/
theorem integralSlot_other (o : Options) (factory k : String) (cx : Bool)
    (h : (C.integralSlot o factory k cx).1 ≠ "tabulate_tensor_" ++ o.scalarType.npName) :
    (C.integralSlot o factory k cx).2 = .null ∨ (C.integralSlot o factory k cx).2 = .omitted := by
  have hk : k ≠ o.scalarType.npName := fun e => h (by rw [C.integralSlot, e])
  simp only [C.integralSlot, if_neg hk]
  split
  · exact .inr rfl
  · exact .inl rfl

/-- In `ufcx_integral` exactly the member of the scalar type points to the kernel;
the others are NULL (or not emitted on win32). -/
theorem c_integral_slot (ir : IntegralIR) (domain : Domain) (o : Options) (c : IntegralDescr)
    (h : C.integral ir domain o = .ok c) :
    c.kernels.lookup ("tabulate_tensor_" ++ o.scalarType.npName)
        = some (.fn ("tabulate_tensor_" ++ ir.name ++ "_" ++ domain.name))
    ∧ ∀ p ∈ c.kernels, p.1 ≠ "tabulate_tensor_" ++ o.scalarType.npName → p.2 = .null ∨ p.2 = .omitted := by
  rw [cIntegral_kernels ir domain o c h]
  constructor
  · rw [lookup_integralSlot o _ _ (by cases o.scalarType <;> simp [ScalarType.npName])]
    simp only [String.append_assoc]
  · intro p hp
    obtain ⟨q, -, rfl⟩ := List.mem_map.mp hp
    exact integralSlot_other o _ q.1 q.2

/-- The encodings are NOT identical: without coefficients the C member
is `NULL`, the numba attribute `[]` — `descrEq` (through `Enc.toList`) identifies them. -/
theorem integral_encoding_differs :
    (C.integral ⟨"itg", [], false, some 7⟩ tri ⟨.float64, false⟩).map (·.enabledCoefficients) = .ok .absent
    ∧ (Numba.integral ⟨"itg", [], false, some 7⟩ tri ⟨.float64, false⟩).map (·.enabledCoefficients) = .ok (.arr []) := by
  decide +kernel

example : C.integral ⟨"itg", [true, false, true], true, some 7⟩ quad ⟨.complex64, false⟩ = .ok
    { factoryName := "itg_quadrilateral", enabledCoefficients := .arr [true, false, true],
      needsFacetPermutations := true, coordinateElementHash := 7, domain := 4,
      kernels := [("tabulate_tensor_float32", .null), ("tabulate_tensor_float64", .null),
                  ("tabulate_tensor_complex64", .fn "tabulate_tensor_itg_quadrilateral"),
                  ("tabulate_tensor_complex128", .null)] } := by decide +kernel

example : Numba.integral ⟨"itg", [true, false, true], true, some 7⟩ quad ⟨.complex64, false⟩ = .ok
    { factoryName := "itg_quadrilateral", enabledCoefficients := .arr [true, false, true],
      needsFacetPermutations := true, coordinateElementHash := 7, domain := 4,
      kernels := [("tabulate_tensor", .fn "tabulate_tensor_itg_quadrilateral")] } := by decide +kernel

/-- For every ExpressionIR whose coordinate-element hash is an
integer, and every scalar type, the two expression generators fail together (not exactly one
quadrature rule) or describe the same expression.
FULL STATEMENT (false, see `expression_descriptors_counterexample`):
`∀ ir o, resEq ExprDescr.descrEq (C.expression ir o) (Numba.expression ir o)`. -/
theorem expression_descriptors_partial (ir : ExpressionIR) (o : Options)
    (hh : ir.coordinateElementHash ≠ none) :
    resEq ExprDescr.descrEq (C.expression ir o) (Numba.expression ir o) := by
  unfold C.expression Numba.expression
  cases hhash : ir.coordinateElementHash with
  | none => exact absurd hhash hh
  | some h =>
    match ir.integrandPoints with
    | [] => trivial
    | _ :: _ :: _ => trivial
    | [p] =>
      refine ⟨rfl, rfl, ?_, rfl, rfl, toList_ifNonempty _, toList_ifNonempty _, toList_ifNonempty _, rfl, rfl,
        rfl, toList_ifNonempty _, rfl, rfl, rfl⟩
      cases o.scalarType <;> simp [ExprDescr.fnNames, ScalarType.npName]

def exExprIR : ExpressionIR :=
  { name := "expression_1", nameFromUflfile := "expression_x_e", integrandPoints := [⟨2, 2, ["0.0", "0.5", "1.0", "0.25"]⟩],
    originalCoefficientPositions := [1, 0], shape := [2, 2], numCoefficientNumbering := 2,
    coefficientNames := ["g", "f"], constantNames := [], tensorShape := [6], coordinateElementHash := some 99 }

example : C.expression exExprIR ⟨.float32, false⟩ = .ok
    { factoryName := "expression_1", nameFromUflfile := "expression_x_e",
      kernels := [("tabulate_tensor_float32", .fn "tabulate_tensor_expression_1"), ("tabulate_tensor_float64", .null),
                  ("tabulate_tensor_complex64", .null), ("tabulate_tensor_complex128", .null)],
      numCoefficients := 2, numConstants := 0, originalCoefficientPositions := .arr [1, 0],
      coefficientNames := .arr ["g", "f"], constantNames := .absent, numPoints := 2, entityDimension := 2,
      points := .arr ["0.0", "0.5", "1.0", "0.25"], valueShape := .arr [2, 2], numComponents := 2, rank := 1,
      coordinateElementHash := some 99 } := by decide +kernel

example : Numba.expression exExprIR ⟨.float32, false⟩ = .ok
    { factoryName := "expression_1", nameFromUflfile := "expression_x_e",
      kernels := [("tabulate_tensor", .fn "tabulate_tensor_expression_1")],
      numCoefficients := 2, numConstants := 0, originalCoefficientPositions := .arr [1, 0],
      coefficientNames := .arr ["g", "f"], constantNames := .arr [], numPoints := 2, entityDimension := 2,
      points := .arr ["0.0", "0.5", "1.0", "0.25"], valueShape := .arr [2, 2], numComponents := 2, rank := 1,
      coordinateElementHash := some 99 } := by decide +kernel

/-- With a `None` hash the numba generator emits a module
whose class carries `None`, while the C generator emits `UINT64_C(None)` (no descriptor: the text does
not compile).  `_compute_expression_ir` never stores `None` here, so this is an asymmetry of the two
generators on IRs the pipeline does not produce (the integral generators both `assert`). -/
theorem expression_descriptors_counterexample :
    ¬ resEq ExprDescr.descrEq (C.expression { exExprIR with coordinateElementHash := none } ⟨.float64, false⟩)
        (Numba.expression { exExprIR with coordinateElementHash := none } ⟨.float64, false⟩) := by decide +kernel

/-- `cell`, `exterior_facet`, `interior_facet` are bound to the values
of `enum ufcx_integral_type` … -/
theorem prelude_integral_types_partial :
    ∀ n ∈ ["cell", "exterior_facet", "interior_facet"],
      Numba.preludeConstants.lookup n = C.integralTypeEnum.lookup n := by decide +kernel

/-- … but the name `vertex` is bound to 60 (a value of the
retired `ufcx_shape` enum) where `ufcx_integral_type` has 3, and `ridge` is not bound at all, although
`form_integral_offsets` has an entry for each of the five types.
FULL STATEMENT (false): `∀ n ∈ C.integralTypeEnum.map (·.1), Numba.preludeConstants.lookup n = C.integralTypeEnum.lookup n`. -/
theorem prelude_integral_types_counterexample :
    Numba.preludeConstants.lookup "vertex" = some 60 ∧ C.integralTypeEnum.lookup "vertex" = some 3
    ∧ Numba.preludeConstants.lookup "ridge" = none ∧ C.integralTypeEnum.lookup "ridge" = some 4 := by decide +kernel

/-- None of the cell-type names bound by the prelude has the value
the `domain` attribute of the module's own integral classes carries (`int(basix.CellType)`). -/
theorem prelude_cell_tags_counterexample :
    ∀ p ∈ C.cellTypeTags, ∀ v, Numba.preludeConstants.lookup p.1 = some v → v ≠ p.2 := by decide +kernel

end Ffcx.C18Descr
