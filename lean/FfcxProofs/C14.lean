/-
C14 — concurrent JIT requests on a shared cache.

Theorems about EVERY state reachable in the transition system `FfcxModel/Jit/Cache.lean`
(`Reach`: any number of requests, any interleaving of their file-system steps, any fail/kill choice
at every step — code generation, the four phases of the C build, creating / writing / publishing
the ready marker; `ReachNF`: the same without failures).  The model is tied to
`ffcx/codegeneration/jit.py` by the forced-schedule correspondence of `harness/props/c14.py`.
Trusted: atomicity of `open(...,'x')`, `os.replace`, `os.path.exists`; the import machinery.

`compile_forms` and `compile_expressions` run the same protocol (`get_cached_module`,
`_compile_objects`, `_load_objects`, the same `except` block): one request of the model is one call
of either; every theorem below is about both, and the scheduler drives both.

Since /repo commit 101bdbe the ready marker is completed under a temporary name and moved into place
with one `os.replace`: it never exists without being complete and nobody removes it, so all theorems
hold for the full fault domain (before that commit a failing `fd.write` on the marker left a stale
marker behind: `marker_implies_complete`, `load_only_complete` and `reuse` were false then).
-/
import FfcxProofs.Lemmas.Cache

namespace Ffcx.Jit

/-- Mutual exclusion: in every reachable state at most one request is inside a lock epoch
(between its successful `open(c,'x')` and its return / release / death), stated pairwise and as a
count; the compiler is invoked at most once per lock acquisition, and acquisitions are bracketed by
releases (`os.replace(.c -> .c.failed)`). -/
theorem at_most_one_builder {s : Sys} (h : Reach s) :
    (∀ (i j : Nat) (p q : Proc), s.procs[i]? = some p → s.procs[j]? = some q →
        p.pc.isB = true → q.pc.isB = true → i = j) ∧
    s.procs.countP (fun p => p.pc.isB) ≤ 1 ∧
    s.nCompile ≤ s.nLock ∧ s.nLock ≤ s.nRel + 1 := by
  have hi := inv_reach h
  refine ⟨hi.mutex, countP_le_one_of_unique _ _ hi.mutex, hi.compiles, ?_⟩
  have := hi.epochs
  split at this <;> omega

/-- non-vacuity: three racing requests, exactly one becomes the builder, two wait -/
example : (run (init 3 2) [(0, .none), (1, .none), (2, .none)]).procs.countP (fun p => p.pc.isB) = 1 ∧
    (run (init 3 2) [(0, .none), (1, .none), (2, .none)]).procs.map (·.pc) = [.bGen, .wPoll 0, .wPoll 0] := by
  decide

/-- The ready marker certifies a complete build: `.c.cached` exists → the `.so` is completely
written, `.c` holds the source and the object file exists — in every reachable state, whatever
failed or was killed, including a failing write of the marker itself. -/
theorem marker_implies_complete {s : Sys} (h : Reach s) (hm : s.fs.marker = true) :
    s.fs.so = .complete ∧ s.fs.lock = .source ∧ s.fs.obj = true :=
  (inv_reach h).ginv.1 hm

/-- non-vacuity: the marker is reachable (request 0 builds while request 1 polls); a failing write of
the marker leaves neither marker nor temp file nor lock -/
example : (run (init 2 3) ((1, .none) :: List.replicate 12 (0, .none))).fs.marker = false ∧
    (run (init 2 3) ((0, .none) :: (1, .none) :: List.replicate 11 (0, .none))).fs.marker = true ∧
    (run (init 2 3) failedMarkerWrite).fs = { so := .complete, obj := true, failed := true, gen := 1 } := by
  decide

/-- Nobody ever imports an incomplete module: whenever the next step of a request is the import
(`module_from_spec`/`exec_module`, waiter or builder) the `.so` is complete; the observable of every
load step says so; and every request that has returned imported a complete file, namely the `.so`
generation now on disk (`tok = fs.gen`: all requests that have returned hold the same module). -/
theorem load_only_complete {s : Sys} (h : Reach s) :
    (∀ (pid : Nat) (p : Proc), s.procs[pid]? = some p → p.pc.isLoad = true → s.fs.so = .complete) ∧
    (∀ (pid : Nat) (c : Choice), (obs s pid c).op = .load → (obs s pid c).res = .so .complete) ∧
    (∀ (i : Nat) (p : Proc) (b : Bool) (so : So), s.procs[i]? = some p → p.pc = .done b so →
        so = .complete ∧ p.tok = s.fs.gen) := by
  have hi := inv_reach h
  refine ⟨fun pid p hp => hi.load_complete hp, ?_, fun i p b so hp => hi.done_tok hp⟩
  intro pid c hop
  cases hp : s.procs[pid]? with
  | none => simp [obs, hp] at hop
  | some p =>
    rcases e : stepProc s.timeout s.fs p c with ⟨fs', p', o⟩
    rw [(step_procs_self hp e).2.2] at hop ⊢
    have hl := (stepProc_obs e).load hop
    rw [hl.2, hi.load_complete hp hl.1]

/-- non-vacuity: the builder has just published the marker, a waiter is about to import -/
example :
    let s := run (init 2 3) ((0, .none) :: (1, .none) :: List.replicate 11 (0, .none) ++ [(1, .none), (1, .none)])
    s.procs.map (·.pc) = [.bRestore, .wLoad] ∧ obs s 1 .none = ⟨.load, .so .complete⟩ := by
  decide

/-- the interleaving of the former withdrawn-marker race (request 1 polls while request 0 is writing
the marker's temp file, the write fails, request 2 rebuilds): request 1 never sees a marker before
the rebuild is complete -/
example :
    let sch := List.replicate 9 (0, Choice.none) ++ [(1, .none), (1, .none)] ++
      [(0, .fail), (0, .none), (0, .none), (0, .none)] ++ List.replicate 6 (2, .none) ++ [(1, .none)]
    (run (init 3 3) sch).procs.map (·.pc) = [.raised (.build .tmpWrite), .wPoll 2, .bLink2] ∧
    (run (init 3 3) sch).fs.marker = false := by
  decide

/-- Reuse: once the marker exists no request is in (or ever enters) code generation or
compilation, a newly arriving request finds the lock taken (`open(c,'x')` fails), and along every
continuation, with arbitrary faults, the marker stays, the lock is never acquired and the compiler
never invoked again. -/
theorem reuse {s : Sys} (h : Reach s) (hm : s.fs.marker = true) :
    (∀ (i : Nat) (p : Proc), s.procs[i]? = some p → p.pc.isCompile = false) ∧
    (∀ (pid : Nat) (p : Proc), s.procs[pid]? = some p → p.pc = .idle →
        obs s pid .none = ⟨.lock, .exists_⟩) ∧
    (∀ sch : List (Nat × Choice), (run s sch).fs.marker = true ∧ (run s sch).nLock = s.nLock ∧
        (run s sch).nCompile = s.nCompile ∧
        ∀ (i : Nat) (p : Proc), (run s sch).procs[i]? = some p → p.pc.isCompile = false) := by
  have hi := inv_reach h
  have key : ∀ {s : Sys}, Inv s → s.fs.marker = true →
      ∀ (i : Nat) (p : Proc), s.procs[i]? = some p → p.pc.isCompile = false := by
    intro s hi hm i p hp
    cases hc : p.pc.isCompile with
    | false => rfl
    | true => rw [(hi.loc i p hp).noMarker (isCompile_isPre hc)] at hm; cases hm
  refine ⟨key hi hm, ?_, ?_⟩
  · intro pid p hp hidle
    have hl := (hi.ginv.1 hm).2.1
    rcases e : stepProc s.timeout s.fs p .none with ⟨fs', p', o⟩
    rw [(step_procs_self hp e).2.2]
    rw [stepProc_live (by rw [hidle]; rfl) (by simp), hidle] at e
    by_cases ht : s.timeout = 0 <;> simp [stepLive, hl, ht] at e <;> exact e.2.2.symm
  · intro sch
    have hr := run_after_marker s sch hi hm
    exact ⟨hr.1, hr.2.1, hr.2.2, key (inv_reach (reach_run h sch)) hr.1⟩

/-- non-vacuity: a late request on a finished cache waits zero polls, imports, compiles nothing -/
example :
    let s := run (init 2 3) (List.replicate 15 (0, .none))
    s.fs.marker = true ∧ s.nCompile = 1 ∧ obs s 1 .none = ⟨.lock, .exists_⟩ ∧
    (run s (List.replicate 4 (1, .none))).procs.map (·.pc) = [.done true .complete, .done false .complete] ∧
    (run s (List.replicate 4 (1, .none))).nCompile = 1 := by
  decide

/-- A waiter raises `TimeoutError` after exactly `timeout` unsuccessful polls: a polling waiter has
made `i < timeout` unsuccessful polls; a further unsuccessful poll leads to the `(i+1)`-th wait or,
iff `i + 1 = timeout`, to the exception; whoever raised the timeout polled exactly `timeout` times. -/
theorem timeout_bound {s : Sys} (h : Reach s) (pid : Nat) (p : Proc) (hp : s.procs[pid]? = some p) :
    (∀ i : Nat, p.pc = .wPoll i → i < s.timeout ∧ p.polls = i ∧
      (s.fs.marker = false → ∀ c : Choice, c ≠ .kill →
        (step s pid c).procs[pid]? = some { p with
          pc := if i + 1 = s.timeout then .raised .timeout else .wPoll (i + 1), polls := i + 1 })) ∧
    (p.pc = .raised .timeout → p.polls = s.timeout) := by
  have hloc := (inv_reach h).loc pid p hp
  constructor
  · intro i hpc
    obtain ⟨hlt, hpolls, -⟩ := hloc.wPoll hpc
    refine ⟨hlt, hpolls, ?_⟩
    intro hm c hc
    have e : stepProc s.timeout s.fs p c = (s.fs, { p with
        pc := if i + 1 = s.timeout then .raised .timeout else .wPoll (i + 1), polls := i + 1 },
        ⟨.poll, .false_⟩) := by
      rw [stepProc_live (by rw [hpc]; rfl) hc, hpc]
      by_cases ht : i + 1 < s.timeout
      · have : ¬ (i + 1 = s.timeout) := by omega
        simp [stepLive, hm, ht, this, hpolls]
      · have : i + 1 = s.timeout := by omega
        simp [stepLive, hm, this, hpolls]
    exact (step_procs_self hp e).1
  · exact fun hpc => (hloc.timedOut hpc).1

/-- non-vacuity: timeout 2, the builder stalls, the waiter polls twice and raises -/
example : (run (init 2 2) [(0, .none), (1, .none), (1, .none)]).procs[1]? =
      some { pc := .wPoll 1, polls := 1 } ∧
    (run (init 2 2) [(0, .none), (1, .none), (1, .none), (1, .none)]).procs[1]? =
      some { pc := .raised .timeout, polls := 2 } := by
  decide

/-- Failure-free runs: for every number of requests, every timeout and every failure-free schedule
from the empty cache: the lock is acquired and the compiler invoked at most once; every request
scheduled at least `timeout + 16` times has terminated; every terminated request has either
returned a completely built module with its globals restored — THE SAME module for all of them:
the first and only `.so` the linker produced (`tok = 1`, the one on disk), built by the unique
builder — or raised `TimeoutError` after exactly `timeout` unsuccessful polls of its own (so with a
timeout larger than the number of times it is scheduled it does not raise at all). -/
theorem no_failure_all_succeed (n t : Nat) (sch : List (Nat × Choice))
    (hnf : ∀ x ∈ sch, x.2 = .none) :
    (run (init n t) sch).nLock ≤ 1 ∧ (run (init n t) sch).nCompile ≤ 1 ∧
    ∀ (j : Nat) (p : Proc), (run (init n t) sch).procs[j]? = some p →
      (sched sch j ≥ t + 16 → p.pc.terminal = true) ∧
      (p.pc.terminal = true →
        (∃ b, p.pc = .done b .complete ∧ p.g = userG ∧ p.tok = 1 ∧ (run (init n t) sch).fs.gen = 1) ∨
        (p.pc = .raised .timeout ∧ p.polls = t)) ∧
      (sched sch j < t → p.pc ≠ .raised .timeout) := by
  have hnfr := reachNF_run (ReachNF.init n t) sch hnf
  have hr := reachNF_reach hnfr
  have hi := inv_reach hr
  have hn := invNF_reach hnfr
  have hlock := hn.nLock_le_one hi
  refine ⟨hlock, Nat.le_trans hi.compiles hlock, ?_⟩
  intro j p hp
  have hloc := (hi.loc j p hp).pc
  have hto : (run (init n t) sch).timeout = t := by rw [run_timeout]; rfl
  refine ⟨?_, ?_, ?_⟩
  · intro hs
    have hnr : noRetry sch j := fun x hx _ => by rw [hnf x hx]; simp
    exact terminal_of_sched (init n t) sch j p hnr (by simpa [init] using hs) hp
  · intro hterm
    have hcl := hn.clean j p hp
    obtain ⟨pc, g, saved, polls, tok⟩ := p
    cases pc <;> cases hterm
    case done.refl b so =>
      obtain ⟨rfl, htok, hm, hg⟩ := hloc
      have := hi.lower hm; have := hi.genle; have := hi.compiles
      have hgen : (run (init n t) sch).fs.gen = 1 := by omega
      exact .inl ⟨b, rfl, hg, htok.trans hgen, hgen⟩
    case raised.refl e =>
      cases e
      · exact .inr ⟨rfl, hto ▸ hloc.1⟩
      · exact hloc.elim
      · cases hcl
    case dead.refl => cases hcl
  · intro hs hpc
    have := ((hi.loc j p hp).timedOut hpc).1
    have := polls_run (init n t) sch j 0 (fun q hq => by cases init_proc hq; exact Nat.le_refl 0) p hp
    omega

/-- non-vacuity: four requests, round-robin, timeout 20: all return the complete module, one compile -/
example :
    let sch := (List.range 40).flatMap fun _ => [(0, Choice.none), (1, .none), (2, .none), (3, .none)]
    (run (init 4 20) sch).procs.map (·.pc) =
      [.done true .complete, .done false .complete, .done false .complete, .done false .complete] ∧
    (run (init 4 20) sch).procs.map (·.tok) = [1, 1, 1, 1] ∧
    (run (init 4 20) sch).nCompile = 1 := by
  decide +kernel

/-- Exactly one compiles: in every failure-free run (any number of requests, any interleaving, any timeout) in which at least
one request has returned — in particular in every run in which all
requests have finished successfully — the compiler has been invoked exactly once, the lock acquired
exactly once, the `.so` linked exactly once, and exactly one request is (or was) the builder.
(`at_most_one_builder`/`no_failure_all_succeed` give `≤ 1`; this is the lower bound.) -/
theorem exactly_one_builder (n t : Nat) (sch : List (Nat × Choice))
    (hnf : ∀ x ∈ sch, x.2 = .none)
    (hfin : ∃ (j : Nat) (p : Proc) (b : Bool) (so : So),
      (run (init n t) sch).procs[j]? = some p ∧ p.pc = .done b so) :
    (run (init n t) sch).nCompile = 1 ∧ (run (init n t) sch).nLock = 1 ∧
    (run (init n t) sch).fs.gen = 1 ∧
    (run (init n t) sch).procs.countP (fun p => p.pc.isBB) = 1 := by
  have hnfr := reachNF_run (ReachNF.init n t) sch hnf
  have hi := inv_reach (reachNF_reach hnfr)
  have hn := invNF_reach hnfr
  obtain ⟨j, p, b, so, hp, hpc⟩ := hfin
  have hlow := hi.lower ((hi.loc j p hp).done hpc).2.2.1
  have hlock := hn.nLock_le_one hi
  have := hi.compiles
  have := hi.genle
  have := hn.built
  refine ⟨by omega, by omega, by omega, by omega⟩

/-- non-vacuity: three requests, all finish successfully; exactly one compile, one builder -/
example :
    let sch := (List.range 20).flatMap fun _ => [(2, Choice.none), (0, .none), (1, .none)]
    (run (init 3 14) sch).procs.map (·.pc) = [.done false .complete, .done false .complete, .done true .complete] ∧
    (run (init 3 14) sch).nCompile = 1 ∧ (run (init 3 14) sch).procs.countP (fun p => p.pc.isBB) = 1 := by
  decide +kernel

end Ffcx.Jit
