/-
C04 — the link between real expression kernels and the layout theorems.

`Ffcx.Layout.expr_layout / expr_layout_inj` (FfcxProofs/Lemmas/Layout.lean) are statements about the
row-major flattening of `[P, C, D]`.  This file ties them to the subscripts of the exported ASTs:
`exprStores_sound` (every store into `A` of a kernel accepted by the decidable `exprStoresB shape`, which the driver
runs on every expression kernel of the corpus with `shape = exprAShape`, is accepted by `exprStoreOK shape`), then
`expr_store_slot` / `expr_store_slot_rank0` (an lvalue `exprStoreOK` accepts is `A[MultiIndex([iq, c(, dof)], shape)]`,
and its subscript evaluates, through the node's own `global_index`, to the slot of `expr_layout`).
-/
import FfcxModel.LNodes.ExprStores
import FfcxProofs.Lemmas.ExprEq
import FfcxProofs.Lemmas.Layout
import FfcxProofs.C17

namespace Ffcx.LNodes
open Ffcx.Layout

theorem eqE_sound : ∀ (a b : Expr), eqE a b = true → a = b := eqEL_sound.1

theorem eqL_sound : ∀ (a b : List Expr), eqL a b = true → a = b := eqEL_sound.2

mutual
theorem exprStores_sound (shape : List Nat) : ∀ (k : Stmt), exprStoresB shape k = true →
    ∀ l ∈ storesA k, exprStoreOK shape l = true
  | .assign l r, h, l', hl' | .addAssign l r, h, l', hl' => by
    simp only [storesA] at hl'
    split at hl'
    · rename_i hs
      simp only [List.mem_singleton] at hl'; subst hl'
      simpa [exprStoresB, hs] using h
    · simp at hl'
  | .vdecl .., _, l', hl' => by simp [storesA] at hl'
  | .adecl .., _, l', hl' => by simp [storesA] at hl'
  | .comment _, _, l', hl' => by simp [storesA] at hl'
  | .forRange _ _ _ body, h, l', hl' => by
    simp only [exprStoresB] at h
    simp only [storesA] at hl'
    exact exprStoresL_sound shape body h l' hl'
  | .block ss, h, l', hl' => by
    simp only [exprStoresB] at h
    simp only [storesA] at hl'
    exact exprStoresL_sound shape ss h l' hl'
  | .sect _ decls stmts _ _ _, h, l', hl' => by
    simp only [exprStoresB, Bool.and_eq_true] at h
    simp only [storesA, List.mem_append] at hl'
    rcases hl' with hl' | hl'
    · exact exprStoresL_sound shape decls h.1 l' hl'
    · exact exprStoresL_sound shape stmts h.2 l' hl'
theorem exprStoresL_sound (shape : List Nat) : ∀ (ss : List Stmt), exprStoresBL shape ss = true →
    ∀ l ∈ storesAL ss, exprStoreOK shape l = true
  | [], _, l', hl' => by simp [storesAL] at hl'
  | s :: ss, h, l', hl' => by
    simp only [exprStoresBL, Bool.and_eq_true] at h
    simp only [storesAL, List.mem_append] at hl'
    rcases hl' with hl' | hl'
    · exact exprStores_sound shape s h.1 l' hl'
    · exact exprStoresL_sound shape ss h.2 l' hl'
end

/-- Rank 1.  An lvalue accepted by `exprStoreOK [P, C, D]` is
`A[MultiIndex([iq, c, dof], [P, C, D])]` with a literal component `c < C` and a dof expression that does not
mention `iq`; in every integer state with `iq = q < P` in which the dof expression evaluates to `k < D`,
the subscript list evaluates to the single flat index `q·C·D + c·D + k`, which is `< P·C·D` and is the
`flatIdx` of `(q, c, k)` in `[P, C, D]` (`Ffcx.Layout.expr_layout`): the store goes to
`A[point q][component c][dof k]`.  Distinct `(q, c, k)` give distinct slots (`expr_layout_inj`). -/
theorem expr_store_slot (P C D : Nat) (lhs : Expr) (h : exprStoreOK [P, C, D] lhs = true) :
    ∃ (dt : DType) (c : Nat) (dofE : Expr),
      lhs = .idx "A" dt [mkMultiIndex [.ex iqSym, .py (c : Int), .ex dofE] [P, C, D]]
      ∧ c < C ∧ mentionsE "iq" dofE = false
      ∧ ∀ (iv : AList Int) (ia : AList (Array Int)) (q k : Nat),
          iv.get "iq" = some (q : Int) → q < P → evalI iv ia dofE = some (k : Int) → k < D →
          evalIs iv ia [mkMultiIndex [.ex iqSym, .py (c : Int), .ex dofE] [P, C, D]]
              = some [((q * C * D + c * D + k : Nat) : Int)]
          ∧ flatIdx [P, C, D] [(q : Int), (c : Int), (k : Int)] = some (q * C * D + c * D + k)
          ∧ q * C * D + c * D + k < P * C * D := by
  unfold exprStoreOK at h
  split at h
  · simp at h
  · rename_i arr dt s0 c dofE sizes gi
    simp only [Bool.and_eq_true, decide_eq_true_eq, Bool.not_eq_true'] at h
    obtain ⟨⟨⟨⟨⟨harr, _⟩, hc0⟩, hcC⟩, hm⟩, heq⟩ := h
    obtain ⟨c, rfl⟩ := Int.eq_ofNat_of_zero_le hc0
    have hc : c < C := by simpa using hcC
    refine ⟨dt, c, dofE, by rw [harr, eqE_sound _ _ heq], hc, hm, ?_⟩
    intro iv ia q k hq hqP hk hkD
    obtain ⟨hflat, hlt⟩ := expr_layout P C D q c k hqP hc hkD
    have hv : evalIs iv ia ([MSym.ex iqSym, .py (c : Int), .ex dofE].map MSym.toExpr)
        = some [(q : Int), (c : Int), (k : Int)] := by
      simp [evalIs, MSym.toExpr, iqSym, evalI, hq, hk]
    -- the `flatIdx` half of `global_index_value` (C17.lean) (not the `dotStrides` half): the node's own `global_index`
    -- evaluates to the slot of `expr_layout`
    have hg := (global_index_value iv ia [.ex iqSym, .py (c : Int), .ex dofE] [P, C, D] _ hv).2 _ hflat
    refine ⟨?_, hflat, hlt⟩
    simp only [mkMultiIndex, evalIs, evalI, hg]
    rfl
  · simp at h

/-- Rank 0: `A[MultiIndex([iq, c], [P, C])]` addresses `q·C + c`. -/
theorem expr_store_slot_rank0 (P C : Nat) (lhs : Expr) (h : exprStoreOK [P, C] lhs = true) :
    ∃ (dt : DType) (c : Nat),
      lhs = .idx "A" dt [mkMultiIndex [.ex iqSym, .py (c : Int)] [P, C]] ∧ c < C
      ∧ ∀ (iv : AList Int) (ia : AList (Array Int)) (q : Nat), iv.get "iq" = some (q : Int) → q < P →
          evalIs iv ia [mkMultiIndex [.ex iqSym, .py (c : Int)] [P, C]] = some [((q * C + c : Nat) : Int)]
          ∧ flatIdx [P, C] [(q : Int), (c : Int)] = some (q * C + c) ∧ q * C + c < P * C := by
  unfold exprStoreOK at h
  split at h
  · rename_i arr dt s0 c sizes gi
    simp only [Bool.and_eq_true, decide_eq_true_eq] at h
    obtain ⟨⟨⟨⟨harr, _⟩, hc0⟩, hcC⟩, heq⟩ := h
    obtain ⟨c, rfl⟩ := Int.eq_ofNat_of_zero_le hc0
    have hc : c < C := by simpa using hcC
    refine ⟨dt, c, by rw [harr, eqE_sound _ _ heq], hc, ?_⟩
    intro iv ia q hq hqP
    obtain ⟨hflat, hlt⟩ := expr_layout_rank0 P C q c hqP hc
    have hv : evalIs iv ia ([MSym.ex iqSym, .py (c : Int)].map MSym.toExpr) = some [(q : Int), (c : Int)] := by
      simp [evalIs, MSym.toExpr, iqSym, evalI, hq]
    have hg := (global_index_value iv ia [.ex iqSym, .py (c : Int)] [P, C] _ hv).2 _ hflat
    refine ⟨?_, hflat, hlt⟩
    simp only [mkMultiIndex, evalIs, evalI, hg]
    rfl
  · simp at h
  · simp at h

/-- non-vacuity: the store of a rank-1 vector-valued expression kernel (`expr_rank1_vector` of the corpus:
2 points, 4 components, 6 dofs, blocked dof index `2*i`) as the generator emits it -/
example : exprStoreOK [2, 4, 6]
    (.idx "A" .scalar [mkMultiIndex [.ex iqSym, .py 1, .ex (.bin .mul (.litI 2) (.sym "i" .int))] [2, 4, 6]]) = true := by
  decide +kernel

end Ffcx.LNodes
