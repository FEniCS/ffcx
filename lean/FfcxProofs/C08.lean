/-
C08 — kernels stay inside the extents the UFCx contract gives them.

`exec` is an instrumented semantics: every scalar-array read/write of an assignment or a variable
declaration is checked against the declared extents per axis (`flatIdx`), every read of
`entity_local_index` / `quadrature_permutation` against their lengths; any violation is an `Err`.
Not checked: reads inside the initialiser list of an `ArrayDecl` (`exec` evaluates it without `safeE`;
the exporter `harness/export.py` admits literal initialisers only), and a read is checked against the
declared `dims`, a write also against the length of the stored data.

Theorem `oob_data_independent`: whether a run errs — and with which error — depends only on the
integer part of the state (loop indices, entity / permutation codes) and on the *shapes* of the
arrays, never on the scalar data and not even on the scalar domain.  Hence one successful run over
the one-point domain `U`, with arrays of exactly the contract extents, proves absence of
out-of-bounds accesses for ALL coefficient / constant / coordinate values and all initial A.
The remaining quantifier (entity and permutation codes) ranges over a finite set that the check
enumerates completely for every kernel.
-/
import FfcxProofs.Lemmas.SameShape
import FfcxProofs.Lemmas.Index
import FfcxModel.LNodes.ShapeDomain

namespace Ffcx.LNodes

variable {R : Type} [Add R] [Sub R] [Mul R] [Div R] [Neg R] [IntCast R]

/-- errors (incl. out-of-bounds) are independent of the scalar data and domain -/
theorem oob_data_independent (x : Extra R) (k : Stmt) (σ : St R) (τ : St U) (h : SameShape σ τ) :
    (∀ e, exec x k σ = .error e ↔ exec uExtra k τ = .error e) ∧
    ((∃ τ', exec uExtra k τ = .ok τ') → ∃ σ', exec x k σ = .ok σ') := by
  have hr := exec_sameShape x uExtra k σ τ h
  cases h1 : exec x k σ with
  | error e =>
    obtain ⟨_, h2, rfl⟩ := (h1 ▸ hr).error_left
    rw [h2]
    exact ⟨fun _ => ⟨fun h => congrArg _ (Except.error.inj h), fun h => congrArg _ (Except.error.inj h)⟩,
      fun ⟨_, h⟩ => nomatch h⟩
  | ok a =>
    obtain ⟨b, h2, _⟩ := (h1 ▸ hr).ok_left
    rw [h2]
    exact ⟨fun _ => ⟨nofun, nofun⟩, fun _ => ⟨a, rfl⟩⟩

def Arr.toShape (a : Arr R) : Arr U :=
  { dims := a.dims, data := Array.replicate a.data.size ⟨⟩, const := a.const }

/-- the shape-only image of a state -/
def toShape (σ : St R) : St U :=
  { iv := σ.iv, ia := σ.ia,
    sv := σ.sv.map (fun p => (p.1, (fun (_ : R) => (⟨⟩ : U)) p.2)),
    sa := σ.sa.map (fun p => (p.1, Arr.toShape p.2)) }

-- `toShape` needs no operation on the scalars; the classes are arguments as for the theorems around it
set_option linter.unusedSectionVars false in
theorem sameShape_toShape (σ : St R) : SameShape σ (toShape σ) := by
  refine ⟨rfl, rfl, ?_, ?_⟩
  · intro n
    simp only [toShape]
    rw [AList.get_map (fun (_ : R) => (⟨⟩ : U)) σ.sv n]
    cases σ.sv.get n <;> rfl
  · intro n
    simp only [toShape]
    rw [AList.get_map Arr.toShape σ.sa n]
    cases σ.sa.get n <;> simp [Arr.shape, Arr.toShape]

/-- If the kernel runs without error on the shape image of a state, it runs
    without error — no out-of-bounds read or write, no read of an absent entity/permutation
    entry, no write to a const table — on the state itself, whatever the scalar values are. -/
theorem bounds_sound (x : Extra R) (k : Stmt) (σ : St R)
    (h : ∃ τ', exec uExtra k (toShape σ) = .ok τ') : ∃ σ', exec x k σ = .ok σ' :=
  (oob_data_independent x k σ (toShape σ) (sameShape_toShape σ)).2 h

/-- every multi-dimensional subscript that `exec` accepts is inside its own axis extent, and
    its flat offset is inside the array: any rank, any sizes -/
theorem subscript_in_extent (ds : List Nat) (is : List Int) (k : Nat) (h : flatIdx ds is = some k) :
    k < sizeProd ds ∧ is.length = ds.length ∧
    ∀ p, p ∈ List.zip ds is → 0 ≤ p.2 ∧ p.2 < (p.1 : Int) :=
  ⟨flatIdx_lt ds is k h, flatIdx_length ds is k h, flatIdx_inrange ds is k h⟩

/-- row-major flattening is injective: distinct in-range index tuples address distinct entries
    (so the blocks of `A` written through `MultiIndex` never alias) -/
theorem flatten_inj (ds : List Nat) (is js : List Int) (k : Nat)
    (h1 : flatIdx ds is = some k) (h2 : flatIdx ds js = some k) : is = js :=
  flatIdx_inj ds is js k h1 h2

/-- non-vacuity: a 2×3 table read at [1][2] is accepted, [2][0] and [0][3] are rejected -/
example : flatIdx [2, 3] [1, 2] = some 5 ∧ flatIdx [2, 3] [2, 0] = none ∧ flatIdx [2, 3] [0, 3] = none := by
  decide

end Ffcx.LNodes
