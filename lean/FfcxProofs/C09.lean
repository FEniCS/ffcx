/-
C09 — scalar types agree; complex mode is sesquilinear.  (Type-inference / folding facts.)

Precision agreement of the four kernels is floating point and is decided by differential runs;
sesquilinearity is UFL's lowering (taken as given) plus the facts below, which are what FFCx itself
adds: conj/real/imag are folded away only on operands whose dtype is REAL, and dtype merging is
order independent with SCALAR absorbing.
-/
import FfcxModel.LNodes.Dtypes
import FfcxModel.LNodes.Sem

namespace Ffcx.LNodes
open Lean.Grind
attribute [local instance] Lean.Grind.Ring.intCast

theorem mergeDtypes_congr {ds ds' : List DType} (h : ∀ d, d ∈ ds ↔ d ∈ ds') :
    mergeDtypes ds = mergeDtypes ds' := by
  have hc (d : DType) : ds.contains d = ds'.contains d :=
    Bool.eq_iff_iff.2 (by simp only [List.contains_iff_mem, h])
  unfold mergeDtypes
  simp only [hc]

theorem mergeDtypes_comm (a b : DType) : mergeDtypes [a, b] = mergeDtypes [b, a] :=
  mergeDtypes_congr fun _ => (List.Perm.swap b a []).mem_iff

/-- SCALAR absorbs every valid dtype; NONE poisons -/
theorem mergeDtypes_scalar_absorbs (ds : List DType) (h1 : DType.scalar ∈ ds) (h2 : DType.none ∉ ds) :
    mergeDtypes ds = some .scalar := by
  unfold mergeDtypes
  simp [h1, h2]

theorem mergeDtypes_real (ds : List DType) (h : mergeDtypes ds = some .real) :
    DType.scalar ∉ ds ∧ DType.none ∉ ds ∧ DType.real ∈ ds := by
  unfold mergeDtypes at h
  by_cases c1 : DType.none ∈ ds
  · simp [c1] at h
  · by_cases c2 : DType.scalar ∈ ds
    · simp [c1, c2] at h
    · by_cases c3 : DType.real ∈ ds
      · exact ⟨c2, c1, c3⟩
      · simp [c1, c2, c3] at h
        by_cases c4 : DType.int ∈ ds
        · simp [c4] at h
        · by_cases c5 : DType.bool ∈ ds <;> simp [c4, c5] at h

variable {R : Type} [Field R]

/-- the scalar `v` lies in the real sub-domain, as far as `conj/real/imag` can tell -/
def RealVal (x : Extra R) (v : R) : Prop :=
  x.fn "conj" [v] = v ∧ x.fn "real" [v] = v ∧ x.fn "imag" [v] = x.ofRat 0 0

/-- On an operand whose value is real, the folded result of `_math_function`
    has the value of the unfolded call — for `conj`, `real`, `imag`; every other name, every SCALAR
    operand and every argument count is left untouched. -/
theorem mathfn_fold_sound (x : Extra R) (σ : St R) (name : String) (dt : DType) (args : List Expr)
    (hreal : ∀ a, args = [a] → dt = .real → RealVal x (eval x σ a)) :
    eval x σ (mathFunction name dt args) = eval x σ (.call name dt args) := by
  unfold mathFunction
  split
  · rename_i a
    split
    · rename_i h
      simp only [Bool.and_eq_true, Bool.or_eq_true, beq_iff_eq] at h
      obtain ⟨hn, rfl⟩ := h
      have hr := hreal a rfl rfl
      rcases hn with rfl | rfl
      · exact hr.1.symm
      · exact hr.2.1.symm
    · split
      · rename_i h
        simp only [Bool.and_eq_true, beq_iff_eq] at h
        obtain ⟨rfl, rfl⟩ := h
        exact (hreal a rfl rfl).2.2.symm
      · rfl
  · rfl

/-- the function table used for the non-vacuity example -/
def ratExtraC : Extra Rat :=
  { ofRat := fun re _ => re, lt := fun a b => decide (a < b), le := fun a b => decide (a ≤ b),
    eqb := fun a b => decide (a = b),
    fn := fun f args => match f, args with
      | "conj", [a] => a | "real", [a] => a | "imag", [_] => 0 | _, _ => 0 }

/-- non-vacuity: over the rationals every value is real -/
theorem ratExtraC_real (v : Rat) : RealVal ratExtraC v := ⟨rfl, rfl, rfl⟩

/-- an arithmetic node whose inferred dtype is REAL has no SCALAR-typed operand (one node, its two
    direct operands; nothing is said about what lies below them) -/
theorem real_literal_real (a b : Expr) (op : BinOp) (hop : op.isArith = true)
    (h : dtypeOf (.bin op a b) = some .real) :
    dtypeOf a ≠ some .scalar ∧ dtypeOf b ≠ some .scalar := by
  simp only [dtypeOf, hop, if_true] at h
  cases ha : dtypeOf a <;> cases hb : dtypeOf b <;> simp [ha, hb] at h
  rename_i x y
  obtain ⟨h1, _, _⟩ := mergeDtypes_real [x, y] h
  simp at h1
  constructor
  · intro hx; simp at hx; exact h1.1 hx.symm
  · intro hy; simp at hy; exact h1.2 hy.symm

end Ffcx.LNodes
