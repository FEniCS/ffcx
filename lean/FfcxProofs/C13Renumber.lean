/-
C13, stability half — the renumbering of `ffcx.naming.compute_signature` (naming.py:41-67) makes the signature
of an expression independent of the process history: of the values of the counters (`renumbering_invariant`) and
of the iteration orders of the `extract_type` sets, the only way PYTHONHASHSEED enters (`set_order_irrelevant`).

Model: FfcxModel/Jit/Renumber.lean (tied to the real `compute_signature` by harness/props/c13.py
`corr_renumbering`: the captured dict `rn`, the captured iteration orders of the `extract_type` sets and the
`_ufl_signature_data_` of every terminal are compared with `renumber` / `termData`).

What is outside: UFL's own canonicalisation (operand sorting of sums/products, index renumbering) is upstream
of the model — the theorem takes the terminal list of the other process (`traverse_unique_terminals`) to be the
relabelled list (`terms.map ρ.term`), which for relabellings that are order-compatible on all three counters
is UFL's business (trusted; searched by the stability runs).
-/
import FfcxProofs.Lemmas.Renumber

namespace Ffcx.Naming
open Rn

/-- The renumbered leaf data — hence `compute_expression_signature(expr, rn)`, whatever UFL's tree hash `H`
is — is invariant under every relabelling of the counters (coefficient counts, constant counts, mesh ids) that is
order-compatible on the coefficient counts and on the constant counts OCCURRING IN THE EXPRESSION and injective on
its mesh ids, when the other process iterates its three `extract_type` sets in the corresponding order. Nothing is
assumed about counters of other objects, so shifts, stretches and any change of creation order of unrelated
objects are covered, and mesh ids may even be permuted. -/
theorem renumbering_invariant {σ : Type} (H : List TermData → σ) {terms : List Term} {o : SetOrders}
    (hv : o.Valid terms) {ρ : Relabel} (hρ : ρ.Compatible terms) :
    exprSignature H (terms.map ρ.term) (ρ.orders o) = exprSignature H terms o := by
  unfold exprSignature leafData
  rw [renumber_relabel hv hρ, List.map_map]
  congr 1
  exact List.map_congr_left fun _ => termData_relabel hρ (renumber_within hv)

/-- The dict `rn` does not depend on how the process happens to iterate its sets, if distinct members of the
sorted sets have distinct keys (two different coefficients with the same `count()` need an explicit `count=`
argument). -/
theorem set_order_irrelevant {terms : List Term} {o₁ o₂ : SetOrders} (h₁ : o₁.Valid terms)
    (h₂ : o₂.Valid terms) (hk : DistinctKeys terms) : renumber terms o₁ = renumber terms o₂ := by
  simp only [renumber, sortBy_of_perm h₁.1 h₂.1 hk.1, sortBy_of_perm h₁.2.1 h₂.2.1 hk.2.1,
    sortBy_of_perm h₁.2.2 h₂.2.2 hk.2.2]

/-! ### The proviso of `set_order_irrelevant` is a property of the program text -/

theorem distinctKeys_relabel {terms : List Term} {ρ : Relabel} (hρ : ρ.Compatible terms)
    (hk : DistinctKeys terms) : DistinctKeys (terms.map ρ.term) :=
  ⟨(coeffSet hρ).nodup_relabel hk.1, (constSet hρ).nodup_relabel hk.2.1, (argSet hρ).nodup_relabel hk.2.2⟩

/-- STABILITY of the expression signature across processes: the same program text (relabelled counters,
`Compatible`), ANY iteration order of the sets in either process (hash seed), distinct sort keys ⇒ the same
signature. -/
theorem signature_stable_across_processes {σ : Type} (H : List TermData → σ) {terms : List Term}
    {ρ : Relabel} (hρ : ρ.Compatible terms) {o₁ o₂ : SetOrders} (h₁ : o₁.Valid terms)
    (h₂ : o₂.Valid (terms.map ρ.term)) (hk : DistinctKeys terms) :
    exprSignature H (terms.map ρ.term) o₂ = exprSignature H terms o₁ := by
  rw [← renumbering_invariant H h₁ hρ]
  unfold exprSignature leafData
  rw [set_order_irrelevant h₂ (valid_relabel h₁ hρ) (distinctKeys_relabel hρ hk)]

/-! ### Non-vacuity: `f*c*grad(g) + x[0]` with a test function, two meshes, counters shifted and stretched,
mesh ids swapped -/

def sampleTerms : List Term :=
  [.coeff 3 10 ⟨5, 1⟩, .const 2 0 ⟨5, 1⟩, .coeff 7 11 ⟨6, 1⟩, .geo 0 ⟨6, 1⟩, .arg 0 0 10 ⟨5, 1⟩,
   .other 42, .coeff 3 10 ⟨5, 1⟩]

/-- counts 3,7 ↦ 40,90 (an unrelated coefficient was created in between), constant 2 ↦ 0, meshes 5,6 ↦ 9,8. -/
def sampleRelabel : Relabel := ⟨fun c => if c = 3 then 40 else 90, fun _ => 0, fun i => 14 - i⟩

example : sampleRelabel.Compatible sampleTerms := by
  refine ⟨?_, ?_, ?_⟩ <;> decide +kernel

example : DistinctKeys sampleTerms := by decide +kernel

example : leafData sampleTerms (canonicalOrders sampleTerms) =
    [.coeff 0 10 0 1, .const 0 1 0 0, .coeff 1 11 1 1, .geo 0 1 1, .arg 0 0 10 0 1, .other 42,
     .coeff 0 10 0 1] := by decide +kernel

example : leafData (sampleTerms.map sampleRelabel.term)
      (sampleRelabel.orders (canonicalOrders sampleTerms)) =
    leafData sampleTerms (canonicalOrders sampleTerms) := by decide +kernel

/-! ### Regression: the set iteration of geometric quantities (before /repo 61cd434) -/

/-- naming.py BEFORE 61cd434: `for gc in extract_type(expr, GeometricQuantity)` — a Python set, iterated in
the order `geos`. -/
def renumberGeoSet (o : SetOrders) (geos : List Term) : Renumbering :=
  let coeffs := sortBy Term.countKey o.coeffs
  let consts := sortBy Term.countKey o.consts
  let args := sortBy Term.argKey o.args
  { coeffs := coeffs, consts := consts, args := args,
    domains := uniqueTuple (meshes coeffs ++ meshes args ++ meshes geos ++ meshes consts) }

/-- `x₁[0] + 2·x₂[1]` over two meshes that no coefficient or argument lives on. Old code: both iteration orders
of the set of geometric quantities are enumerations of it and they give different leaf data — for every
injective tree hash, different signatures in two processes (finding
`sig:unstable:geometric-quantity-domain-order`, found with this model, fixed; the search key stays armed in the
check). Current code: the traversal order decides, and the numbering is that of the first iteration order whatever
the sets do. -/
theorem geo_set_order_regression :
    let terms : List Term := [.geo 3 ⟨0, 0⟩, .other 0, .geo 3 ⟨1, 0⟩, .other 1]
    let g₁ : List Term := [.geo 3 ⟨0, 0⟩, .geo 3 ⟨1, 0⟩]
    let g₂ : List Term := [.geo 3 ⟨1, 0⟩, .geo 3 ⟨0, 0⟩]
    let o : SetOrders := ⟨[], [], []⟩
    g₁.Perm (uniqueTuple (terms.filter Term.isGeo)) ∧ g₂.Perm (uniqueTuple (terms.filter Term.isGeo)) ∧
    terms.map (termData (renumberGeoSet o g₁)) ≠ terms.map (termData (renumberGeoSet o g₂)) ∧
    (∀ {σ : Type} (H : List TermData → σ), (∀ a b, H a = H b → a = b) →
      H (terms.map (termData (renumberGeoSet o g₁))) ≠ H (terms.map (termData (renumberGeoSet o g₂)))) ∧
    (∀ o' : SetOrders, o'.Valid terms → leafData terms o' = terms.map (termData (renumberGeoSet o g₁))) := by
  intro terms g₁ g₂ o
  have hne : terms.map (termData (renumberGeoSet o g₁)) ≠ terms.map (termData (renumberGeoSet o g₂)) := by
    decide
  refine ⟨List.isPerm_iff.mp (by decide), List.isPerm_iff.mp (by decide), hne,
    fun H hH e => hne (hH _ _ e), ?_⟩
  intro o' h'
  unfold leafData
  rw [set_order_irrelevant h' (canonical_valid terms) (by decide)]
  decide

/-- A relabelling that is injective but swaps the creation order of the two coefficients of `f*grad(g)`
changes the leaf data (`w₀·∇w₁` becomes `w₁·∇w₀`), whatever the set orders: the hypothesis `Compatible` of
`renumbering_invariant` cannot be weakened to injectivity. That is separation, not instability: FFCx passes
coefficients to the kernel in `count()` order, so these are different kernels; the same program text in another
process creates the objects of the expression in the same relative order, which is `Relabel.Compatible`. -/
theorem renumbering_order_counterexample :
    let terms : List Term := [.coeff 0 7 ⟨0, 0⟩, .coeff 1 7 ⟨0, 0⟩]
    let ρ : Relabel := ⟨fun c => 1 - c, id, id⟩
    (∀ a ∈ coeffCounts terms, ∀ b ∈ coeffCounts terms, ρ.fc a = ρ.fc b → a = b) ∧
    ¬ ρ.Compatible terms ∧
    (∀ o₁ o₂ : SetOrders, o₁.Valid terms → o₂.Valid (terms.map ρ.term) →
      leafData (terms.map ρ.term) o₂ ≠ leafData terms o₁ ∧
      ∀ {σ : Type} (H : List TermData → σ), (∀ a b, H a = H b → a = b) →
        exprSignature H (terms.map ρ.term) o₂ ≠ exprSignature H terms o₁) := by
  intro terms ρ
  refine ⟨by decide, ?_, ?_⟩
  · intro h
    have := (h.coeff 0 (by decide) 1 (by decide)).mpr (by decide)
    revert this
    decide
  · intro o₁ o₂ h₁ h₂
    have e1 := set_order_irrelevant h₁ (canonical_valid terms) (by decide)
    have e2 := set_order_irrelevant h₂ (canonical_valid (terms.map ρ.term)) (by decide)
    have hne : leafData (terms.map ρ.term) o₂ ≠ leafData terms o₁ := by
      unfold leafData
      rw [e1, e2]
      decide
    exact ⟨hne, fun H hH e => hne (hH _ _ e)⟩

end Ffcx.Naming
