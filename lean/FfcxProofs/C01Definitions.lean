/-
C01 — the definition sections of `definitions.py`.

`FfcxModel/Codegen/Definitions.lean` transcribes `FFCXBackendDefinitions.get` and the `access.py`
handlers it relies on (checked against the real functions on every terminal of the corpus and on
seeded synthetic terminals: `harness/codegen_checks.py`).  Proved here, for any number of dofs,
block size, offset, restriction, table contents, over any field: after the section that
`FFCXBackendDefinitions.coefficient` (`coeff_lincomb`) or `_define_coordinate_dofs_lincomb` (Jacobian,
SpatialCoordinate: `coord_lincomb`) emits, the symbol holds the linear combination of the dof array with
the table row, and only the symbol and the loop index `ic` have changed.  Then an example, evaluated.

Handlers: `coefficient`, `_define_coordinate_dofs_lincomb`/`jacobian`, `spatial_coordinate` are covered
(non-tensor-factorised tables: with sum factorisation the same sections are nests over `ic0, ic1, …`
whose transcription is checked structurally but whose value is not proved); `pass_through` emits
nothing.  Access handlers not transcribed: `cell_coordinate`, `facet_coordinate`, `facet_edge_vectors`.
-/
import FfcxProofs.Lemmas.CodegenDefs

namespace Ffcx.Codegen
open Ffcx.LNodes Lean.Grind
attribute [local instance] Lean.Grind.Ring.intCast
variable {R : Type} [Field R] (x : Extra R)

/-- Let `coefficient` (as transcribed) produce the section for a coefficient whose
    table is not tensor-factorised and not of type "ones", in a kernel whose quadrature index is the
    single symbol `iq`.  In every state with `iq = q`, where `w` covers the subscripts
    `offset + bs·d + begin` (`d < ndofs`) and the table covers `[perm][entity][q][d]`, executing the
    section succeeds; afterwards the coefficient symbol equals
    `Σ_{d<ndofs} w[offset + (d·bs + begin)] · FE[perm][entity][q or 0][d]`, and only that symbol and
    `ic` have changed. -/
theorem coeff_lincomb (hlaw : LawfulExtra x) (ctx : DefCtx) (mt : MtDesc) (t : TableRef) (access : MSym)
    (l : Lincomb) (h : coeffLincomb ctx mt t access = .ok (some l))
    (hnf : t.factors = none) (nq : Nat)
    (hiq : quadIndexOpt ctx.rule = { syms := ["iq"], sizes := [nq] })
    (ho : (t.ttype == "ones") = false)
    (hdt1 : (l.dtype == DType.int) = false) (hdt2 : (l.dtype == DType.bool) = false)
    (σ : St R) (q : Int) (hq : σ.iv.get "iq" = some q)
    (htab : ArgOk σ ctx.entityType q { table := t, restriction := mt.restriction }) :
    ∃ off, ctx.coeffOffset = some off ∧
      (DofsOk σ "w" t.ndofs (fun d => off + (d * t.blockSize + t.offset)) →
      ∃ σ', exec x (lincombSection l) σ = .ok σ' ∧ SFrame l.access "ic" σ σ' ∧
        σ'.sv.get l.access = some (isum 0 t.ndofs (fun d =>
          readArr σ "w" [off + (d * t.blockSize + t.offset)] *
            argVal σ ctx.entityType q { table := t, restriction := mt.restriction } d))) := by
  unfold coeffLincomb at h
  simp only [hiq, dofIndex_noTF _ _ hnf] at h
  -- a section is produced: not a "zeros" table, not a constant "ones" table, `begin < end` holds
  replace h := (ite_eq_of_ne h nofun).2
  replace h := (ite_eq_of_ne h nofun).2
  replace h := (ite_eq_of_ne h nofun).2
  generalize hta : tableAccess t ctx.entityType mt.restriction { syms := ["iq"], sizes := [nq] }
      { syms := ["ic"], sizes := [t.ndofs] } = X at h
  generalize hs : accessSym access = Y at h
  cases hoff : ctx.coeffOffset with
  | none => obtain _ | ⟨fe, tabs⟩ := X <;> (rw [hoff] at h; cases h)
  | some off =>
    rw [hoff] at h
    obtain _ | ⟨fe, tabs⟩ := X
    · cases h
    obtain _ | ⟨n, dt⟩ := Y
    · cases h
    cases h
    exact ⟨off, rfl, fun hdofs => lincomb_core x hlaw _ ctx.entityType t mt.restriction nq tabs
      (fun d => off + (d * t.blockSize + t.offset)) rfl hdt1 hdt2 rfl hta
      ho (fun iv ia d hd => evalI_lRAdd_lit iv ia _ _ _ (evalI_lAdd_lit iv ia _ _ _
        (evalI_lMul_lit iv ia _ _ _ (evalI_global_single iv ia "ic" t.ndofs d hd)))) σ q hq htab hdofs⟩

/-- The section `_define_coordinate_dofs_lincomb` emits for a component of `x` or of
    the Jacobian (table not tensor-factorised): afterwards the symbol equals
    `Σ_{d<nodes} coordinate_dofs[3·d + begin + offset] · FE[perm][entity][q or 0][d]` with
    `offset = 3·nodes` for a '-' restriction and `0` otherwise; only the symbol and `ic` have changed. -/
theorem coord_lincomb (hlaw : LawfulExtra x) (ctx : DefCtx) (mt : MtDesc) (t : TableRef) (access : MSym)
    (l : Lincomb) (h : coordLincomb ctx mt t access = .ok l)
    (hnf : t.factors = none) (nq : Nat)
    (hiq : quadIndexOpt ctx.rule = { syms := ["iq"], sizes := [nq] })
    (hdt1 : (l.dtype == DType.int) = false) (hdt2 : (l.dtype == DType.bool) = false)
    (σ : St R) (q : Int) (hq : σ.iv.get "iq" = some q)
    (htab : ArgOk σ ctx.entityType q { table := t, restriction := mt.restriction })
    (hdofs : DofsOk σ "coordinate_dofs" t.ndofs (fun d => d * 3 + t.offset +
      (if mt.restriction == .minus then (ctx.numScalarDofs : Int) * 3 else 0))) :
    ∃ σ', exec x (lincombSection l) σ = .ok σ' ∧ SFrame l.access "ic" σ σ' ∧
      σ'.sv.get l.access = some (isum 0 t.ndofs (fun d =>
        readArr σ "coordinate_dofs" [d * 3 + t.offset +
            (if mt.restriction == .minus then (ctx.numScalarDofs : Int) * 3 else 0)] *
          argVal σ ctx.entityType q { table := t, restriction := mt.restriction } d)) := by
  unfold coordLincomb at h
  simp only [hiq, dofIndex_noTF _ _ hnf] at h
  -- the two asserts: `num_scalar_dofs == ndofs`; the table is neither "zeros" nor "ones" (`hzo`)
  replace h := (ite_eq_of_ne h nofun).2
  obtain ⟨hzo, h⟩ := ite_eq_of_ne h nofun
  simp only [Bool.or_eq_true, _root_.not_or, Bool.not_eq_true] at hzo
  generalize hta : tableAccess t ctx.entityType mt.restriction { syms := ["iq"], sizes := [nq] }
      { syms := ["ic"], sizes := [t.ndofs] } = X at h
  generalize hs : accessSym access = Y at h
  obtain _ | ⟨fe, tabs⟩ := X
  · cases h
  obtain _ | ⟨n, dt⟩ := Y
  · cases h
  cases h
  exact lincomb_core x hlaw _ ctx.entityType t mt.restriction nq tabs _ rfl hdt1 hdt2 rfl hta
    hzo.2 (fun iv ia d hd => evalI_lAdd_lit iv ia _ _ _ (evalI_lAdd_lit iv ia _ _ _
      (evalI_lMul_lit iv ia _ _ _ (evalI_global_single iv ia "ic" t.ndofs d hd)))) σ q hq htab hdofs

/-! ## Non-vacuity: a blocked P1 coefficient (3 dofs, block size 2, component 1), 2 points -/

namespace DExample

def t₀ : TableRef :=
  { name := "FE3_C1", ttype := "varying", ndofs := 3, offset := 1, blockSize := 2, isPermuted := false,
    factors := none }

def ctx₀ : DefCtx :=
  { entityType := "cell", custom := false, rule := some { id := "ab12cd34", nweights := 2, factors := none },
    coeffNumber := some 0, coeffOffset := some 4, constOffset := none, jnum := 0, numScalarDofs := 3 }

def mt₀ : MtDesc :=
  { mro := ["Coefficient", "FormArgument", "Terminal", "Expr", "object"],
    bases := ["Coefficient", "FormArgument", "Terminal", "Expr", "object"], averaged := none,
    restriction := .none, globalDerivs := [], localDerivs := [], gdim := 2, component := [1],
    flatComponent := 1, cellname := "triangle" }

/-- `iq = 1`, `w = [0,…,0, 1,2,3,4,5,6]` from position 4, table `FE[q][d] = 10q + d + 1` -/
def σ₀ : St Rat :=
  { iv := [("iq", 1)],
    sa := [("w", { dims := [10], data := #[0, 0, 0, 0, 1, 2, 3, 4, 5, 6] }),
           ("FE3_C1", { dims := [1, 1, 2, 3], data := #[1, 2, 3, 11, 12, 13] })] }

/-- the access symbol is `w0_c1`, the definition is a section -/
example : (match genAccess ctx₀ mt₀ (some t₀) with | .ok (.ex (.sym n _)) => n | _ => "") = "w0_c1" := by
  decide +kernel

/-- executing the generated section: `w0_c1 = w[4+1]·11 + w[4+3]·12 + w[4+5]·13 = 2·11 + 4·12 + 6·13` -/
example : (match genDefinition ctx₀ mt₀ (some t₀) (.ex (.sym "w0_c1" .scalar)) with
    | .ok (some s) => (match exec ratExtra s σ₀ with
        | .ok σ' => σ'.sv.get "w0_c1"
        | .error _ => none)
    | _ => none) = some (2 * 11 + 4 * 12 + 6 * 13) := by decide +kernel

/-- … which is the closed form of `coeff_lincomb` -/
example : isum 0 t₀.ndofs (fun d => readArr σ₀ "w" [4 + (d * t₀.blockSize + t₀.offset)] *
    argVal σ₀ "cell" 1 { table := t₀, restriction := .none } d) = (2 * 11 + 4 * 12 + 6 * 13 : Rat) := by
  decide +kernel

end DExample

end Ffcx.Codegen
