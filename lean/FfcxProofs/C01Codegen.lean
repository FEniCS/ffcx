/-
C01 — what the emitted dof-block loop nests compute.

`FfcxModel/Codegen/Block.lean` is a transcription of `IntegralGenerator.generate_block_parts` /
`generate_quadrature_loop` (checked against the real functions, statement by statement, on every
kernel of the corpus and on seeded synthetic descriptions: `harness/codegen_checks.py`).  The theorems
below are about the statements that transcription produces, for ALL block dimensions, numbers of
quadrature points, table contents, offsets and strides, over any field `R`.

The "Tensor Computation" section of ANY generated block group is a nest of `A[…] += …` and adds `nestSum`
(`genBlock_nest`).  For a full-tensor group of rank ≤ 2 without sum factorisation that sum has the closed form
`blockSum` (`genBlock_spec`): `genBlock_run` composes `section_boxSum` (the section adds, over the box of its loop
values, what the innermost statements add), `block_leaf` (at each tuple they add `blockLeafL`) and `dofLoops` (the
loops run last argument outermost: the box sum over the reversed loop values is the `dofSum` of the closed form).
Then all groups of one quadrature point (`groups_spec`) and the loop `generate_quadrature_loop` assembles, before
`optimize` (`quadLoop_spec`), under an assumption on the code before the tensor computation, which the
`fw = f·w[iq]` assignments (`fwAssigns_spec`) reduce to one on the partition code proper
(`kernel_meets_spec_partial`); an example to which `genBlock_spec` applies.
-/
import FfcxProofs.Lemmas.CodegenGroup
import FfcxProofs.C17

namespace Ffcx.Codegen
open Ffcx.LNodes Lean.Grind
attribute [local instance] Lean.Grind.Ring.intCast
variable {R : Type} [Field R] (x : Extra R)

theorem genBlockParts_inv (g : GroupDesc) (st st' : GenState) (qp inter : List Stmt)
    (h : genBlockParts g st = .ok (qp, inter, st')) :
    ∃ outs last, genBlocks g st g.blocks = .ok (outs, st') ∧ outs.getLast? = some last ∧
      qp = [.sect "Tensor Computation" []
              [nestStmt (loopsOf last.bIdx) (asStmt ((emittedTerms outs).map (termStmt g.aShape)))]
              (dedup (outs.map (·.var) ++ (outs.map (·.tables)).flatten)) [aName]
              (if last.bIdx.length > 1 then ["licm"] else [])] ∧
      inter = (outs.map (·.decl)).flatten := by
  unfold genBlockParts at h
  obtain ⟨⟨outs, st1⟩, h1, h⟩ := bind_eq_ok.mp h
  dsimp only at h
  generalize h2 : outs.getLast? = Y at h
  obtain _ | last := Y <;> cases h
  exact ⟨outs, last, h1, h2, rfl, rfl⟩

/-- Whatever the block description (any rank, tensor-factorised rule or tables,
    `diagonal`, several blocks sharing a subscript): if `generate_block_parts` succeeds, its `quadparts`
    are ONE section holding a loop nest `ls` around `A[idx_t] += rhs_t`, and — provided no term
    mentions `A` and every subscript/right-hand side is well defined at every index tuple — executing
    them adds `Σ_{index tuples} Σ_t [idx_t = k]·rhs_t` to `A[k]`, overwrites only the loop indices and
    changes nothing else. -/
theorem genBlock_nest (g : GroupDesc) (st st' : GenState) (qp inter : List Stmt)
    (h : genBlockParts g st = .ok (qp, inter, st')) :
    ∃ (ls : List (String × Nat)) (terms : List ATerm),
      (∃ inp ann, qp = [.sect "Tensor Computation" []
          [nestStmt ls (asStmt (terms.map (ATerm.stmt aName)))] inp [aName] ann]) ∧
      ∀ (N : Nat) (σ : St R), (∀ t ∈ terms, t.noA aName = true) → AOk aName N σ →
        nestPre N terms ls σ →
        ∃ σ', execL x qp σ = .ok σ' ∧
          Acc aName (fun n => n ∈ loopNames ls) (fun _ => False) (nestSum x terms ls σ) σ σ' := by
  obtain ⟨outs, last, _, _, rfl, _⟩ := genBlockParts_inv g st st' qp inter h
  refine ⟨loopsOf last.bIdx, (emittedTerms outs).map (Term.aterm g.aShape),
    ⟨_, _, by rw [map_termStmt]⟩, fun N σ hnoA hA hpre => ?_⟩
  rw [execL_sect_singleton, map_termStmt]
  exact nest_accumulate x _ hnoA N (loopsOf last.bIdx) σ hA hpre

/-- Σ over the dof index tuples of a block of rank ≤ 2, in the order the generated nest runs
    (`for j: for i:`); `ds` is in argument order `[i, j]`.  Written out rank by rank; the last clause makes the
    sum of a rank ≥ 3 `0` — nothing is claimed there (`regularGroup` has `rank ≤ 2`). -/
def dofSum : List Nat → (List Int → R) → R
  | [], f => f []
  | [n0], f => isum 0 n0 (fun i => f [i])
  | [n0, n1], f => isum 0 n1 (fun j => isum 0 n0 (fun i => f [i, j]))
  | _, _ => 0

/-- The loops `ls` run over the box `lens` of dof index tuples, last argument outermost: the dof loops of a
    block of rank ≤ 2 run in the order `j, i`, while `dofSum` and the closed forms take the index values in
    argument order `[i, j]`. -/
structure DofLoops (lens : List Nat) (ls : List (String × Nat)) : Prop where
  /-- the loop symbols are dof index names (the write set of the section) -/
  names : ∀ n ∈ loopNames ls, n ∈ dofNames
  /-- the trip counts are block dimensions (positive, by `coversB`) -/
  sizes : ∀ d ∈ ls.map (·.2), d ∈ lens
  /-- with the loop values `vs` set, the dof indices hold `vs.reverse`, a tuple of the box -/
  bound : ∀ (σ : St R) (vs : List Int), InBox (ls.map (·.2)) vs →
    Bound (setIVs σ (loopNames ls) vs) dofNames vs.reverse ∧ InBox lens vs.reverse
  /-- `dofSum` is the sum over the box of loop values -/
  sum : ∀ f : List Int → R, dofSum lens f = boxSum (ls.map (·.2)) (fun vs => f vs.reverse)

/-- by cases on the rank, because `dofSum` is written out rank by rank -/
theorem dofLoops : ∀ args : List ArgDesc, (∀ a ∈ args, a.table.factors = none) → args.length ≤ 2 →
    DofLoops (R := R) (args.map (·.table.ndofs)) (loopsOf (bIndices args dofNames))
  | [], _, _ => ⟨nofun, nofun, fun _ _ h => h.nil_inv ▸ ⟨trivial, trivial⟩, fun _ => rfl⟩
  | [a], hnf, _ => by
    have e : loopsOf (bIndices [a] dofNames) = [("i", a.table.ndofs)] := by
      simp [loopsOf, bIndices, dofNames, dofIndex_noTF _ _ (hnf a (by simp))]
    rw [e]
    refine ⟨(by decide : ∀ n ∈ ["i"], n ∈ dofNames), fun _ h => h, fun _ _ h => ?_, fun _ => rfl⟩
    obtain ⟨_, _, rfl, hi, h⟩ := h.cons_inv
    obtain rfl := h.nil_inv
    exact ⟨⟨AList.get_set_self .., trivial⟩, hi, trivial⟩
  | [a, b], hnf, _ => by
    have e : loopsOf (bIndices [a, b] dofNames) = [("j", b.table.ndofs), ("i", a.table.ndofs)] := by
      simp [loopsOf, bIndices, dofNames, dofIndex_noTF _ _ (hnf a (by simp)), dofIndex_noTF _ _ (hnf b (by simp))]
    rw [e]
    refine ⟨(by decide : ∀ n ∈ ["j", "i"], n ∈ dofNames), fun d hd => by simpa [or_comm] using hd,
      fun _ _ h => ?_, fun _ => rfl⟩
    obtain ⟨_, _, rfl, hj, h⟩ := h.cons_inv
    obtain ⟨_, _, rfl, hi, h⟩ := h.cons_inv
    obtain rfl := h.nil_inv
    exact ⟨⟨AList.get_set_self .., (AList.get_set_ne _ _ _ _ (show "i" ≠ "j" by decide)).trans
      (AList.get_set_self ..), trivial⟩, hi, hj, trivial⟩
  | _ :: _ :: _ :: _, _, h => by simp at h

theorem namesOk_inv (g : GroupDesc) (st : GenState) (h : namesOk g st = true) :
    (∀ b ∈ g.blocks, ∀ a ∈ b.args, a.table.name ≠ aName) ∧
    ∀ fwe ∈ fwExprs g st g.blocks, mentionsE aName fwe = false ∧ ∀ n ∈ dofNames, mentionsE n fwe = false := by
  simp only [namesOk, Bool.and_eq_true, List.all_eq_true, bne_iff_ne, ne_eq, Bool.not_eq_true'] at h
  exact h

/-- **What a block group adds to `A[k]` at quadrature point `q`**:
    `Σ_j Σ_i Σ_b [flat_{A_shape}(bs_b0·i+off_b0, bs_b1·j+off_b1) = k] · fw_b · T_b0[…][q][i] · T_b1[…][q][j]`
    (rank 2; analogously rank 1 and 0), `fw_b` being the value of the block's `fw` expression. -/
def blockSum (g : GroupDesc) (fws : List Expr) (σ : St R) (q : Int) (k : Nat) : R :=
  dofSum g.bmLens (fun ds => blockLeafL x σ g.entityType g.aShape g.bmLens q ds k g.blocks fws)

/-- `genBlock_spec` together with the cache the call returns (what `groups_spec` threads): the composition of
    `section_boxSum`, `block_leaf` and `dofLoops`. -/
theorem genBlock_run (hlaw : LawfulExtra x) (g : GroupDesc) (st st' : GenState) (qp inter : List Stmt)
    (hgen : genBlockParts g st = .ok (qp, inter, st'))
    (hreg : regularGroup g = true) (hcov : coversA g = true) (hnames : namesOk g st = true)
    (σ : St R) (q : Int) (hq : σ.iv.get "iq" = some q)
    (hA : AOk aName (sizeProd g.aShape) σ)
    (htab : ∀ b ∈ g.blocks, ∀ a ∈ b.args, ArgOk σ g.entityType q a)
    (hfw : ∀ fw ∈ fwExprs g st g.blocks, safeE σ fw = true) :
    st' = fwState g st g.blocks ∧ ∃ σ', execL x qp σ = .ok σ' ∧
      Acc aName (fun n => n ∈ dofNames) (fun _ => False)
        (blockSum x g (fwExprs g st g.blocks) σ q) σ σ' := by
  obtain ⟨outs, last, hgb, hlast, rfl, _⟩ := genBlockParts_inv g st st' qp inter hgen
  simp only [regularGroup, Bool.and_eq_true, Bool.not_eq_true', List.all_eq_true,
    Option.isNone_iff_eq_none, GroupDesc.rank] at hreg
  obtain ⟨⟨⟨hdiag, hrule⟩, hnf⟩, hrank⟩ := hreg
  have hrank : g.bmLens.length ≤ 2 := of_decide_eq_true hrank
  simp only [coversA, List.all_eq_true] at hcov
  obtain ⟨hnA, hnfw⟩ := namesOk_inv g st hnames
  have hlens := fun b hb => coversB_lens b.args g.bmLens g.aShape (hcov b hb)
  obtain ⟨hlenO, hfwmap, hst, hinv⟩ := genBlocks_all g (BlockInv g) g.blocks st st' outs hgb
    fun b hb st0 st1 o e => genOneBlock_inv g st0 st1 b o e hdiag (hlens b hb).1.symm
  refine ⟨hst, ?_⟩
  have hpair : ∀ p ∈ g.blocks.zip outs, PairOk g σ q p.1 p.2 := by
    intro p hp
    have hb : p.1 ∈ g.blocks := (List.of_mem_zip hp).1
    have ho : p.2.fw ∈ fwExprs g st g.blocks := hfwmap ▸ List.mem_map_of_mem (List.of_mem_zip hp).2
    exact ⟨hinv p hp, hnf p.1 hb, hcov p.1 hb, hnA p.1 hb, (hnfw _ ho).1, (hnfw _ ho).2, htab p.1 hb, hfw _ ho⟩
  -- `generate_block_parts` builds the nest from the loop indices of the LAST block; `coversA` makes all blocks
  -- have the dimensions `g.bmLens`, so these loops (`dofLoops` of `bl`, the block paired with `last`) serve all
  obtain ⟨bl, hbl⟩ := mem_zip_of_mem_right g.blocks outs last hlenO (List.mem_of_getLast? hlast)
  have hblm : bl ∈ g.blocks := (List.of_mem_zip hbl).1
  have hpos : ∀ n ∈ g.bmLens, 1 ≤ n := coversB_pos _ _ _ (hpair _ hbl).cov
  have hL : DofLoops (R := R) g.bmLens (loopsOf last.bIdx) := by
    rw [(hpair _ hbl).inv.1, ← (hlens bl hblm).2.2]
    exact dofLoops bl.args (hnf bl hblm) ((hlens bl hblm).1 ▸ hrank)
  rw [← hfwmap]
  -- the section is the nest over the box of loop values `(j, i)`; at each of them `block_leaf` applies
  refine Exists.imp (fun σ' h => ⟨h.1, (h.2.mono hL.names (fun _ h => h)).congr (fun k => ?sum)⟩)
    (section_boxSum x g.aShape outs (loopsOf last.bIdx) _ _ _
      (fun vs k => blockLeafL x σ g.entityType g.aShape g.bmLens q vs.reverse k g.blocks (outs.map (·.fw))) σ
      (fun d hd => hpos d (hL.sizes d hd)) hA (fun vs hvs => ?leaf))
  case sum =>
    exact (hL.sum fun ds => blockLeafL x σ g.entityType g.aShape g.bmLens q ds k g.blocks (outs.map (·.fw))).symm
  case leaf =>
    obtain ⟨hb, hin⟩ := hL.bound σ vs hvs
    exact block_leaf x hlaw g hrule σ _ q vs.reverse (agree_setIVs σ _ vs dofNames hL.names)
      ((setIVs_get_notin _ vs σ "iq" fun h => absurd (hL.names _ h) (by decide)).trans hq) hb g.blocks outs hlenO
      hpair (fun b hb => (hlens b hb).2.2 ▸ hin)

/-- Let `g` describe a call of `generate_block_parts` for a full-tensor block group
    of rank ≤ 2 without sum factorisation (`regularGroup`), with `A` covering the blockmap (`coversA`)
    and no aliasing (`namesOk`) — three decidable predicates on the description — and let the call
    succeed with `quadparts = qp`.  In every state `σ` where `iq = q`, `A` is a writable flat array of
    `prod A_shape` scalars, the argument tables are declared with extents covering the accesses
    (`ArgOk`) and the `fw` expressions are defined, executing `qp` succeeds and yields `σ` with
    `A[k]` increased by `blockSum … k` for every `k`; the dof loop indices are overwritten, nothing
    else changes (integer arrays, all other arrays, all scalars, the shape of `A`). -/
theorem genBlock_spec (hlaw : LawfulExtra x) (g : GroupDesc) (st st' : GenState) (qp inter : List Stmt)
    (hgen : genBlockParts g st = .ok (qp, inter, st'))
    (hreg : regularGroup g = true) (hcov : coversA g = true) (hnames : namesOk g st = true)
    (σ : St R) (q : Int) (hq : σ.iv.get "iq" = some q)
    (hA : AOk aName (sizeProd g.aShape) σ)
    (htab : ∀ b ∈ g.blocks, ∀ a ∈ b.args, ArgOk σ g.entityType q a)
    (hfw : ∀ fw ∈ fwExprs g st g.blocks, safeE σ fw = true) :
    ∃ σ', execL x qp σ = .ok σ' ∧
      Acc aName (fun n => n ∈ dofNames) (fun _ => False)
        (blockSum x g (fwExprs g st g.blocks) σ q) σ σ' :=
  (genBlock_run x hlaw g st st' qp inter hgen hreg hcov hnames σ q hq hA htab hfw).2

theorem aCoord_inj (a : ArgDesc) (n : Nat) (hbs : 1 ≤ a.table.blockSize) (i i' : Int)
    (h : aCoord a n i = aCoord a n i') : i = i' := by
  unfold aCoord at h
  split at h
  · omega
  · have h' : a.table.blockSize * i = a.table.blockSize * i' := by omega
    exact Int.eq_of_mul_eq_mul_left (by omega) h'

/-- A group consisting of ONE rank-2 block with arguments `a0`, `a1`
    (`n0 × n1` dofs) whose blockmap is injective (`block_size ≥ 1`) and inside `A_shape`: what
    `genBlock_spec` says the generated nest adds, entry by entry —
    `A[flat(bs0·i+off0, bs1·j+off1)]` gets `fw · T0[…][q][i] · T1[…][q][j]` for `i < n0`, `j < n1`, and
    every other entry of `A` gets `0`. -/
theorem genBlock_entry_spec (g : GroupDesc) (b : BlockData) (a0 a1 : ArgDesc) (n0 n1 : Nat)
    (hb : g.blocks = [b]) (hargs : b.args = [a0, a1]) (hl : g.bmLens = [n0, n1])
    (hcov : coversA g = true) (hinj : injectiveBlocks g = true) (fw : Expr) (σ : St R) (q : Int) :
    (∀ ti tj : Nat, ti < n0 → tj < n1 →
      ∃ k, flatIdx g.aShape [aCoord a0 n0 ti, aCoord a1 n1 tj] = some k ∧ k < sizeProd g.aShape ∧
        blockSum x g [fw] σ q k =
          eval x σ fw * (argVal σ g.entityType q a0 ti * argVal σ g.entityType q a1 tj)) ∧
    (∀ k, (∀ ti tj : Nat, ti < n0 → tj < n1 →
        flatIdx g.aShape [aCoord a0 n0 ti, aCoord a1 n1 tj] ≠ some k) →
      blockSum x g [fw] σ q k = 0) := by
  simp only [coversA, hb, List.all_cons, List.all_nil, Bool.and_true, hargs, hl] at hcov
  simp only [injectiveBlocks, hb, hargs, List.all_cons, List.all_nil, Bool.and_true,
    Bool.and_eq_true, decide_eq_true_eq] at hinj
  have hsum : ∀ k, blockSum x g [fw] σ q k = isum 0 n1 (fun j => isum 0 n0 (fun i =>
      (if flatIdx g.aShape [aCoord a0 n0 i, aCoord a1 n1 j] = some k
        then eval x σ fw * (argVal σ g.entityType q a0 i * argVal σ g.entityType q a1 j) else 0))) := by
    intro k
    simp only [blockSum, hl, dofSum, hb, blockLeafL, hargs, aCoords, argVals, prodR]
    apply isum_congr; intro j _ _
    apply isum_congr; intro i _ _
    rw [Semiring.add_zero, Semiring.mul_one]
  have hrange : ∀ ti tj : Nat, ti < n0 → tj < n1 →
      ∃ k, flatIdx g.aShape [aCoord a0 n0 ti, aCoord a1 n1 tj] = some k ∧ k < sizeProd g.aShape := by
    intro ti tj hti htj
    have hin : InBox ([a0, a1].map (·.table.ndofs)) [(ti : Int), (tj : Int)] := by
      rw [(coversB_lens _ _ _ hcov).2.2]
      exact ⟨⟨by omega, by omega⟩, ⟨by omega, by omega⟩, trivial⟩
    obtain ⟨c1, c2⟩ := inBox_iff_zip.mp (coversB_inBox _ _ _ _ hcov hin)
    obtain ⟨k, hk⟩ := flatIdx_some_of_inrange g.aShape _ c1 c2
    exact ⟨k, by simpa [aCoords] using hk, flatIdx_lt _ _ _ (by simpa [aCoords] using hk)⟩
  have huniq : ∀ (k : Nat) (ti tj : Nat) (i j : Int),
      flatIdx g.aShape [aCoord a0 n0 ti, aCoord a1 n1 tj] = some k →
      flatIdx g.aShape [aCoord a0 n0 i, aCoord a1 n1 j] = some k → i = ti ∧ j = tj := by
    intro k ti tj i j h1 h2
    have := flatIdx_inj g.aShape _ _ k h2 h1
    simp only [List.cons.injEq, and_true] at this
    exact ⟨aCoord_inj a0 n0 hinj.1 _ _ this.1, aCoord_inj a1 n1 hinj.2 _ _ this.2⟩
  refine ⟨?_, ?_⟩
  · intro ti tj hti htj
    obtain ⟨k, hk, hkN⟩ := hrange ti tj hti htj
    refine ⟨k, hk, hkN, ?_⟩
    rw [hsum k, isum_single _ (tj : Int)]
    · have : (0 : Int) ≤ tj ∧ (tj : Int) < 0 + n1 := by omega
      simp only [this, and_self, if_true]
      rw [isum_single _ (ti : Int)]
      · have : (0 : Int) ≤ ti ∧ (ti : Int) < 0 + n0 := by omega
        simp only [this, and_self, if_true, hk]
      · exact fun i _ _ hne => if_neg fun h2 => hne (huniq k ti tj i tj hk h2).1
    · exact fun j _ _ hne => (isum_congr n0 0 fun i _ _ =>
        if_neg fun h2 => hne (huniq k ti tj i j hk h2).2).trans (isum_zero n0 0)
  · intro k hk
    rw [hsum k]
    exact (isum_congr_nat n1 fun tj htj => (isum_congr_nat n0 fun ti hti =>
      if_neg (hk ti tj hti htj)).trans (isum_zero n0 0)).trans (isum_zero n1 0)

/-- the statements of one quadrature-loop iteration that precede the tensor computation, in
    execution order: definitions, `fw = 0` declarations, partition intermediates, `fw = f·w[iq]` -/
def preCode (defs i0 fw : List Stmt) : List Stmt := defs ++ fwDecls fw ++ i0 ++ fwAssigns fw

theorem execL_quadLoopCode (defs i0 tc fw : List Stmt) (σ : St R) :
    execL x (quadLoopCode defs i0 tc fw) σ = execL x (preCode defs i0 fw ++ tc) σ := by
  simp only [quadLoopCode, preCode, List.append_assoc, execL_append']
  congr 1; funext s
  simp only [List.singleton_append, execL_cons_bind, exec_sect_eq_bind, execL_append', except_bind_assoc]
  congr 1; funext s
  rw [execL_append']
  congr 1; funext s
  rw [execL_append']

/-- the closed form of a group with the `fw` values given by `Φ` and the tables read in `σ` -/
def blockLeafΦ (Φ : Expr → R) (σ : St R) (et : String) (aShape lens : List Nat) (q : Int)
    (ds : List Int) (k : Nat) : List BlockData → List Expr → R
  | b :: bs, fw :: fws =>
    (if flatIdx aShape (aCoords b.args lens ds) = some k
      then Φ fw * prodR (argVals σ et q b.args ds) else 0) +
    blockLeafΦ Φ σ et aShape lens q ds k bs fws
  | _, _ => 0

theorem blockLeafΦ_eq_lsum (Φ : Expr → R) (σ : St R) (et : String) (aShape lens : List Nat) (q : Int)
    (ds : List Int) (k : Nat) (bs : List BlockData) (fws : List Expr) :
    blockLeafΦ Φ σ et aShape lens q ds k bs fws =
      IR.lsum (fun p : BlockData × Expr => if flatIdx aShape (aCoords p.1.args lens ds) = some k
        then Φ p.2 * prodR (argVals σ et q p.1.args ds) else 0) (bs.zip fws) :=
  lsum_zip_of_rec (blockLeafΦ Φ σ et aShape lens q ds k) _ (fun _ _ _ _ => rfl) (fun _ => rfl) (fun _ _ => rfl)
    bs fws

/-- The bridge between the two closed forms.  `τ` is the state in which a section runs, `σ` the one in which the
    quadrature loop started: `blockLeafL`, which reads `fw` and the tables in `τ`, is `blockLeafΦ` with the `fw`
    values `Φ` (`h1`) and the tables read in `σ` (`h2`: no section writes a table). -/
theorem blockLeafL_eq (Φ : Expr → R) (σ τ : St R) (et : String) (aShape lens : List Nat) (q : Int)
    (ds : List Int) (k : Nat) (bs : List BlockData) (fws : List Expr)
    (h1 : ∀ fw ∈ fws, eval x τ fw = Φ fw)
    (h2 : ∀ b ∈ bs, argVals τ et q b.args ds = argVals σ et q b.args ds) :
    blockLeafL x τ et aShape lens q ds k bs fws = blockLeafΦ Φ σ et aShape lens q ds k bs fws := by
  rw [blockLeafL_eq_lsum, blockLeafΦ_eq_lsum]
  exact IR.lsum_congr _ _ _ fun p hp => by rw [h1 _ (List.of_mem_zip hp).2, h2 _ (List.of_mem_zip hp).1]

/-- **What the tensor computation of one quadrature point adds to `A[k]`**: the sum over the block
    groups of the rule (cache threaded) of `Σ_(i,j) Σ_b [flat = k] · Φ(fw_b) · Π_r T_br[…][q][d_r]`. -/
def groupsSum (Φ : Expr → R) (σ : St R) (q : Int) (k : Nat) : GenState → List GroupDesc → R
  | _, [] => 0
  | st, g :: gs =>
    dofSum g.bmLens (fun ds => blockLeafΦ Φ σ g.entityType g.aShape g.bmLens q ds k g.blocks
      (fwExprs g st g.blocks)) +
    groupsSum Φ σ q k (fwState g st g.blocks) gs

/-- the decidable side conditions of all groups of a rule, cache threaded -/
def GroupsOk (rule : QRule) (aShape : List Nat) : GenState → List GroupDesc → Prop
  | _, [] => True
  | st, g :: gs => (g.rule = rule ∧ g.aShape = aShape ∧ regularGroup g = true ∧ coversA g = true ∧
      namesOk g st = true) ∧ GroupsOk rule aShape (fwState g st g.blocks) gs

theorem allFw_names (rule : QRule) (aShape : List Nat) : ∀ (gs : List GroupDesc) (st : GenState),
    GroupsOk rule aShape st gs →
    ∀ fwe ∈ allFw st gs, mentionsE aName fwe = false ∧ ∀ n ∈ dofNames, mentionsE n fwe = false
  | [], _, _ => by simp [allFw]
  | g :: gs, st, hok => by
    simp only [GroupsOk] at hok
    intro fwe hf
    simp only [allFw, List.mem_append] at hf
    rcases hf with hf | hf
    · exact (namesOk_inv g st hok.1.2.2.2.2).2 fwe hf
    · exact allFw_names rule aShape gs _ hok.2 fwe hf

/-- `υ` has the arrays of `σ` (all integer arrays, all scalar arrays but `A`) -/
abbrev ArrAgree (σ υ : St R) : Prop := Agree aName (fun _ => False) (fun _ => False) σ υ

omit [Field R] in
theorem arrAgree_of {σ υ : St R} (hia : υ.ia = σ.ia) (hsa : ∀ n, n ≠ aName → υ.sa.get n = σ.sa.get n) :
    ArrAgree σ υ :=
  ⟨hia, fun _ h => h.elim, fun _ h => h.elim, hsa⟩

/-- All "Tensor Computation" sections of one quadrature point, run one after the other from a state `τ` that has the
    arrays of `σ` (`ArrAgree σ τ`, written out): together they add `groupsSum`, the sum of the groups' closed forms
    with the tables read in `σ` and the `fw` values `Φ`, which they have in `τ` and which no section changes. -/
theorem groups_spec (hlaw : LawfulExtra x) (rule : QRule) (aShape : List Nat) (σ : St R) (q : Int)
    (Φ : Expr → R) :
    ∀ (gs : List GroupDesc) (st st' : GenState) (tc fw : List Stmt),
      genGroups st gs = .ok (tc, fw, st') → GroupsOk rule aShape st gs →
      (∀ g ∈ gs, ∀ b ∈ g.blocks, ∀ a ∈ b.args, ArgOk σ g.entityType q a) →
      ∀ τ : St R, Agree aName (fun _ => False) (fun _ => False) σ τ → τ.iv.get "iq" = some q →
        AOk aName (sizeProd aShape) τ →
        (∀ fwe ∈ allFw st gs, safeE τ fwe = true ∧ eval x τ fwe = Φ fwe) →
        ∃ τ', execL x tc τ = .ok τ' ∧
          Acc aName (fun n => n ∈ dofNames) (fun _ => False) (fun k => groupsSum Φ σ q k st gs) τ τ' := by
  intro gs
  induction gs with
  | nil =>
    intro st st' tc fw h _ _ τ _ _ hA _
    cases h
    obtain ⟨a, ha, _⟩ := hA
    exact ⟨τ, rfl, Acc.refl ha⟩
  | cons g gs ih =>
    intro st st' tc fw h hok htab τ hag hq hA hfw
    simp only [genGroups, bind] at h
    obtain ⟨⟨qp, inter, st1⟩, h1, h⟩ := bind_eq_ok.mp h
    obtain ⟨⟨qs, is, st2⟩, h2, h⟩ := bind_eq_ok.mp h
    cases h
    simp only [GroupsOk] at hok
    obtain ⟨⟨_, hsh, hreg, hcov, hnm⟩, hok'⟩ := hok
    obtain ⟨hnA, _⟩ := namesOk_inv g st hnm
    have htabτ : ∀ b ∈ g.blocks, ∀ a ∈ b.args, ArgOk τ g.entityType q a :=
      fun b hb a ha => ArgOk_agree hag g.entityType q a (hnA b hb a ha) (htab g (by simp) b hb a ha)
    have hfwτ : ∀ fwe ∈ fwExprs g st g.blocks, safeE τ fwe = true :=
      fun f hf => (hfw f (by simp [allFw, hf])).1
    obtain ⟨rfl, τ₁, he1, hacc1⟩ := genBlock_run x hlaw g st st1 qp inter h1 hreg hcov hnm τ q hq
      (hsh ▸ hA) htabτ hfwτ
    have hag1 : ArrAgree σ τ₁ :=
      arrAgree_of (hacc1.ia.trans hag.ia) fun n hn => (hacc1.sa n hn).trans (hag.sa n hn)
    have hq1 : τ₁.iv.get "iq" = some q := by
      rw [hacc1.iv "iq" (by decide)]; exact hq
    have hfw1 : ∀ fwe ∈ allFw (fwState g st g.blocks) gs,
        safeE τ₁ fwe = true ∧ eval x τ₁ fwe = Φ fwe := by
      intro fwe hf
      obtain ⟨m1, m2⟩ := allFw_names rule aShape gs _ hok' fwe hf
      have hP : ∀ n, mentionsE n fwe = true → n ≠ aName ∧ ¬ n ∈ dofNames ∧ ¬ False :=
        fun n hn => ⟨ne_of_mentions m1 hn, not_mem_of_mentions m2 hn, fun h => h⟩
      have hagτ := hacc1.agree.agreeOn
      obtain ⟨s1, s2⟩ := hfw fwe (by simp [allFw, hf])
      exact ⟨(safeE_agreeOn hagτ fwe hP).symm.trans s1, (eval_agreeOn x hagτ fwe hP).symm.trans s2⟩
    obtain ⟨τ', he2, hacc2⟩ := ih _ st2 qs is h2 hok'
      (fun g' hg' => htab g' (by simp [hg'])) τ₁ hag1 hq1 (AOk.of_acc hacc1 hA) hfw1
    refine ⟨τ', by rw [execL_append', he1]; exact he2, (hacc1.trans hacc2).congr ?_⟩
    intro k
    simp only [groupsSum, blockSum]
    exact congrArg (dofSum g.bmLens · + _) (funext fun ds =>
      blockLeafL_eq x Φ σ τ g.entityType g.aShape g.bmLens q ds k g.blocks _
        (fun f hf => (hfw f (by simp [allFw, hf])).2)
        (fun b hb => argVals_agree hag g.entityType q b.args ds (hnA b hb)))

/-- The quadrature loop `generate_quadrature_loop` assembles for a rule without
    tensor factors (`for iq { definitions; Intermediates{fw=0; …; fw=f·w[iq]}; Tensor Computation… }`, as
    handed to `optimize`), for block groups satisfying the decidable side conditions (`GroupsOk`).

    Assumption on the code before the tensor computation (`hpre`; C01Kernel derives it from the definition
    sections and the partition, see `kernel_meets_spec_defs_partial`): in
    every iteration `q`, from any state reached so far, the statements before the tensor computation
    succeed, add nothing to `A`, write only integer variables in `Wi` / scalars in `Ws`, leave `iq = q`,
    and afterwards every `fw` expression is defined and has the value `Φ q fw` (`= f_b(q)·w_q`).

    Conclusion: the loop succeeds and yields `σ` with
      `A[k] += Σ_{q<nq} Σ_groups Σ_(i,j) Σ_b [flat_{A_shape}(bs·(i,j)+off) = k] · Φ q fw_b · Π_r T_br[perm][entity][q][d_r]`,
    integer variables in `Wi` and scalars in `Ws` overwritten, everything else unchanged. -/
theorem quadLoop_spec (hlaw : LawfulExtra x) (rule : QRule) (hrule : rule.factors = none)
    (aShape : List Nat) (gs : List GroupDesc) (st st' : GenState) (tc fw : List Stmt)
    (hgen : genGroups st gs = .ok (tc, fw, st')) (hok : GroupsOk rule aShape st gs)
    (defs i0 : List Stmt) (Wi Ws : String → Prop) (hiq : Wi "iq") (hdof : ∀ n ∈ dofNames, Wi n)
    (σ : St R) (hA : AOk aName (sizeProd aShape) σ)
    (htab : ∀ q : Nat, q < rule.nweights → ∀ g ∈ gs, ∀ b ∈ g.blocks, ∀ a ∈ b.args,
      ArgOk σ g.entityType q a)
    (Φ : Nat → Expr → R)
    (hpre : ∀ q : Nat, q < rule.nweights → ∀ (τ : St R) (d : Nat → R), Acc aName Wi Ws d σ τ →
      ∃ τ', execL x (preCode defs i0 fw) (τ.setIV "iq" q) = .ok τ' ∧
        Acc aName Wi Ws (fun _ => 0) τ τ' ∧ τ'.iv.get "iq" = some (q : Int) ∧
        ∀ fwe ∈ allFw st gs, safeE τ' fwe = true ∧ eval x τ' fwe = Φ q fwe) :
    ∃ σ', exec x (genQuadLoop rule (quadLoopCode defs i0 tc fw)) σ = .ok σ' ∧
      Acc aName Wi Ws
        (fun k => isum 0 rule.nweights (fun q => groupsSum (Φ q.toNat) σ q k st gs)) σ σ' := by
  have hloop : genQuadLoop rule (quadLoopCode defs i0 tc fw) =
      .forRange "iq" (.litI 0) (.litI rule.nweights) [asStmt (quadLoopCode defs i0 tc fw)] := by
    simp [genQuadLoop, quadIndex_noTF rule hrule, nestStmt]
  rw [hloop, exec_for_lit, Int.sub_zero, Int.toNat_natCast]
  have ⟨a, ha, _⟩ := hA
  -- invariant: before iteration `t` the sum over the points below `t` has been added
  refine (loopN_inv _ "iq" rule.nweights (fun t τ => Acc aName Wi Ws
    (fun k => isum 0 t (fun q => groupsSum (Φ q.toNat) σ q k st gs)) σ τ) 0 σ (Acc.refl ha) fun t τ ht hτ => ?_)
  rw [Int.zero_add]
  obtain ⟨τ₁, he1, hacc1, hq1, hfw1⟩ := hpre t ht τ _ hτ
  have hreach := hτ.trans hacc1
  obtain ⟨τ₂, he2, hacc2⟩ := groups_spec x hlaw rule aShape σ t (Φ t) gs st st' tc fw hgen hok
    (htab t ht) τ₁ (arrAgree_of hreach.ia hreach.sa) hq1 (AOk.of_acc hreach hA) hfw1
  refine ⟨τ₂, ?_, (hreach.trans (hacc2.mono (fun n hn => hdof n hn) (fun _ h => h.elim))).congr fun k => ?_⟩
  · rw [execL_singleton, exec_asStmt, execL_quadLoopCode, execL_append', he1]
    exact he2
  · rw [isum_succ_right, Semiring.add_zero, Int.zero_add, Int.toNat_natCast]

theorem eval_floatProduct2 (hlaw : LawfulExtra x) (σ : St R) (f w : Expr) :
    eval x σ (floatProduct [f, w]) = eval x σ f * eval x σ w := by
  rw [float_product_sound hlaw, evalL, evalL, evalL, prodR, prodR, prodR, Semiring.mul_one]

theorem eval_weightExpr (g : GroupDesc) (hrule : g.rule.factors = none) (σ : St R) (q : Int)
    (hq : σ.iv.get "iq" = some q) :
    eval x σ (weightExpr g) =
      readArr σ (if g.custom then "weights_chunk" else s!"weights_{g.rule.id}") [q] := by
  have := evalI_global_single σ.iv σ.ia "iq" g.rule.nweights q hq
  simp only [weightExpr, quadIndex_noTF _ hrule, eval, evalIs, this]
  simp

/-- **The value of a new `fw` temporary**: the defining expression `float_product([f, weights[iq]])`
    that `generate_block_parts` returns in `intermediates` evaluates to `f · w_q`. -/
theorem fw_value (hlaw : LawfulExtra x) (g : GroupDesc) (hrule : g.rule.factors = none) (b : BlockData)
    (σ : St R) (q : Int) (hq : σ.iv.get "iq" = some q) :
    eval x σ (floatProduct [b.f, weightExpr g]) =
      eval x σ b.f * readArr σ (if g.custom then "weights_chunk" else s!"weights_{g.rule.id}") [q] := by
  rw [eval_floatProduct2 x hlaw, eval_weightExpr x g hrule σ q hq]

theorem fwShape_head {s : Stmt} {ss : List Stmt} (h : fwShape (s :: ss) = true) :
    ∃ n dt v, s = .vdecl n dt v := by
  cases s <;> first | exact ⟨_, _, _, rfl⟩ | cases h

theorem fwAssigns_aux (N : List String) (fw : List Stmt) (hsh : fwShape fw = true)
    (hnd : (declNames fw).Nodup) (hN : ∀ m ∈ declNames fw, m ∈ N)
    (hnm : ∀ p ∈ fwPairs fw, ∀ m ∈ N, mentionsE m p.2 = false) (τ : St R)
    (hA : ∃ a, τ.sa.get aName = some a)
    (hd : ∀ p ∈ fwPairs fw, (τ.sv.get p.1).isSome = true ∧ safeE τ p.2 = true) :
    ∃ τ', execL x (fwAssigns fw) τ = .ok τ' ∧
      Acc aName (fun _ => False) (fun n => n ∈ declNames fw) (fun _ => 0) τ τ' ∧
      ∀ p ∈ fwPairs fw, τ'.sv.get p.1 = some (eval x τ p.2) := by
  induction fw generalizing τ with
  | nil =>
    obtain ⟨a, ha⟩ := hA
    exact ⟨τ, rfl, Acc.refl ha, fun _ h => nomatch h⟩
  | cons s ss ih =>
    obtain ⟨n, dt, v, rfl⟩ := fwShape_head hsh
    obtain ⟨a, ha⟩ := hA
    simp only [fwShape, Bool.and_eq_true, bne_iff_ne, ne_eq] at hsh
    simp only [declNames, List.nodup_cons] at hnd
    obtain ⟨hsome, hsafe⟩ := hd (n, v) List.mem_cons_self
    obtain ⟨old, hold⟩ := Option.isSome_iff_exists.mp hsome
    have hdt : (dt == DType.int) = false := by simpa using hsh.1
    have he : exec x (.assign (.sym n dt) v) τ = .ok (τ.setSV n (eval x τ v)) := by
      simp [exec, hsafe, store, hdt, hold]
    have hag : AgreeOn (fun m => m ≠ n) τ (τ.setSV n (eval x τ v)) := agreeOn_setSV τ n _ fun _ h => h
    have hkeep : ∀ p ∈ fwPairs ss, ∀ m, mentionsE m p.2 = true → m ≠ n := fun p hp m hm =>
      ne_of_mentions (hnm p (List.mem_cons_of_mem _ hp) n (hN n List.mem_cons_self)) hm
    have hd₁ : ∀ p ∈ fwPairs ss, ((τ.setSV n (eval x τ v)).sv.get p.1).isSome = true ∧
        safeE (τ.setSV n (eval x τ v)) p.2 = true := by
      intro p hp
      obtain ⟨h1, h2⟩ := hd p (List.mem_cons_of_mem _ hp)
      refine ⟨?_, (safeE_agreeOn hag p.2 (hkeep p hp)).symm.trans h2⟩
      simp only [St.setSV, AList.get_set]
      split
      · rfl
      · exact h1
    obtain ⟨τ', he', hacc, hval⟩ := ih hsh.2 hnd.2
      (fun m hm => hN m (List.mem_cons_of_mem _ hm)) (fun p hp => hnm p (List.mem_cons_of_mem _ hp))
      (τ.setSV n (eval x τ v)) ⟨a, ha⟩ hd₁
    refine ⟨τ', by simp only [fwAssigns, execL, he, he'],
      Acc.of_setSV List.mem_cons_self (hacc.mono (fun _ h => h) fun m hm => List.mem_cons_of_mem _ hm),
      fun p hp => ?_⟩
    rcases List.mem_cons.mp hp with rfl | hp
    · rw [hacc.sv n hnd.1]
      exact AList.get_set_self ..
    · rw [hval p hp, ← eval_agreeOn x hag p.2 (hkeep p hp)]

/-- **The `fw = f·w[iq]` assignments** of the Intermediates section: if the temporaries are declared
    non-integer variables, pairwise distinct, and no defining expression reads one of them
    (`fwDeclsOk`, decidable), then after the assignments every temporary holds the value its defining
    expression had before (`f·w_q` by `fw_value`); `A`, the integer variables and all other scalars
    are unchanged. -/
theorem fwAssigns_spec (fw : List Stmt) (hok : fwDeclsOk fw = true) (τ : St R)
    (hA : ∃ a, τ.sa.get aName = some a)
    (hd : ∀ p ∈ fwPairs fw, (τ.sv.get p.1).isSome = true ∧ safeE τ p.2 = true) :
    ∃ τ', execL x (fwAssigns fw) τ = .ok τ' ∧
      Acc aName (fun _ => False) (fun n => n ∈ declNames fw) (fun _ => 0) τ τ' ∧
      ∀ p ∈ fwPairs fw, τ'.sv.get p.1 = some (eval x τ p.2) := by
  simp only [fwDeclsOk, Bool.and_eq_true, decide_eq_true_eq, List.all_eq_true, Bool.not_eq_true'] at hok
  exact fwAssigns_aux x (declNames fw) fw hok.1.1 hok.1.2 (fun _ h => h) hok.2 τ hA hd

/-- what the partition code must establish about one `fw` expression `fwe` of a block (state `τ`
    after definitions, `fw = 0` declarations and partition intermediates; `φ` the value the block's
    factor `f·w_q` must have): a cached temporary has a declaration in `fw` whose defining expression
    has that value; `weights[iq]` itself (when `f` is one) is readable and has that value. -/
def FwReady (fw : List Stmt) (τ : St R) (φ : R) (e : Expr) : Prop :=
  (∃ n dt v, e = .sym n dt ∧ dt ≠ .int ∧ (n, v) ∈ fwPairs fw ∧ eval x τ v = φ) ∨
  (safeE τ e = true ∧ eval x τ e = φ ∧ ∀ m ∈ declNames fw, mentionsE m e = false)

/-- `quadLoop_spec` with the `fw = f·w[iq]` assignments discharged
    (`fwAssigns_spec`): the only remaining assumption is on the partition code proper
    (`definitions`, the `fw = 0` declarations, the `sv_` intermediates), which in every iteration must
    succeed, add nothing to `A`, stay inside its write sets, and leave the defining expression of every
    `fw` temporary well defined with value `Φ q fw` (`= f_b(q)·w_q`, see `fw_value`).

    `hpart` is established by `kernel_meets_spec_defs_partial` (C01Kernel, from the transcriptions of
    `definitions.py` in C01Definitions and of `generate_partition` in C01Partition); the sum over the
    blocks is identified with `Σ_q w_q · integrand(q)` by `kernel_meets_spec` (C01Spec, through
    `factorize_sound`), whose link hypotheses `kernel_meets_spec_checked` (C01Link) derives from Boolean
    checks.  Not covered by any of them: `optimize` acting on the loop (C17Opt, `optimize_sound`, under
    per-kernel certificates), several rules, and tensor-factorised rules (`genBlock_nest` covers their
    nests, C10Codegen their closed forms), table values = basis functions at the points (C02/C03). -/
theorem kernel_meets_spec_partial (hlaw : LawfulExtra x) (rule : QRule) (hrule : rule.factors = none)
    (aShape : List Nat) (gs : List GroupDesc) (st st' : GenState) (tc fw : List Stmt)
    (hgen : genGroups st gs = .ok (tc, fw, st')) (hok : GroupsOk rule aShape st gs)
    (hfwok : fwDeclsOk fw = true)
    (defs i0 : List Stmt) (Wi Ws : String → Prop) (hiq : Wi "iq") (hdof : ∀ n ∈ dofNames, Wi n)
    (hWs : ∀ n ∈ declNames fw, Ws n)
    (σ : St R) (hA : AOk aName (sizeProd aShape) σ)
    (htab : ∀ q : Nat, q < rule.nweights → ∀ g ∈ gs, ∀ b ∈ g.blocks, ∀ a ∈ b.args,
      ArgOk σ g.entityType q a)
    (Φ : Nat → Expr → R)
    (hpart : ∀ q : Nat, q < rule.nweights → ∀ (τ : St R) (d : Nat → R), Acc aName Wi Ws d σ τ →
      ∃ τ₁, execL x (defs ++ fwDecls fw ++ i0) (τ.setIV "iq" q) = .ok τ₁ ∧
        Acc aName Wi Ws (fun _ => 0) τ τ₁ ∧ τ₁.iv.get "iq" = some (q : Int) ∧
        (∀ p ∈ fwPairs fw, (τ₁.sv.get p.1).isSome = true ∧ safeE τ₁ p.2 = true) ∧
        ∀ fwe ∈ allFw st gs, FwReady x fw τ₁ (Φ q fwe) fwe) :
    ∃ σ', exec x (genQuadLoop rule (quadLoopCode defs i0 tc fw)) σ = .ok σ' ∧
      Acc aName Wi Ws
        (fun k => isum 0 rule.nweights (fun q => groupsSum (Φ q.toNat) σ q k st gs)) σ σ' := by
  refine quadLoop_spec x hlaw rule hrule aShape gs st st' tc fw hgen hok defs i0 Wi Ws hiq hdof σ hA
    htab Φ ?_
  intro q hq τ d hτ
  obtain ⟨τ₁, he1, hacc1, hq1, hdecl, hready⟩ := hpart q hq τ d hτ
  have hA₁ : ∃ a, τ₁.sa.get aName = some a := by
    obtain ⟨_, a', _, h, _⟩ := (hτ.trans hacc1).arr; exact ⟨a', h⟩
  obtain ⟨τ₂, he2, hacc2, hval⟩ := fwAssigns_spec x fw hfwok τ₁ hA₁ hdecl
  have hacc2' : Acc aName Wi Ws (fun _ => 0) τ₁ τ₂ := hacc2.mono (fun _ h => h.elim) hWs
  refine ⟨τ₂, ?_, (hacc1.trans hacc2').congr (fun _ => Semiring.add_zero _), ?_, ?_⟩
  · rw [preCode, execL_append', he1]; exact he2
  · rw [hacc2.iv "iq" (fun h => h)]; exact hq1
  · intro fwe hfwe
    rcases hready fwe hfwe with ⟨n, dt, v, rfl, hdt, hv, hval'⟩ | ⟨h1, h2, h3⟩
    · have h2 := hval (n, v) hv
      have hdt' : (dt == DType.int) = false := by simpa using hdt
      simp only [safeE, eval, hdt', h2]
      simp [hval']
    · have hmA := (allFw_names rule aShape gs st hok fwe hfwe).1
      have hP : ∀ m, mentionsE m fwe = true → m ≠ aName ∧ ¬ False ∧ ¬ m ∈ declNames fw :=
        fun m hm => ⟨ne_of_mentions hmA hm, fun h => h, not_mem_of_mentions h3 hm⟩
      have hag := hacc2.agree.agreeOn
      exact ⟨(safeE_agreeOn hag fwe hP).symm.trans h1, (eval_agreeOn x hag fwe hP).symm.trans h2⟩

/-! ## Non-vacuity: a concrete rank-2 block, 2 quadrature points, 2×2 dofs, over ℚ -/

namespace Example

def tab (name : String) (bs off : Int) : TableRef :=
  { name := name, ttype := "varying", ndofs := 2, offset := off, blockSize := bs, isPermuted := false,
    factors := none }

/-- one block `A[2·i + 0][2·j + 1] += fw0 · FE0[0][0][iq][i] · FE1[0][0][iq][j]` of a 4×4 tensor -/
def g₀ : GroupDesc :=
  { rule := { id := "ab12cd34", nweights := 2, factors := none }, custom := false, entityType := "cell",
    diagonal := false, aShape := [4, 4], bmLens := [2, 2],
    blocks := [{ ttypes := ["varying", "varying"],
                 args := [{ table := tab "FE0" 2 0, restriction := .none },
                          { table := tab "FE1" 2 1, restriction := .none }],
                 nFactorComps := 1, factorIndex := 7, allFactorsPiecewise := false, transposed := false,
                 f := .sym "sv_ab12cd34_3" .scalar }] }

def arr (dims : List Nat) (vals : List Rat) : Arr Rat := { dims := dims, data := vals.toArray }

/-- `iq = 1`, `fw0 = 5`, tables `FE0[q][i] = 1+2q+i`, `FE1[q][j] = 10+2q+j`, `A = 0` -/
def σ₀ : St Rat :=
  { iv := [("iq", 1)], sv := [("fw0", 5)],
    sa := [("A", arr [16] (List.replicate 16 0)),
           ("FE0", arr [1, 1, 2, 2] [1, 2, 3, 4]), ("FE1", arr [1, 1, 2, 2] [10, 11, 12, 13])] }

theorem lawful : LawfulExtra (R := Rat) ratExtra := ratExtra_lawful

/-- the side conditions hold for `g₀` -/
example : regularGroup g₀ = true ∧ coversA g₀ = true ∧ namesOk g₀ {} = true ∧
    injectiveBlocks g₀ = true := by decide +kernel

/-- what the generator returns for `g₀` -/
def out₀ : List Stmt × List Stmt × GenState :=
  match genBlockParts g₀ {} with
  | .ok r => r
  | .error _ => ([], [], {})

example : (match genBlockParts g₀ {} with | .ok _ => true | .error _ => false) = true := by decide +kernel

example : fwExprs g₀ {} g₀.blocks = [.sym "fw0" .scalar] := by rfl

/-- executing the generated section at `iq = 1` adds `5·FE0[1][i]·FE1[1][j]` to `A[4·(2i) + 2j+1]`
    (`i, j < 2`) and nothing elsewhere — evaluated by the kernel -/
example : (match execL ratExtra out₀.1 σ₀ with
    | .ok σ' => (σ'.sa.get "A").map (·.data.toList)
    | .error _ => none) =
    some [0, 5 * 3 * 12, 0, 5 * 3 * 13, 0, 0, 0, 0, 0, 5 * 4 * 12, 0, 5 * 4 * 13, 0, 0, 0, 0] := by
  decide +kernel

/-- … and `blockSum` (the closed form of `genBlock_spec`) gives the same numbers -/
example : (List.range 16).map (blockSum ratExtra g₀ [.sym "fw0" .scalar] σ₀ 1) =
    [0, 5 * 3 * 12, 0, 5 * 3 * 13, 0, 0, 0, 0, 0, 5 * 4 * 12, 0, 5 * 4 * 13, 0, 0, 0, 0] := by
  decide +kernel

theorem argOk₀ (name : String) (bs off : Int) (vals : List Rat)
    (h : σ₀.sa.get name = some (arr [1, 1, 2, 2] vals)) :
    ArgOk σ₀ "cell" 1 { table := tab name bs off, restriction := .none } := by
  refine Or.inr ⟨.litI 0, 0, 0, arr [1, 1, 2, 2] vals, rfl, rfl, rfl, h, ?_⟩
  intro d hd
  have hp : (tab name bs off).isPiecewise = false := rfl
  simp only [hp, arr]
  match d, hd with
  | 0, _ => rfl
  | 1, _ => rfl
  | n + 2, h => exact absurd h (by simp [tab])

/-- all hypotheses of `genBlock_spec` hold for `g₀`, `σ₀`, `q = 1`: the theorem applies -/
example : ∃ σ', execL ratExtra out₀.1 σ₀ = .ok σ' ∧
    Acc aName (fun n => n ∈ dofNames) (fun _ => False)
      (blockSum ratExtra g₀ (fwExprs g₀ {} g₀.blocks) σ₀ 1) σ₀ σ' := by
  have hgen : genBlockParts g₀ {} = .ok (out₀.1, out₀.2.1, out₀.2.2) := rfl
  refine genBlock_spec ratExtra lawful g₀ {} _ _ _ hgen (by decide +kernel) (by decide +kernel) (by decide +kernel) σ₀ 1 rfl
    ⟨arr [16] (List.replicate 16 0), rfl, rfl, rfl, rfl⟩ ?_ ?_
  · intro b hb a ha
    simp only [g₀, List.mem_singleton] at hb
    subst hb
    simp only [List.mem_cons, List.mem_nil_iff, or_false] at ha
    rcases ha with rfl | rfl
    · exact argOk₀ "FE0" 2 0 [1, 2, 3, 4] rfl
    · exact argOk₀ "FE1" 2 1 [10, 11, 12, 13] rfl
  · intro fw hfw
    obtain rfl : fw = .sym "fw0" .scalar := List.mem_singleton.mp hfw
    decide

end Example

end Ffcx.Codegen
