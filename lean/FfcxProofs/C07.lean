/-
C07 — kernels accumulate into A and are pure functions of their inputs.

`pureKernel k` is a decidable certificate evaluated on every generated kernel
(driver command `pure`).  The theorems below hold for EVERY kernel satisfying it, every
input state, every initial content of A, and every sequence of calls.  The theorems about `A` take
the first conjunct of the certificate, `onlyAccum "A" k` (`A` is only ever the target of `+=`), as
their hypothesis; `inputs_unchanged` takes all of it.

Not covered by a theorem (stated as partial in the evidence): interleavings below statement
granularity / the C memory model / `restrict`; these are exercised by the threaded runs.
-/
import FfcxProofs.Lemmas.Shift
import FfcxProofs.Lemmas.Unwritten
import FfcxProofs.Lemmas.ShapeA
import FfcxProofs.Lemmas.Interleave

namespace Ffcx.LNodes
open Lean.Grind
attribute [local instance] Lean.Grind.Ring.intCast  -- as in Lemmas/Shift
variable {R : Type} [Field R] (x : Extra R)

/-- **All initial A.** Two runs of an accumulate-only kernel from states that differ only in the
    contents of `A` (by `d k` in entry `k`) fail identically or end in states that differ only in
    `A`, by exactly the same `d`: the increment `T = A_final − A_initial` does not depend on the
    initial contents of `A`. -/
theorem pure_accumulates (A : String) (d : Nat → R) (k : Stmt) (hk : onlyAccum A k = true)
    (σ τ : St R) (h : ShiftA A d σ τ) :
    RelRes (ShiftA A d) (exec x k σ) (exec x k τ) :=
  exec_shift x k σ τ hk h

/-- **Inputs are never written** (and integer arrays such as `entity_local_index`,
    `quadrature_permutation` are never written by any kernel). -/
theorem inputs_unchanged (k : Stmt) (hk : pureKernel k = true) (σ σ' : St R)
    (h : exec x k σ = .ok σ') :
    ∀ n ∈ kernelInputs, σ'.sa.get n = σ.sa.get n ∧ σ'.ia = σ.ia := by
  intro n hn
  simp [pureKernel] at hk
  have := exec_sameAt x n k σ σ' (hk.2 n hn) h
  exact ⟨this.sa, this.ia⟩

/-- One call of the kernel: inputs `inp` (w, c, coordinate_dofs, entity/permutation arrays — no
    locals: a C call starts with fresh automatic variables) and the tensor `A`; returns new `A`. -/
def call (k : Stmt) (inp : St R) (a : Arr R) : Except Err (Arr R) :=
  match exec x k (inp.setSA "A" a) with
  | .error e => .error e
  | .ok σ' => match σ'.sa.get "A" with
    | some a' => .ok a'
    | none => .error (.undeclared "A")

def zerosLike (a : Arr R) : Arr R := { a with data := Array.replicate a.data.size 0 }

theorem shift_of_zeros (inp : St R) (a : Arr R) :
    ShiftA "A" (fun k => a.data.getD k 0) (inp.setSA "A" (zerosLike a)) (inp.setSA "A" a) := by
  refine ⟨rfl, rfl, rfl, ?_, ?_⟩
  · intro n hn
    have : "A" ≠ n := fun e => hn e.symm
    simp [St.setSA, AList.get_set_ne _ _ _ _ this]
  · refine ⟨zerosLike a, a, by simp [St.setSA], by simp [St.setSA], rfl, rfl, by simp [zerosLike], ?_⟩
    intro k hk
    simp [zerosLike] at hk
    simp [zerosLike, Array.getD, hk]
    exact (AddCommMonoid.zero_add _).symm

theorem call_shape (k : Stmt) (hk : onlyAccum "A" k = true) (inp : St R) (a a' : Arr R)
    (h : call x k inp a = .ok a') :
    a'.dims = a.dims ∧ a'.const = a.const ∧ a'.data.size = a.data.size := by
  simp only [call] at h
  cases h1 : exec x k (inp.setSA "A" a) with
  | error e => simp [h1] at h
  | ok σ' =>
    have hp : ShapeAt "A" a.dims a.const a.data.size (inp.setSA "A" a) :=
      ⟨a, by simp [St.setSA], rfl, rfl, rfl⟩
    obtain ⟨b, hb, r⟩ := exec_shapeA x k _ σ' hk hp h1
    simp [h1, hb] at h; subst h; exact r

/-- **A ← A + T(inputs).** If the call on a zeroed tensor yields `T`, then the call on any initial
    tensor `a` yields `a + T` entrywise, and if one fails so does the other (same error). -/
theorem call_adds (k : Stmt) (hk : onlyAccum "A" k = true) (inp : St R) (a : Arr R) :
    match call x k inp (zerosLike a), call x k inp a with
    | .ok t, .ok a' =>
        ∀ j, j < a.data.size → a'.data.getD j 0 = a.data.getD j 0 + t.data.getD j 0
    | .error e, .error e' => e = e'
    | _, _ => False := by
  have h := exec_shift x k _ _ hk (shift_of_zeros inp a)
  have hp : ShapeAt "A" a.dims a.const a.data.size (inp.setSA "A" (zerosLike a)) :=
    ⟨zerosLike a, AList.get_set_self .., rfl, rfl, Array.size_replicate⟩
  have hsh := fun s₁ => exec_shapeA x k _ s₁ hk hp
  simp only [call]
  generalize exec x k (inp.setSA "A" (zerosLike a)) = r₁ at h hsh ⊢
  generalize exec x k (inp.setSA "A" a) = r₂ at h ⊢
  obtain _ | s₁ := r₁ <;> obtain _ | s₂ := r₂
  · exact h
  · exact h.elim
  · exact h.elim
  · obtain ⟨t, a', ht, ha', _, _, _, hdata⟩ := h.arrA
    obtain ⟨t', ht', _, _, hts⟩ := hsh s₁ rfl
    cases ht.symm.trans ht'
    simp only [ht, ha']
    intro j hj
    rw [hdata j (hts ▸ hj), Semiring.add_comm]

/-- A history of calls with inputs `ins`, threading the tensor through. -/
def callSeq (k : Stmt) : List (St R) → Arr R → Except Err (Arr R)
  | [], a => .ok a
  | inp :: rest, a => match call x k inp a with
    | .error e => .error e
    | .ok a' => callSeq k rest a'

/-- Σ over the history of the per-call increments `T(inp)`, each computed on a zeroed tensor of
    shape `sh` — a function of that call's inputs only. -/
def incrSum (k : Stmt) (sh : Arr R) : List (St R) → Nat → R
  | [], _ => 0
  | inp :: rest, j =>
    (match call x k inp (zerosLike sh) with | .ok t => t.data.getD j 0 | .error _ => 0)
      + incrSum k sh rest j

theorem zerosLike_congr (a b : Arr R) (hd : b.dims = a.dims) (hc : b.const = a.const)
    (hs : b.data.size = a.data.size) : zerosLike b = zerosLike a := by
  cases a; cases b; simp_all [zerosLike]

theorem incrSum_congr (k : Stmt) (a b : Arr R) (hz : zerosLike b = zerosLike a) :
    ∀ (l : List (St R)) (j : Nat), incrSum x k b l j = incrSum x k a l j
  | [], _ => rfl
  | i :: r, j => by simp only [incrSum, hz, incrSum_congr k a b hz r j]

/-- **All histories.** After any sequence of successful calls the tensor is the initial tensor
    plus the sum of the per-call increments, each of which depends only on that call's inputs
    (not on earlier calls, not on what `A` held before). -/
theorem pure_history (k : Stmt) (hk : onlyAccum "A" k = true) :
    ∀ (ins : List (St R)) (a a' : Arr R), callSeq x k ins a = .ok a' →
      ∀ j, j < a.data.size → a'.data.getD j 0 = a.data.getD j 0 + incrSum x k a ins j
  | [], a, a', h => by
    cases h
    intro j _
    exact (Semiring.add_zero _).symm
  | inp :: rest, a, a', h => by
    simp only [callSeq] at h
    have hc := call_adds x k hk inp a
    cases h1 : call x k inp a with
    | error e => rw [h1] at h; cases h
    | ok a1 =>
      rw [h1] at h
      obtain ⟨hd, hcst, hs⟩ := call_shape x k hk inp a a1 h1
      cases h0 : call x k inp (zerosLike a) with
      | error e => rw [h0, h1] at hc; exact hc.elim
      | ok t =>
        simp only [h0, h1] at hc
        have hz : zerosLike a1 = zerosLike a := zerosLike_congr a a1 hd hcst hs
        intro j hj
        rw [pure_history k hk rest a1 a' h j (hs ▸ hj), hc j hj, incrSum_congr x k a a1 hz rest j]
        simp only [incrSum, h0]
        exact Semiring.add_assoc ..

/-- The sum of the increments does not depend on the order of the calls (addition commutes). -/
theorem incrSum_perm (k : Stmt) (sh : Arr R) (l₁ l₂ : List (St R)) (hp : l₁.Perm l₂) (j : Nat) :
    incrSum x k sh l₁ j = incrSum x k sh l₂ j := by
  induction hp with
  | nil => rfl
  | cons a _ ih => simp [incrSum, ih]
  | swap a b l => simp only [incrSum]; exact AddCommMonoid.add_left_comm ..
  | trans _ _ ih1 ih2 => rw [ih1, ih2]

/-- Non-vacuity: the kernel `for i<3 { A[i] += w[i]*2 }` satisfies the certificate. -/
example : pureKernel (.forRange "i" (.litI 0) (.litI 3)
    [.addAssign (.idx "A" .scalar [.sym "i" .int])
      (.bin .mul (.idx "w" .scalar [.sym "i" .int]) (.litF 2 0 false))]) = true := by decide

end Ffcx.LNodes

namespace Ffcx.LNodes
variable {R : Type} [Add R] [Sub R] [Mul R] [Div R] [Neg R] [IntCast R] (x : Extra R)

/-- Let `p` and `q` be the statement sequences of two calls (the second one
    with its own automatic variables and its own tensor; `threadsDisjoint k` is the certificate
    below at `q = thread2 p`, and nothing here depends on that choice). If the decidable certificate
    `disjointB p q` holds (no statement of one call writes a name the other call mentions: inputs are
    only read, locals and tensors are private), then EVERY order-preserving interleaving `r` of the
    two sequences fails iff the sequential execution `p; q` fails, and otherwise ends in an
    extensionally equal state. Granularity: LNodes statements (top level of the kernel body); what
    this cannot exhibit: the C memory model below statement granularity, compiler reordering,
    `restrict` — these are only sampled by the threaded runs. -/
theorem pure_interleave (p q r : List Stmt) (hi : Interleave p q r) (hd : disjointB p q = true)
    (σ : St R) : ResEq (execL x r σ) (execL x (p ++ q) σ) :=
  interleave_seq x hi (disjoint_of_disjointB p q hd) σ

/-- non-vacuity: two copies of `A[0] += w[0]` with private tensors interleave freely -/
example : threadsDisjoint (.block [.vdecl "t" .scalar (.idx "w" .scalar [.litI 0]),
    .addAssign (.idx "A" .scalar [.litI 0]) (.sym "t" .scalar)]) = true := by decide

end Ffcx.LNodes
