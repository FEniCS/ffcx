/-
From the model of `licm` to the semantic core `licm_core`: what the transcription produces has the
shape the simulation needs (pre-loops of the records in processing order; every rewritten product
is `rem ++ [temp[o]]` with `args` a permutation of `rem ++ hoisted`).
-/
import FfcxProofs.Lemmas.OptLicm

namespace Ffcx.LNodes
open Ffcx.LNodes.Opt

mutual
theorem pyEq_refl : ∀ (e : Expr), pyEq e e = true
  | .litF .. => by simp [pyEq]
  | .litI _ => by simp [pyEq]
  | .sym .. => by simp [pyEq]
  | .mi s z g => by simp [pyEq, pyEqL_refl s, pyEq_refl g]
  | .neg a => by simp [pyEq, pyEq_refl a]
  | .not a => by simp [pyEq, pyEq_refl a]
  | .bin o a b => by simp [pyEq, pyEq_refl a, pyEq_refl b]
  | .sum as => by simp [pyEq, pyEqL_refl as]
  | .prod as => by simp [pyEq, pyEqL_refl as]
  | .call f _ as => by simp [pyEq, pyEqL_refl as]
  | .idx a _ ix => by simp [pyEq, pyEqL_refl ix]
  | .cond c t f => by simp [pyEq, pyEq_refl c, pyEq_refl t, pyEq_refl f]
theorem pyEqL_refl : ∀ (es : List Expr), pyEqL es es = true
  | [] => by simp [pyEqL]
  | e :: es => by simp [pyEqL, pyEq_refl e, pyEqL_refl es]
end

theorem any_of_pyEqL {p : Expr → Bool} (hp : ∀ a b, pyEq a b = true → p a = true → p b = true) :
    ∀ {as bs : List Expr}, pyEqL as bs = true → as.any p = true → bs.any p = true
  | [], _, _, ha => by cases ha
  | _ :: _, [], h, _ => by cases h
  | a :: as, b :: bs, h, ha => by
    simp only [pyEqL, Bool.and_eq_true] at h
    simp only [List.any_cons, Bool.or_eq_true] at ha ⊢
    exact ha.imp (hp a b h.1) (any_of_pyEqL hp h.2)

/- `isSymNamed_of_pyEq`, `naryHas_of_pyEq` and `isCand_of_pyEq` go through the thirteen arms of `pyEq` (`fun_cases`), named in the order of
   its definition: `case3` two symbols, `case8` / `case9` two sums / products, `case11` two array
   accesses, `case13` the catch-all (where `pyEq` is `false`); in the arms not named the hypothesis
   about the node reduces to `false = true` (or the goal holds by `rfl`). -/
theorem isSymNamed_of_pyEq (n : String) {a b : Expr} :
    pyEq a b = true → isSymNamed n a = true → isSymNamed n b = true := by
  fun_cases pyEq a b <;> intro h ha
  case case3 => exact eq_of_beq h ▸ ha
  case case13 => cases h
  all_goals cases ha

theorem naryHas_of_pyEq (n : String) {a b : Expr} :
    pyEq a b = true → naryHas n a = true → naryHas n b = true := by
  fun_cases pyEq a b <;> intro h ha
  case case8 => exact any_of_pyEqL (fun _ _ => isSymNamed_of_pyEq n) h ha
  case case9 => exact any_of_pyEqL (fun _ _ => isSymNamed_of_pyEq n) h ha
  case case13 => cases h
  all_goals cases ha

theorem isCand_idx (n arr : String) (dt : DType) (ix : List Expr) :
    isCand n (.idx arr dt ix) = (!ix.any (isSymNamed n) && !ix.any (naryHas n)) := by
  simp only [isCand, checkDependency]
  cases ix.any (isSymNamed n) <;> cases ix.any (naryHas n) <;> rfl

/-- `check_dependency` does not distinguish `==`-equal nodes: a node equal to a candidate is one -/
theorem isCand_of_pyEq (n : String) {a b : Expr} :
    pyEq a b = true → isCand n b = true → isCand n a = true := by
  fun_cases pyEq a b <;> intro h hb
  case case1 | case2 | case3 => rfl
  case case11 _ _ ix _ _ jx =>
    simp only [Bool.and_eq_true] at h
    simp only [isCand_idx, Bool.and_eq_true, Bool.not_eq_true'] at hb ⊢
    have back : ∀ p : Expr → Bool, (∀ a b, pyEq a b = true → p a = true → p b = true) →
        jx.any p = false → ix.any p = false := fun p hp hj =>
      Bool.eq_false_iff.2 (fun hi => by rw [any_of_pyEqL hp h.2 hi] at hj; cases hj)
    exact ⟨back _ (fun _ _ => isSymNamed_of_pyEq n) hb.1, back _ (fun _ _ => naryHas_of_pyEq n) hb.2⟩
  case case13 => cases h
  all_goals cases hb

theorem hoistCandidates_filter (n : String) : ∀ (args cands : List Expr),
    hoistCandidates n args = .ok cands → cands = args.filter (isCand n)
  | [], cands, h => by simp [hoistCandidates] at h; subst h; rfl
  | a :: as, cands, h => by
    rw [hoistCandidates] at h
    obtain ⟨d, h1, h⟩ := bind_eq_ok.mp h
    obtain ⟨r, h2, h⟩ := bind_eq_ok.mp h
    cases h
    have ih := hoistCandidates_filter n as r h2
    cases d <;> simp [List.filter, isCand, h1, ih]

theorem removeAll_skip (a : Expr) : ∀ (c X : List Expr), (∀ h, h ∈ c → pyEq a h = false) →
    removeAll (a :: X) c = a :: removeAll X c
  | [], X, _ => rfl
  | h :: c, X, hc => by
    simp only [removeAll, removeFirst, hc h (by simp), Bool.false_eq_true, if_false]
    exact removeAll_skip a c _ (fun h' hh => hc h' (by simp [hh]))

/-- `for h in hoist_candidates: args.remove(h)` leaves exactly the non-candidates -/
theorem removeAll_filter (p : Expr → Bool) (hp : ∀ a h, pyEq a h = true → p h = true → p a = true) :
    ∀ (l : List Expr), removeAll l (l.filter p) = l.filter (fun a => !p a)
  | [] => rfl
  | a :: l => by
    by_cases hpa : p a = true
    · simp only [List.filter, hpa, removeAll, removeFirst, pyEq_refl a, if_true, Bool.not_true]
      exact removeAll_filter p hp l
    · have hpa' : p a = false := by simpa using hpa
      simp only [List.filter, hpa', Bool.not_false]
      rw [removeAll_skip a _ l, removeAll_filter p hp l]
      intro h hh
      have := (List.mem_filter.mp hh).2
      by_cases he : pyEq a h = true
      · rw [hp a h he this] at hpa'; cases hpa'
      · simpa using he

theorem preAll_append (o : String) (N : Nat) : ∀ (a b : List HRec),
    preAll o N (a ++ b) = preAll o N a ++ preAll o N b
  | [], b => rfl
  | r :: a, b => by simp [preAll, preAll_append o N a b]

theorem tempNames_succ (k : Nat) : tempNames (k + 1) = tempNames k ++ [tempName k] := by
  simp [tempNames, List.range_succ]

theorem tempSize_lit (N : Nat) : tempSize (.litI 0) (.litI (N : Int)) = .ok N := by
  simp [tempSize]

/-- Invariant of `hoistAll`, `recs` being the records made so far.  The pre-loops and the `temp_k` names
    are those of `recs`, in order; a record hoists the candidate factors of some entry; an update
    replaces the candidates of its entry by the `temp[o]` of a record.  `numbered`: all entries with their
    positions, by which `st.upd` is keyed.  `upd` repeats the equation of `cand` to have it for the entry
    and the record of that update. -/
structure HInv (o n : String) (N : Nat) (numbered : List (Nat × Entry)) (st : HoistState)
    (recs : List HRec) : Prop where
  pre : st.pre = preAll o N recs
  temps : recs.map (fun r => r.temp) = tempNames st.counter
  cand : ∀ r, r ∈ recs → ∃ pe, pe ∈ numbered ∧ r.hoisted = pe.2.args.filter (isCand n)
  upd : ∀ p newArgs, (p, newArgs) ∈ st.upd → ∃ e r, (p, e) ∈ numbered ∧ r ∈ recs ∧
    newArgs = e.args.filter (fun a => !isCand n a) ++ [tempAccess r.temp o] ∧
    r.hoisted = e.args.filter (isCand n)

theorem hoistOne_inv (o n : String) (N : Nat) (numbered : List (Nat × Entry)) (st st' : HoistState)
    (recs : List HRec) (pe : Nat × Entry) (hpe : pe ∈ numbered)
    (h : hoistOne o n (.litI 0) (.litI (N : Int)) st pe = .ok st') (hi : HInv o n N numbered st recs) :
    ∃ recs', HInv o n N numbered st' recs' := by
  simp only [hoistOne, bind, Except.bind] at h
  cases h1 : hoistCandidates n pe.2.args with
  | error e => simp [h1] at h
  | ok cands =>
    simp only [h1] at h
    have hc := hoistCandidates_filter n _ _ h1
    by_cases hlen : cands.length > 1
    · simp only [hlen, if_true, tempSize_lit, pure, Except.pure] at h
      simp at h; subst h
      refine ⟨recs ++ [⟨tempName st.counter, cands⟩], ?_, ?_, ?_, ?_⟩
      · simp [preAll_append, preAll, preOf, hi.pre, tempAccess]
      · simp [hi.temps, tempNames_succ]
      · intro r hr
        rcases List.mem_append.mp hr with hr | hr
        · exact hi.cand r hr
        · simp at hr; subst hr; exact ⟨pe, hpe, hc⟩
      · intro p newArgs hm
        rcases List.mem_append.mp hm with hm | hm
        · obtain ⟨e, r, h1', h2', h3', h4'⟩ := hi.upd p newArgs hm
          exact ⟨e, r, h1', by simp [h2'], h3', h4'⟩
        · simp at hm
          obtain ⟨rfl, rfl⟩ := hm
          refine ⟨pe.2, ⟨tempName st.counter, cands⟩, hpe, by simp, ?_, hc⟩
          rw [hc, removeAll_filter (isCand n) (fun _ _ => isCand_of_pyEq n)]
          rfl
    · simp only [hlen, if_false, pure, Except.pure] at h
      simp at h; subst h
      exact ⟨recs, hi⟩

theorem hoistAll_inv (o n : String) (N : Nat) (numbered : List (Nat × Entry)) :
    ∀ (l : List (Nat × Entry)) (st st' : HoistState) (recs : List HRec),
    (∀ pe, pe ∈ l → pe ∈ numbered) →
    hoistAll o n (.litI 0) (.litI (N : Int)) st l = .ok st' → HInv o n N numbered st recs →
    ∃ recs', HInv o n N numbered st' recs'
  | [], st, st', recs, _, h, hi => by
    simp [hoistAll] at h; subst h; exact ⟨recs, hi⟩
  | pe :: l, st, st', recs, hm, h, hi => by
    rw [hoistAll] at h
    obtain ⟨st1, h1, h⟩ := bind_eq_ok.mp h
    obtain ⟨recs1, hi1⟩ := hoistOne_inv o n N numbered st st1 recs pe (hm pe (by simp)) h1 hi
    exact hoistAll_inv o n N numbered l st1 st' recs1 (fun pe' h' => hm pe' (by simp [h'])) h hi1

theorem mem_processingOrder {es : List (Nat × Entry)} {pe : Nat × Entry}
    (h : pe ∈ processingOrder es) : pe ∈ es := by
  simp only [processingOrder, List.mem_flatMap, List.mem_filter] at h
  obtain ⟨_, _, h2, _⟩ := h
  exact h2

theorem lookupUpd_mem : ∀ (upd : List (Nat × List Expr)) (k : Nat) (a : List Expr),
    lookupUpd upd k = some a → (k, a) ∈ upd
  | [], _, _, h => by simp [lookupUpd] at h
  | (j, b) :: r, k, a, h => by
    simp only [lookupUpd] at h
    by_cases hj : (j == k) = true
    · simp [hj] at h; subst h
      have : j = k := by simpa using hj
      subst this; simp
    · simp [hj] at h
      exact List.mem_cons_of_mem _ (lookupUpd_mem r k a h)

theorem number_fst_ge {α} : ∀ (l : List α) (k p : Nat) (e : α), (p, e) ∈ number k l → k ≤ p
  | [], _, _, _, h => by simp [number] at h
  | a :: l, k, p, e, h => by
    simp only [number, List.mem_cons, Prod.mk.injEq] at h
    rcases h with ⟨rfl, _⟩ | h
    · exact Nat.le_refl _
    · have := number_fst_ge l (k + 1) p e h; omega

theorem mem_of_mem_number {α} {p : Nat} {e : α} : ∀ {l : List α} {k : Nat}, (p, e) ∈ number k l → e ∈ l
  | [], _, h => by simp [number] at h
  | a :: l, k, h => by
    simp only [number, List.mem_cons, Prod.mk.injEq] at h
    rcases h with ⟨_, rfl⟩ | h
    · exact List.mem_cons_self
    · exact List.mem_cons_of_mem _ (mem_of_mem_number h)

theorem number_unique {α} : ∀ (l : List α) (k p : Nat) (e e' : α), (p, e) ∈ number k l →
    (p, e') ∈ number k l → e = e'
  | [], _, _, _, _, h, _ => by simp [number] at h
  | a :: l, k, p, e, e', h, h' => by
    simp only [number, List.mem_cons, Prod.mk.injEq] at h h'
    rcases h with ⟨rfl, rfl⟩ | h
    · rcases h' with ⟨_, rfl⟩ | h'
      · rfl
      · have := number_fst_ge l (p + 1) p e' h'; omega
    · rcases h' with ⟨rfl, rfl⟩ | h'
      · have := number_fst_ge l (p + 1) p e h; omega
      · exact number_unique l (k + 1) p e e' h h'

/-- what `toEntry` makes of a leaf; the default is never reached: every leaf is `flatAdd` -/
def entryOf : Stmt → Entry
  | .addAssign l (.prod args) => ⟨l, args⟩
  | _ => ⟨.litI 0, []⟩

theorem flatAdd_shape {s : Stmt} (h : flatAdd s = true) :
    ∃ a dt ix args, s = .addAssign (.idx a dt ix) (.prod args) := by
  unfold flatAdd at h
  split at h
  · exact ⟨_, _, _, _, rfl⟩
  · cases h

theorem exprsOf_flat : ∀ (ss : List Stmt), ss.all flatAdd = true → exprsOf ss = .ok ss
  | [], _ => rfl
  | s :: ss, h => by
    simp only [List.all_cons, Bool.and_eq_true] at h
    obtain ⟨a, dt, ix, args, rfl⟩ := flatAdd_shape h.1
    simp [exprsOf, exprOf, exprsOf_flat ss h.2, bind, Except.bind, pure, Except.pure]

theorem toEntries_flat : ∀ (ss : List Stmt), ss.all flatAdd = true →
    toEntries ss = .ok (ss.map entryOf)
  | [], _ => rfl
  | s :: ss, h => by
    simp only [List.all_cons, Bool.and_eq_true] at h
    obtain ⟨a, dt, ix, args, rfl⟩ := flatAdd_shape h.1
    simp [toEntries, toEntry, toEntries_flat ss h.2, bind, Except.bind, pure, Except.pure, entryOf]

theorem leaves_cons_flat {s : Stmt} (bs : List Stmt) (hb : ¬ ∃ ss, s = .block ss) :
    leaves (s :: bs) = s :: leaves bs := by
  cases s with
  | block ss => exact absurd ⟨ss, rfl⟩ hb
  | _ => rfl

theorem collect_leaves : ∀ (body : List Stmt), (leaves body).all flatAdd = true →
    collect body = .ok ((leaves body).map entryOf)
  | [], _ => rfl
  | s :: bs, h => by
    by_cases hb : ∃ ss, s = .block ss
    · obtain ⟨ss, rfl⟩ := hb
      simp only [leaves, List.all_append, Bool.and_eq_true] at h
      simp [collect, getStatements, exprsOf_flat ss h.1, toEntries_flat ss h.1,
        collect_leaves bs h.2, bind, Except.bind, pure, Except.pure, leaves]
    · rw [leaves_cons_flat bs hb] at h ⊢
      simp only [List.all_cons, Bool.and_eq_true] at h
      obtain ⟨a, dt, ix, args, rfl⟩ := flatAdd_shape h.1
      simp [collect, getStatements, exprOf, toEntries, toEntry, collect_leaves bs h.2, bind,
        Except.bind, pure, Except.pure, entryOf]

/-- a rewritten argument list is `rem ++ [temp[o]]` for a record whose factors were removed -/
def GoodUpd (recs : List HRec) (o : String) (e : Entry) (newArgs : List Expr) : Prop :=
  ∃ r, r ∈ recs ∧ ∃ rem, newArgs = rem ++ [tempAccess r.temp o] ∧ e.args.Perm (rem ++ r.hoisted)

theorem rebuildFlat_hlist (recs : List HRec) (o : String) (upd : List (Nat × List Expr)) :
    ∀ (ss : List Stmt) (k : Nat), ss.all flatAdd = true →
    (∀ j e a, (j, e) ∈ number k (ss.map entryOf) → lookupUpd upd j = some a → GoodUpd recs o e a) →
    HList (HStmt recs o) ss (rebuildFlat upd k ss)
  | [], _, _, _ => .nil
  | s :: ss, k, h, hg => by
    simp only [List.all_cons, Bool.and_eq_true] at h
    obtain ⟨a, dt, ix, args, rfl⟩ := flatAdd_shape h.1
    refine .cons ?_ (rebuildFlat_hlist recs o upd ss (k + 1) h.2
      (fun j e a' hm hl => hg j e a' (by simp [number, hm]) hl))
    simp only [rebuildOne]
    cases hl : lookupUpd upd k with
    | none => exact .same a dt ix args
    | some newArgs =>
      obtain ⟨r, hr, rem, rfl, hperm⟩ := hg k ⟨.idx a dt ix, args⟩ newArgs (by simp [number, entryOf]) hl
      exact .hoist a dt ix args rem r hr hperm

theorem rebuildFlat_append (upd : List (Nat × List Expr)) : ∀ (a b : List Stmt) (k : Nat),
    rebuildFlat upd k (a ++ b) = rebuildFlat upd k a ++ rebuildFlat upd (k + a.length) b
  | [], b, k => by simp [rebuildFlat]
  | s :: a, b, k => by
    simp only [List.cons_append, rebuildFlat, List.length_cons, rebuildFlat_append upd a b (k + 1)]
    have : k + 1 + a.length = k + (a.length + 1) := by omega
    rw [this]

theorem leaves_rebuildBody (upd : List (Nat × List Expr)) : ∀ (body : List Stmt) (k : Nat),
    leaves (rebuildBody upd k body) = rebuildFlat upd k (leaves body)
  | [], _ => rfl
  | s :: bs, k => by
    cases s with
    | block ss => simp only [rebuildBody, leaves, rebuildFlat_append, leaves_rebuildBody upd bs]
    | addAssign l r =>
      -- `rebuildOne` leaves an `addAssign` an `addAssign`, whatever `r` is
      obtain ⟨r', hr⟩ : ∃ r', rebuildOne upd k (.addAssign l r) = .addAssign l r' := by
        cases r <;> exact ⟨_, rfl⟩
      simp only [rebuildBody, leaves, rebuildFlat, hr, leaves_rebuildBody upd bs]
    | _ => simp only [rebuildBody, rebuildOne, leaves, rebuildFlat, leaves_rebuildBody upd bs]

end Ffcx.LNodes
