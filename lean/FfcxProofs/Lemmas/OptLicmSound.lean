/-
The model of `licm` on a section of the shape `licmShapeCert` accepts (`for o<N { for n∈[lo2,hi2)
{ body } }`): what the certificate gives as facts about the hoisting records (`licm_shape_facts`), and
with them the agreement of old and new section from every state in which the inserted pre-loops
succeed (`licm_shape`, an instance of `licm_core`).  That the pre-loops do succeed, and the theorem
under `licmCert`, are in Lemmas/OptLicmReach.
-/
import FfcxProofs.Lemmas.OptLicmModel

namespace Ffcx.LNodes
open Ffcx.LNodes.Opt
open Lean.Grind
attribute [local instance] Lean.Grind.Ring.intCast

variable {R : Type} [Field R] (x : Extra R)

theorem neverWrittenL_flat (m : String) : ∀ (ss : List Stmt), (∀ l, l ∈ ss → flatAdd l = true ∧ lhsArr l ≠ m) →
    neverWrittenL m ss = true
  | [], _ => rfl
  | l :: ss, h => by
    obtain ⟨hf, hne⟩ := h l (by simp)
    obtain ⟨a, dt, ix, args, rfl⟩ := flatAdd_shape hf
    simp only [neverWrittenL, neverWritten, Bool.and_eq_true]
    refine ⟨by simpa [lhsArr] using hne, neverWrittenL_flat m ss (fun l' hl' => h l' (by simp [hl']))⟩

theorem neverWritten_leaf {l : Stmt} {m : String} (hf : flatAdd l = true) (h : lhsArr l ≠ m) :
    neverWritten m l = true := by
  simpa [neverWrittenL] using neverWrittenL_flat m [l] (fun l' hl' => by
    rw [List.mem_singleton.1 hl']; exact ⟨hf, h⟩)

theorem tempsFresh_of : ∀ (recs : List HRec), (recs.map (fun r => r.temp)).Nodup →
    (∀ r r', r ∈ recs → r' ∈ recs → mentionsL r.temp r'.hoisted = false) → TempsFresh recs
  | [], _, _ => trivial
  | r :: rs, hn, hm => by
    simp only [List.map_cons, List.nodup_cons] at hn
    refine ⟨hm r r (by simp) (by simp), ?_, ?_⟩
    · intro r' hr'
      refine ⟨?_, hm r' r (by simp [hr']) (by simp), hm r r' (by simp) (by simp [hr'])⟩
      intro e
      exact hn.1 (by rw [← e]; exact List.mem_map.mpr ⟨r', hr', rfl⟩)
    · exact tempsFresh_of rs hn.2 (fun a b ha hb => hm a b (by simp [ha]) (by simp [hb]))

/-- what the certificate and the fold give for a section of the expected shape -/
structure ShapeFacts (o n : String) (lo2 hi2 : Expr) (body : List Stmt) (st : HoistState)
    (recs : List HRec) : Prop where
  temps : recs.map (·.temp) = tempNames st.counter
  fresh : TempsFresh recs
  hon : o ≠ n
  hnm : ∀ r, r ∈ recs → mentionsL n r.hoisted = false
  /-- for every upper bound `N` of the outer loop: the record does not have the nest's own -/
  hT : ∀ m, m ∈ recs.map (·.temp) → ∀ N : Int,
    mentionsS m (.forRange o (.litI 0) (.litI N) [.forRange n lo2 hi2 (leaves body)]) = false
  hok : ∀ l, l ∈ leaves body → BodyOK recs o l
  hl : HList (HStmt recs o) (leaves body) (rebuildFlat st.upd 0 (leaves body))
  flat : (leaves body).all flatAdd = true
  src : ∀ r, r ∈ recs → ∀ h, h ∈ r.hoisted → ∃ L, L ∈ leaves body ∧ h ∈ prodArgs L ∧
    mentionsE n h = false ∧ ∀ w, w ∈ (leaves body).map lhsArr → mentionsE w h = false

theorem licm_shape_facts (nm : String) (decls : List Stmt) (o n : String) (N : Nat) (lo2 hi2 : Expr)
    (body : List Stmt) (inp out ann : List String) (es : List Entry) (st : HoistState)
    (hcol : collect body = .ok es)
    (hha : hoistAll o n (.litI 0) (.litI (N : Int)) {} (processingOrder (number 0 es)) = .ok st)
    (hc : licmShapeCert (.sect nm decls
      [.forRange o (.litI 0) (.litI (N : Int)) [.forRange n lo2 hi2 body]] inp out ann) = true) :
    ∃ recs, st.pre = preAll o N recs ∧ ShapeFacts o n lo2 hi2 body st recs := by
  have hT : licmTemps (.sect nm decls
      [.forRange o (.litI 0) (.litI (N : Int)) [.forRange n lo2 hi2 body]] inp out ann) = st.counter := by
    simp [licmTemps, hcol, hha]
  simp only [licmShapeCert, hT, Bool.and_eq_true, List.all_eq_true, decide_eq_true_eq, bne_iff_ne,
    ne_eq] at hc
  obtain ⟨⟨⟨⟨⟨⟨hon, _⟩, hflat⟩, hcand⟩, hW⟩, hTm⟩, hnd⟩ := hc
  have hflat' : (leaves body).all flatAdd = true := by simpa [List.all_eq_true] using hflat
  have hes : es = (leaves body).map entryOf := by
    have := collect_leaves body hflat'
    rw [hcol] at this; simpa using this
  obtain ⟨recs, hi⟩ := hoistAll_inv o n N (number 0 es) _ {} st []
    (fun pe h => mem_processingOrder h) hha
    ⟨rfl, rfl, fun r hr => absurd hr List.not_mem_nil, fun p a h => absurd h List.not_mem_nil⟩
  have htemp : ∀ r, r ∈ recs → r.temp ∈ tempNames st.counter := fun r hr =>
    hi.temps ▸ List.mem_map.mpr ⟨r, hr, rfl⟩
  have hleaf : ∀ r, r ∈ recs → ∀ h, h ∈ r.hoisted →
      ∃ L, L ∈ leaves body ∧ h ∈ prodArgs L ∧ isCand n h = true := by
    intro r hr h hh
    obtain ⟨⟨p, e⟩, hpe, hrh⟩ := hi.cand r hr
    rw [hrh] at hh
    obtain ⟨hmem, hcd⟩ := List.mem_filter.mp hh
    have he := mem_of_mem_number hpe
    rw [hes] at he
    obtain ⟨leaf, hleaf, rfl⟩ := List.mem_map.mp he
    obtain ⟨a, dt, ix, args, rfl⟩ := flatAdd_shape (hflat leaf hleaf)
    exact ⟨_, hleaf, by simpa [prodArgs, entryOf] using hmem, hcd⟩
  have hhoist : ∀ r, r ∈ recs → ∀ h, h ∈ r.hoisted →
      hoistableB n ((leaves body).map lhsArr) (tempNames st.counter) h = true := by
    intro r hr h hh
    obtain ⟨L, hL, hmem, hcd⟩ := hleaf r hr h hh
    simpa [hcd] using hcand L hL h hmem
  have hsplit : ∀ r, r ∈ recs → ∀ h, h ∈ r.hoisted →
      mentionsE n h = false ∧ (∀ w, w ∈ (leaves body).map lhsArr → mentionsE w h = false) ∧
      (∀ t, t ∈ tempNames st.counter → mentionsE t h = false) := by
    intro r hr h hh
    have := hhoist r hr h hh
    simp only [hoistableB, Bool.and_eq_true, List.all_eq_true, Bool.not_eq_true'] at this
    exact ⟨this.1.1, this.1.2, this.2⟩
  let S : Stmt := .sect nm decls
    [.forRange o (.litI 0) (.litI (N : Int)) [.forRange n lo2 hi2 body]] inp out ann
  have hTS : ∀ t, t ∈ tempNames st.counter → mentionsS t S = false := by
    intro t ht; simpa using hTm t ht
  have hSbody : ∀ m, mentionsSL m body = true → mentionsS m S = true := by
    intro m hm
    simp [S, mentionsS, mentionsSL, hm]
  have hfresh : TempsFresh recs :=
    tempsFresh_of recs (by rw [hi.temps]; exact hnd) fun r r' hr hr' =>
      mentionsL_eq_false_iff.2 (fun h hh =>
        (hsplit r' hr' h hh).2.2 r.temp (htemp r hr))
  have hnm : ∀ r, r ∈ recs → mentionsL n r.hoisted = false := fun r hr =>
    mentionsL_eq_false_iff.2 (fun h hh => (hsplit r hr h hh).1)
  have hT : ∀ m, m ∈ recs.map (·.temp) → ∀ N' : Int,
      mentionsS m (.forRange o (.litI 0) (.litI N') [.forRange n lo2 hi2 (leaves body)]) = false := by
    intro m hts N'
    have := hTS m (hi.temps ▸ hts)
    simp only [S, mentionsS, mentionsSL, mentionsE, Bool.or_eq_false_iff, mentionsSL_leaves] at this ⊢
    exact this.2.1
  have hok : ∀ l, l ∈ leaves body → BodyOK recs o l := by
    intro l hl
    have hfa := hflat l hl
    refine ⟨fun r hr m hf => neverWritten_leaf hfa fun e => ?_,
      neverWritten_leaf hfa (hW (lhsArr l) (List.mem_map.mpr ⟨l, hl, rfl⟩)).1⟩
    rcases hf with hf | hf
    · -- the temporary is not mentioned in the section, the written array is
      subst hf
      obtain ⟨a, dt, ix, args, rfl⟩ := flatAdd_shape hfa
      simp only [lhsArr] at e
      have h1 := hTS r.temp (htemp r hr)
      have := hSbody a (mentionsSL_leaves a body ▸
        mentionsSL_of_mem hl (by simp [mentionsS, mentionsE]))
      rw [e] at this
      rw [this] at h1; cases h1
    · rw [mentionsL_eq_false_iff.2 fun h hh =>
        e ▸ (hsplit r hr h hh).2.1 (lhsArr l) (List.mem_map.mpr ⟨l, hl, rfl⟩)] at hf
      cases hf
  have hl : HList (HStmt recs o) (leaves body) (rebuildFlat st.upd 0 (leaves body)) := by
    refine rebuildFlat_hlist recs o st.upd (leaves body) 0 hflat' ?_
    intro j e a hm hlk
    rw [← hes] at hm
    obtain ⟨e', r, hme', hr, hnew, hrh⟩ := hi.upd j a (lookupUpd_mem _ _ _ hlk)
    have : e = e' := number_unique es 0 j e e' hm hme'
    subst this
    refine ⟨r, hr, _, hnew, ?_⟩
    rw [hrh]
    exact ((List.filter_append_perm (isCand n) e.args).symm).trans List.perm_append_comm
  refine ⟨recs, hi.pre, hi.temps, hfresh, hon, hnm, hT, hok, hl, hflat', ?_⟩
  · intro r hr h hh
    obtain ⟨L, hL, hmem, _⟩ := hleaf r hr h hh
    exact ⟨L, hL, hmem, (hsplit r hr h hh).1, (hsplit r hr h hh).2.1⟩

theorem licm_shape (nm : String) (decls : List Stmt) (o n : String) (N : Nat) (lo2 hi2 : Expr)
    (body : List Stmt) (inp out ann : List String) (st : HoistState) (recs : List HRec)
    (hpre : st.pre = preAll o N recs) (hf : ShapeFacts o n lo2 hi2 body st recs)
    (σ σd τP : St R) (hd : execL x decls σ = .ok σd) (hp : execL x st.pre σd = .ok τP) :
    ObsRes2 [o] (tempNames st.counter)
      (exec x (.sect nm decls
        [.forRange o (.litI 0) (.litI (N : Int)) [.forRange n lo2 hi2 body]] inp out ann) σ)
      (exec x (.sect nm decls (st.pre ++
        [.forRange o (.litI 0) (.litI (N : Int)) [.forRange n lo2 hi2 (rebuildBody st.upd 0 body)]])
        inp out ann) σ) := by
  have core := licm_core x recs o n N lo2 hi2 (leaves body) (rebuildFlat st.upd 0 (leaves body)) decls nm
    (i1 := inp) (o1 := out) (a1 := ann) (i2 := inp) (o2 := out) (a2 := ann)
    hf.fresh (fun e => hf.hon e.symm) hf.hnm (fun m hm => hf.hT m hm N) hf.hok
    hf.hl σ σd τP hd (by rw [← hpre]; exact hp)
  rw [← hpre] at core
  -- both nests run like the ones over the opened bodies
  have open_ : ∀ (body : List Stmt) (τ : St R),
      execL x [.forRange o (.litI 0) (.litI (N : Int)) [.forRange n lo2 hi2 (leaves body)]] τ =
      execL x [.forRange o (.litI 0) (.litI (N : Int)) [.forRange n lo2 hi2 body]] τ := fun body τ => by
    rw [execL_singleton, execL_singleton, nest_leaves]
  rw [← exec_sect_congr x nm decls inp out ann (open_ body), ← exec_sect_congr x nm decls inp out ann
    (execL_pre_congr x st.pre _ _ (open_ (rebuildBody st.upd 0 body))), leaves_rebuildBody]
  exact obsRes2_iff.2 (hf.temps ▸ core)

end Ffcx.LNodes
