/-
C16 — numba token-level round trip, part 2: the formatter's output is built from the rules of
`ReadsPy`, constructor by constructor (`rpe_*`), then for all well-formed trees (`rpe_expr`,
`parse_tokens_Py`). Below `ReadsPyE` no parser function, follow condition or fuel is mentioned,
calls and subscripts apart (dotted heads, item lists).
-/
import FfcxProofs.Lemmas.FormatPyRT
import FfcxProofs.Lemmas.FormatRTAll
namespace Ffcx.LNodes.Fmt

theorem cmp_of_prec {e} (hwf : wfPy e = true) (h : precF e = 7 ∨ precF e = 8) : isCmpNode e = true := by
  cases e with
  | bin op a b => cases op <;> simp [precF, Expr.prec, BinOp.prec] at h <;> rfl
  | mi s z gi =>
    simp only [wfPy, Bool.and_eq_true] at hwf
    cases gi <;> simp at hwf <;> simp [precF, Expr.prec] at h
  | _ => simp [precF, Expr.prec] at h

theorem py_unparen_level {op : BinOp} {x : Expr} (hwf : wfPy x = true) (hp : pyParen op x = false) :
    lvPy op.prec + 1 ≤ lvPy (precF x) := by
  simp only [pyParen, Bool.or_eq_false_iff, decide_eq_false_iff_not, Bool.and_eq_false_iff] at hp
  obtain ⟨h1, h2⟩ := hp
  refine lvPy_strict (Nat.lt_of_not_le h1) (binop_prec_cases op) ?_
  by_cases h8 : op.prec = 8
  · right
    intro h7
    have hc := cmp_of_prec hwf (Or.inl h7)
    have : op.isCompare = true := by cases op <;> simp [BinOp.prec] at h8 <;> rfl
    rcases h2 with h2 | h2
    · rw [this] at h2; exact absurd h2 (by decide)
    · rw [hc] at h2; exact absurd h2 (by decide)
  · left; exact h8

theorem py_unparen_nary {p : Nat} (hp : p = 4 ∨ p = 5) {x : Expr}
    (h : decide (precF x ≥ p) = false) : lvPy p + 1 ≤ lvPy (precF x) := by
  have h := Nat.lt_of_not_le (of_decide_eq_false h)
  rcases hp with rfl | rfl
  · exact lvPy_strict h (Or.inl rfl) (Or.inl (by decide))
  · exact lvPy_strict h (Or.inr (Or.inl rfl)) (Or.inl (by decide))

/-- what the recursion over trees proves; `rpe_c` below is the step for the constructor `c` -/
abbrev ReadsPyE (e : Expr) : Prop := ReadsPy (lvPy (precF e)) (tkp e) (erasePy e)

theorem rpe_sym {n dt} (hwf : wfPy (.sym n dt) = true) : ReadsPyE (.sym n dt) := by
  unfold ReadsPyE; rw [tkp_sym]
  exact readsPy_atom (pyAtomOf_ident (by simpa only [wfPy] using hwf)) _

theorem rpe_neg {a} (ha : ReadsPyE a) : ReadsPyE (.neg a) := by
  unfold ReadsPyE; rw [tkp_neg]
  exact readsPy_neg (ha.parenT fun h =>
    lvPy_unary (Nat.lt_succ_of_lt (Nat.lt_of_not_le (of_decide_eq_false h)))) _

/-- `( not ( a ) )` -/
theorem rpe_not {a} (ha : ReadsPyE a) : ReadsPyE (.not a) := by
  unfold ReadsPyE; rw [tkp_not]
  have := readsPy_paren (readsPy_not (readsPy_paren ha 3)) (lvPy (precF (.not a)))
  simpa only [List.cons_append, List.append_assoc, List.nil_append, erasePy] using this

theorem rpe_bin {op a b} (wa : wfPy a = true) (wb : wfPy b = true) (ha : ReadsPyE a) (hb : ReadsPyE b) :
    ReadsPyE (.bin op a b) := by
  unfold ReadsPyE; rw [tkp_bin]
  have la := fun hp => py_unparen_level (op := op) wa hp
  have lb := fun hp => py_unparen_level (op := op) wb hp
  show ReadsPy (lvPy op.prec) _ (.bin op (erasePy a) (erasePy b))
  by_cases h4 : lvPy op.prec = 4
  · rw [h4] at la lb ⊢
    exact readsPy_cmp (by rw [pyBinLevel_opTok, h4]) (ha.parenT la) (hb.parenT lb)
  · exact readsPy_bin (pyBinLevel_opTok op) h4 (ha.parenT fun hp => Nat.le_of_succ_le (la hp)) (hb.parenT lb)

/-- `( t if c else f )` -/
theorem rpe_cond {c t f} (hc : ReadsPyE c) (ht : ReadsPyE t) (hf : ReadsPyE f) : ReadsPyE (.cond c t f) := by
  unfold ReadsPyE; rw [tkp_cond]
  have := readsPy_paren (readsPy_cond (ht.parenT (p := decide (precF t ≥ 13)) fun _ => lvPy_ge1 _)
    (hc.parenT (p := decide (precF c ≥ 13)) fun _ => lvPy_ge1 _)
    (hf.parenT (p := decide (precF f ≥ 13)) fun _ => Nat.zero_le _)) (lvPy (precF (.cond c t f)))
  simpa only [List.cons_append, List.append_assoc, List.nil_append, erasePy] using this

theorem readsPy_signed {c : Prop} [Decidable c] {cs r : List Char} (l : Nat) (hn : c → cs = '-' :: r)
    (hp : ¬ c → ∃ c r, cs = c :: r ∧ c ≠ '-') :
    ReadsPy l (toks (numPieces cs)) (if c then .un .neg (.num (String.ofList r)) else .num (String.ofList cs)) := by
  split
  · next h => obtain rfl := hn h; exact readsPy_neg (readsPy_atom rfl 7) _
  · next h => rw [toks_numPieces_pos (hp h)]; exact readsPy_atom rfl _

theorem rpe_litF {re im} (hwf : wfPy (.litF re im false) = true) : ReadsPyE (.litF re im false) := by
  simp only [wfPy, pyLitShapeOK, Bool.and_eq_true] at hwf
  exact readsPy_signed _ reprFloat_neg fun h => pyNumShape_head (by rw [absR, if_neg h] at hwf; exact hwf.1)

theorem rpe_litI {v} (hwf : wfPy (.litI v) = true) : ReadsPyE (.litI v) := by
  simp only [wfPy, pyLitShapeOK] at hwf
  exact readsPy_signed _ fmtInt_neg fun h => pyNumShape_head (by rwa [if_neg h] at hwf)

theorem readsPy_tail {o op p} (hbo : pyBinLevel (.p o) = some (op, lvPy p)) (hp : p = 4 ∨ p = 5) :
    ∀ (l : List Expr), (∀ x ∈ l, ReadsPyE x) → ∀ ts acc, ReadsPy (lvPy p) ts acc →
      ReadsPy (lvPy p) (ts ++ tkTailPy o p l) ((eraseLPy l).foldl (fun a b => PT.bin op a b) acc)
  | [], _, ts, acc, h => by rwa [tkTailPy, List.append_nil]
  | x :: xs, hl, ts, acc, h => by
    have := readsPy_tail hbo hp xs (fun y hy => hl y (List.mem_cons_of_mem _ hy)) _ _
      (readsPy_bin hbo (by rcases hp with rfl | rfl <;> decide) h ((hl x List.mem_cons_self).parenT fun hpp => py_unparen_nary hp hpp))
    rw [List.append_assoc] at this
    exact this

theorem rpe_nary {o op p} (hbo : pyBinLevel (.p o) = some (op, lvPy p)) (hp : p = 4 ∨ p = 5)
    (e a : Expr) (l : List Expr) (hprec : precF e = p)
    (htk : tkp e = parenT (decide (precF a ≥ p)) (tkp a) ++ tkTailPy o p l)
    (her : erasePy e = (eraseLPy l).foldl (fun x y => PT.bin op x y) (erasePy a))
    (ha : ReadsPyE a) (hl : ∀ x ∈ l, ReadsPyE x) : ReadsPyE e := by
  unfold ReadsPyE; rw [hprec, htk, her]
  exact readsPy_tail hbo hp l hl _ _ (ha.parenT fun hpp => Nat.le_of_succ_le (py_unparen_nary hp hpp))

theorem rpe_sum {a l} (ha : ReadsPyE a) (hl : ∀ x ∈ l, ReadsPyE x) : ReadsPyE (.sum (a :: l)) :=
  rpe_nary (o := .plus) (op := .add) (p := 5) rfl (Or.inr rfl) _ a l rfl (tkp_sum a l)
    (by simp only [erasePy, eraseLPy, leftNestPT]) ha hl

theorem rpe_prod {a l} (ha : ReadsPyE a) (hl : ∀ x ∈ l, ReadsPyE x) : ReadsPyE (.prod (a :: l)) :=
  rpe_nary (o := .star) (op := .mul) (p := 4) rfl (Or.inl rfl) _ a l rfl (tkp_prod a l)
    (by simp only [erasePy, eraseLPy, leftNestPT]) ha hl

theorem readsPy_part (x : Rat) (sfx : List Char) (hs : pyNumShape (reprPart (absR x) ++ sfx) = true) (l : Nat) :
    ReadsPy l (toks (numPieces (reprPart x ++ sfx))) (erasePyPart x sfx) :=
  readsPy_signed l (fun hx => by rw [reprPart_neg hx, reprPart_pos (by grind : 0 < -x)]; rfl)
    fun hx => pyNumShape_head (by rwa [absR, if_neg hx] at hs)

/-- `( R op I )`, `R` a signed part, `I` one NUMBER -/
theorem readsPy_paren_sum {re : Rat} {sI : String} {o : P} {bop : BinOp} (ho : pyBinLevel (.p o) = some (bop, 5))
    (hre : pyNumShape (reprPart (absR re)) = true) (l : Nat) :
    ReadsPy l (.p .lpar :: ((toks (numPieces (reprPart re)) ++ .p o :: [.num sI]) ++ [.p .rpar]))
      (.bin bop (erasePyPart re []) (.num sI)) := by
  have hR := readsPy_part re [] (by rwa [List.append_nil]) 5
  rw [List.append_nil] at hR
  exact readsPy_paren (readsPy_bin ho (by decide) hR (readsPy_atom rfl 6)) l

/-- `(re±imj)` is the parenthesised sum or difference of a signed part and one NUMBER, `imj` one
    signed part; each rule is applied to token lists -/
theorem rpe_complex {re im} (hwf : wfPy (.litF re im true) = true) : ReadsPyE (.litF re im true) := by
  simp only [wfPy, pyLitShapeOK, Bool.and_eq_true, Bool.or_eq_true, decide_eq_true_eq] at hwf
  obtain ⟨hre, him⟩ := hwf
  unfold ReadsPyE
  by_cases h0 : re = 0
  · have hp : tkp (.litF re im true) = toks (numPieces (reprPart im ++ ['j'])) := by
      simp [tkp, tokExprPy, piecesPy, pyNumber, pyComplexPieces, h0]
    have he : erasePy (.litF re im true) = erasePyPart im ['j'] := by simp [erasePy, h0]
    rw [hp, he]
    exact readsPy_part im ['j'] him _
  · have hre := hre.resolve_left h0
    by_cases hi : im < 0
    · have e1 : reprPart im ++ ['j'] = '-' :: (reprPart (-im) ++ ['j']) := by
        rw [reprPart_neg hi, reprPart_pos (by grind : 0 < -im)]; rfl
      have hp : tkp (.litF re im true) = .p .lpar :: ((toks (numPieces (reprPart re)) ++
          .p .minus :: [.num (String.ofList (reprPart (-im) ++ ['j']))]) ++ [.p .rpar]) := by
        simp [tkp, tokExprPy, piecesPy, pyNumber, pyComplexPieces, h0, hi, toks_append, e1, numPieces, pp]
      have he : erasePy (.litF re im true)
          = .bin .sub (erasePyPart re []) (.num (String.ofList (reprPart (-im) ++ ['j']))) := by simp [erasePy, h0, hi]
      rw [hp, he]
      exact readsPy_paren_sum rfl hre _
    · rw [absR, if_neg hi] at him
      have hp : tkp (.litF re im true) = .p .lpar :: ((toks (numPieces (reprPart re)) ++
          .p .plus :: [.num (String.ofList (reprPart im ++ ['j']))]) ++ [.p .rpar]) := by
        simp [tkp, tokExprPy, piecesPy, pyNumber, pyComplexPieces, h0, hi, toks_append,
          toks_numPieces_pos (pyNumShape_head him)]
      have he : erasePy (.litF re im true)
          = .bin .add (erasePyPart re []) (.num (String.ofList (reprPart im ++ ['j']))) := by simp [erasePy, h0, hi]
      rw [hp, he]
      exact readsPy_paren_sum rfl hre _

theorem eraseLPy_eq_map : ∀ l : List Expr, eraseLPy l = l.map erasePy
  | [] => rfl
  | a :: as => by rw [eraseLPy, eraseLPy_eq_map as]; rfl

/-- arguments of a call, subscripts: a run of `pyItems` (`readsPy_items` on the formatter's lists) -/
theorem readsPy_args (close : P) (hcl : close = .rpar ∨ close = .rbrack) (args : List Expr)
    (hall : ∀ x ∈ args, ReadsPyE x) (rest : List Tok) :
    Ev fun F => pyItems F close (tkArgsPy args ++ .p close :: rest) = some (eraseLPy args, rest) := by
  have := readsPy_items close hcl (args.map fun e => (tkp e, erasePy e))
    (List.forall_mem_map.2 fun e he => .of_reads (hall e he)) rest
  simp only [List.map_map, Function.comp_def] at this
  rwa [← eraseLPy_eq_map] at this

/-- the dotted name of the callable -/
def pyHeadName (f : String) : String :=
  let fn := pyMathName f
  if containsL "bessel_y".toList fn.toList then "scipy.special.yn"
  else if containsL "bessel_j".toList fn.toList then "scipy.special.jn"
  else if fn = "erf" then "math.erf"
  else "np." ++ fn

theorem erasePy_call (f dt args) : erasePy (.call f dt args) = .call (pyHeadName f) (eraseLPy args) := by
  simp only [erasePy, pyHeadName, apply_ite (fun n => PT.call n (eraseLPy args))]

/-- the four callables: the name parts the formatter prints and the dotted name they spell -/
theorem pyHead_cases (f : String) :
    (pyHead f = ["scipy", "special", "yn"] ∧ pyHeadName f = "scipy.special.yn")
    ∨ (pyHead f = ["scipy", "special", "jn"] ∧ pyHeadName f = "scipy.special.jn")
    ∨ (pyHead f = ["math", "erf"] ∧ pyHeadName f = "math.erf")
    ∨ (pyHead f = ["np", pyMathName f] ∧ pyHeadName f = "np." ++ pyMathName f) := by
  unfold pyHead pyHeadName
  dsimp only
  by_cases h1 : containsL "bessel_y".toList (pyMathName f).toList = true
  · rw [if_pos h1, if_pos h1]
    exact Or.inl ⟨rfl, rfl⟩
  rw [if_neg h1, if_neg h1]
  by_cases h2 : containsL "bessel_j".toList (pyMathName f).toList = true
  · rw [if_pos h2, if_pos h2]
    exact Or.inr (Or.inl ⟨rfl, rfl⟩)
  rw [if_neg h2, if_neg h2]
  by_cases h3 : pyMathName f = "erf"
  · rw [if_pos h3, if_pos h3]
    exact Or.inr (Or.inr (Or.inl ⟨rfl, rfl⟩))
  rw [if_neg h3, if_neg h3]
  exact Or.inr (Or.inr (Or.inr ⟨rfl, rfl⟩))

/-- the call head as an operand: the dotted name, then the trailers -/
theorem py_head_operand (f : String) {m X res}
    (h : Ev fun n => pyTrailers n (.id (pyHeadName f)) X = some res) :
    Ev fun F => pyOperand F m (dottedToks (pyHead f) ++ X) = some res := by
  have hs : pyKeywords.contains "scipy" = false := by decide +kernel
  rcases pyHead_cases f with ⟨h1, h2⟩ | ⟨h1, h2⟩ | ⟨h1, h2⟩ | ⟨h1, h2⟩ <;> rw [h1] <;> rw [h2] at h
  · exact py_dotted "scipy" "special" hs (.step1 pyTrailers_dot h)
  · exact py_dotted "scipy" "special" hs (.step1 pyTrailers_dot h)
  · exact py_dotted "math" "erf" (by decide +kernel) h
  · refine py_dotted "np" (pyMathName f) np_not_kw ?_
    rw [show ("np" ++ "." : String) = "np." by decide]
    exact h

theorem dottedToks_pyHead_start (f : String) : ∃ t r, dottedToks (pyHead f) = t :: r ∧ pyStart t = true := by
  rcases pyHead_cases f with ⟨h, _⟩ | ⟨h, _⟩ | ⟨h, _⟩ | ⟨h, _⟩ <;> rw [h] <;> exact ⟨_, _, rfl, rfl⟩

theorem rpe_call {f dt args} (herf : pyMathName f ≠ "erf" ∨ args.length = 1)
    (hall : ∀ x ∈ args, ReadsPyE x) : ReadsPyE (.call f dt args) := by
  obtain ⟨t0, r0, ht0, hst0⟩ := dottedToks_pyHead_start f
  unfold ReadsPyE
  rw [tkp_call f dt args herf, erasePy_call]
  refine .of_un (fun m rest hps => ?_) ⟨t0, _, by rw [ht0]; rfl, hst0⟩ _
  simp only [List.cons_append, List.append_assoc, List.nil_append]
  exact py_head_operand f
    (.step2 pyTrailers_call (readsPy_args .rpar (Or.inl rfl) args hall rest) (pyTrailers_stop hps))

theorem rpe_idx {arr dt a as} (hid : validIdentPy arr = true) (hall : ∀ x ∈ a :: as, ReadsPyE x) :
    ReadsPyE (.idx arr dt (a :: as)) := by
  unfold ReadsPyE; rw [tkp_idx]
  refine .of_un (fun m rest hps => ?_) ⟨_, _, rfl, rfl⟩ _
  simp only [List.cons_append, List.append_assoc, List.nil_append]
  exact .step1 (pyOperand_atom (pyAtomOf_ident hid))
    (.step2 (fun hi => pyTrailers_idx hi rfl)
      (readsPy_args .rbrack (Or.inr rfl) (a :: as) hall rest) (pyTrailers_stop hps))

mutual
theorem rpe_expr : ∀ e, wfPy e = true → ReadsPyE e
  | .litF _ _ false, hwf => rpe_litF hwf
  | .litF _ _ true, hwf => rpe_complex hwf
  | .litI _, hwf => rpe_litI hwf
  | .sym _ _, hwf => rpe_sym hwf
  | .mi _ _ gi, hwf => by
    simp only [wfPy, Bool.and_eq_true] at hwf
    have := rpe_expr gi hwf.2
    unfold ReadsPyE at this ⊢
    rwa [tkp_mi]
  | .neg a, hwf => rpe_neg (rpe_expr a (by simpa only [wfPy] using hwf))
  | .not a, hwf => rpe_not (rpe_expr a (by simpa only [wfPy] using hwf))
  | .bin _ a b, hwf => by
    simp only [wfPy, Bool.and_eq_true] at hwf
    exact rpe_bin hwf.1 hwf.2 (rpe_expr a hwf.1) (rpe_expr b hwf.2)
  | .sum [], hwf => by cases hwf
  | .sum (a :: as), hwf => by
    simp only [wfPy, Bool.and_eq_true] at hwf
    have hall := rpe_exprs (a :: as) hwf.2
    exact rpe_sum (hall a List.mem_cons_self) (fun x hx => hall x (List.mem_cons_of_mem _ hx))
  | .prod [], hwf => by cases hwf
  | .prod (a :: as), hwf => by
    simp only [wfPy, Bool.and_eq_true] at hwf
    have hall := rpe_exprs (a :: as) hwf.2
    exact rpe_prod (hall a List.mem_cons_self) (fun x hx => hall x (List.mem_cons_of_mem _ hx))
  | .call _ _ args, hwf => by
    simp only [wfPy, Bool.and_eq_true, Bool.or_eq_true, bne_iff_ne, ne_eq, beq_iff_eq] at hwf
    exact rpe_call hwf.1.2 (rpe_exprs args hwf.2)
  | .idx _ _ [], hwf => by simp [wfPy] at hwf
  | .idx _ _ (a :: as), hwf => by
    simp only [wfPy, Bool.and_eq_true] at hwf
    exact rpe_idx hwf.1.1 (rpe_exprs (a :: as) hwf.2)
  | .cond c t f, hwf => by
    simp only [wfPy, Bool.and_eq_true] at hwf
    exact rpe_cond (rpe_expr c hwf.1.1) (rpe_expr t hwf.1.2) (rpe_expr f hwf.2)
theorem rpe_exprs : ∀ l, wfLPy l = true → ∀ x ∈ l, ReadsPyE x
  | [], _ => fun _ hx => nomatch hx
  | a :: as, hwf => by
    simp only [wfLPy, Bool.and_eq_true] at hwf
    intro x hx
    cases List.mem_cons.mp hx with
    | inl h => exact h ▸ rpe_expr a hwf.1
    | inr h => exact rpe_exprs as hwf.2 x h
end

theorem rtp_all (e : Expr) (hwf : wfPy e = true) : ReadsPyE e := rpe_expr e hwf

/-- `roundtrip_Py` less the spacing: from the tokens the numba formatter means to print (that the lexer
    finds just these in the text is `no_token_fusion_py`) the parser gives back the erased tree. -/
theorem parse_tokens_Py (e : Expr) (hwf : wfPy e = true) :
    parseExprPy (tokExprPy e) = some (erasePy e) :=
  (rpe_expr e hwf).parseExprPy

end Ffcx.LNodes.Fmt
