/-
C05 noninterference: if two states differ only in the contents of the one-dimensional input
array `W` at indices in `D`, and the run never reads `W` at an index in `D`, the two runs stay
in lock step and end in states that again differ only there.
-/
import FfcxProofs.Lemmas.Shift
import FfcxProofs.Lemmas.ReadsShape
import FfcxProofs.Lemmas.Unwritten
import FfcxModel.LNodes.ReadOnly

namespace Ffcx.LNodes
open Lean.Grind
attribute [local instance] Lean.Grind.Ring.intCast  -- as in Lemmas/Shift

variable {R : Type} [Field R] {W : String} {d : Nat → R} {D : Nat → Prop} (x : Extra R)

/-- `τ` is `σ` with the 1-D array `W` changed by `d` (entrywise). -/
structure AgreeW (W : String) (d : Nat → R) (σ τ : St R) : Prop extends ShiftA W d σ τ where
  -- so that the subscript `execReads` records for a read of `W` is the position in `a.data` that `d`
  -- and `D` speak of (`flatIdx_one`)
  oneD : ∃ a n, σ.sa.get W = some a ∧ a.dims = [n]

/-- all evaluable reads in `rs` avoid `D` -/
def GoodReads (D : Nat → Prop) (rs : List (Option Int)) : Prop :=
  ∀ i : Int, some i ∈ rs → 0 ≤ i → ¬ D i.toNat

theorem GoodReads.append_left {rs rs' : List (Option Int)} (h : GoodReads D (rs ++ rs')) :
    GoodReads D rs := fun i hi => h i (List.mem_append_left _ hi)

theorem GoodReads.append_right {rs rs' : List (Option Int)} (h : GoodReads D (rs ++ rs')) :
    GoodReads D rs' := fun i hi => h i (List.mem_append_right _ hi)

theorem flatIdx_one (n : Nat) (is : List Int) (k : Nat) (h : flatIdx [n] is = some k) :
    ∃ v : Int, is = [v] ∧ 0 ≤ v ∧ k = v.toNat := by
  match is, h with
  | [v], h =>
    simp only [flatIdx] at h
    split at h
    · rename_i hv
      exact ⟨v, rfl, hv.1, by simpa using h.symm⟩
    · cases h
  | _ :: _ :: _, h =>
    simp only [flatIdx] at h
    split at h <;> cases h

theorem mem_readsE_idx {iv : AList Int} {ia : AList (Array Int)} {dt : DType} {ix : List Expr}
    {v : Int} (hv : evalIs iv ia ix = some [v]) : some v ∈ readsE W iv ia (.idx W dt ix) := by
  match ix, hv with
  | [i], hv =>
    obtain ⟨u, _, hi, _, h⟩ := evalIs_cons_eq_some hv
    cases h
    simp only [readsE, beq_self_eq_true, if_true, hi, List.cons_append, List.mem_cons, true_or]
  | i :: j :: rest, hv =>
    obtain ⟨_, _, _, hr, h⟩ := evalIs_cons_eq_some hv
    cases h
    obtain ⟨_, _, _, _, h⟩ := evalIs_cons_eq_some hr
    cases h

theorem readArr_agree {σ τ : St R} (h : AgreeW W d σ τ) (hd : ∀ k, ¬ D k → d k = 0) (arr : String)
    (is : List Int) (hr : arr = W → ∀ v, is = [v] → 0 ≤ v → ¬ D v.toNat) :
    readArr σ arr is = readArr τ arr is := by
  by_cases hw : arr = W
  · subst hw
    obtain ⟨a, b, ha, hb, hdims, _, hsize, hdata⟩ := h.arrA
    obtain ⟨a', n, ha', hn⟩ := h.oneD
    cases ha.symm.trans ha'
    simp only [readArr, ha, hb, ← hdims, hn]
    cases hf : flatIdx [n] is with
    | none => rfl
    | some k =>
      obtain ⟨v, hv, hv0, hk⟩ := flatIdx_one n _ k hf
      simp only [Array.getD_eq_getD_getElem?, Ring.intCast_zero] at hdata ⊢
      by_cases hkk : k < a.data.size
      · rw [hdata k hkk, hd k (hk ▸ hr rfl v hv hv0), Semiring.add_zero]
      · rw [Array.getElem?_eq_none (Nat.le_of_not_lt hkk),
          Array.getElem?_eq_none (hsize ▸ Nat.le_of_not_lt hkk)]
  · simp only [readArr, h.other arr hw]

mutual
/-- value and truth value together: `eval` and `evalB` call each other -/
theorem evalEB_agree {σ τ : St R} (h : AgreeW W d σ τ) (hd : ∀ k, ¬ D k → d k = 0) :
    ∀ (e : Expr), GoodReads D (readsE W σ.iv σ.ia e) →
      eval x σ e = eval x τ e ∧ evalB x σ e = evalB x τ e
  | .litF .. | .litI .. => fun _ => by simp only [eval, evalB, and_self]
  | .sym n dt => fun _ => by simp only [eval, evalB, h.iv, h.sv, and_self]
  | .mi s z gi => fun _ => by simp only [eval, evalB, h.iv, h.ia, and_self]
  | .neg a => fun hr => by simp only [eval, evalB, (evalEB_agree h hd a hr).1, and_self]
  | .not a => fun hr => by simp only [eval, evalB, (evalEB_agree h hd a hr).2, and_self]
  | .bin op a b => fun hr => by
    have ⟨ha, hba⟩ := evalEB_agree h hd a hr.append_left
    have ⟨hb, hbb⟩ := evalEB_agree h hd b hr.append_right
    cases op <;> simp only [eval, evalB, ha, hb, hba, hbb, and_self]
  | .sum args | .prod args | .call _ _ args => fun hr => by
    simp only [eval, evalB, evalL_agree h hd args hr, and_self]
  | .idx arr dt ix => fun hr => by
    simp only [eval, evalB, h.iv, h.ia, and_true]
    refine congrArg (fun t => if (dt == DType.int) = true then _ else t) ?_
    refine readArr_agree h hd arr _ fun hw v hv hv0 => hr v ?_ hv0
    subst hw
    cases hi : evalIs τ.iv τ.ia ix with
    | none => rw [hi] at hv; cases hv
    | some is =>
      rw [hi] at hv
      exact h.iv ▸ h.ia ▸ mem_readsE_idx (hi.trans (congrArg some hv))
  | .cond c t f => fun hr => by
    simp only [eval, evalB, (evalEB_agree h hd c hr.append_left.append_left).2,
      (evalEB_agree h hd t hr.append_left.append_right).1,
      (evalEB_agree h hd f hr.append_right).1, and_self]

theorem evalL_agree {σ τ : St R} (h : AgreeW W d σ τ) (hd : ∀ k, ¬ D k → d k = 0) :
    ∀ (es : List Expr), GoodReads D (readsL W σ.iv σ.ia es) → evalL x σ es = evalL x τ es
  | [] => fun _ => by simp only [evalL]
  | e :: es => fun hr => by
    simp only [evalL, (evalEB_agree h hd e hr.append_left).1, evalL_agree h hd es hr.append_right]
end

theorem safeL_agree {σ τ : St R} (h : ShiftA W d σ τ) :
    ∀ (es : List Expr), safeE.safeL σ es = safeE.safeL τ es :=
  safeL_sameShape h.sameShape

theorem AgreeW.of {σ τ σ' τ' : St R} (h : AgreeW W d σ τ) (hs : ShiftA W d σ' τ')
    (hW : σ'.sa.get W = σ.sa.get W) : AgreeW W d σ' τ' :=
  ⟨hs, by obtain ⟨a, n, ha, hn⟩ := h.oneD; exact ⟨a, n, by rw [hW, ha], hn⟩⟩

omit [Field R] in
theorem loopReads_fst (br : St R → Except Err (St R × List (Option Int)))
    (b : St R → Except Err (St R))
    (hb : ∀ a a' r, br a = .ok (a', r) → b a = .ok a') (i : String) :
    ∀ (n : Nat) (lo : Int) (σ σ' : St R) (rs : List (Option Int)),
      loopReads br i lo n σ = .ok (σ', rs) → loopN b i lo n σ = .ok σ'
  | 0, _, σ, σ', rs, h => by cases h; rfl
  | n + 1, lo, σ, σ', rs, h => by
    rw [loopReads_succ] at h
    rw [loopN_succ_bind]
    exact thenReads_fst h (hb _) fun σ₁ r => loopReads_fst br b hb i n (lo + 1) σ₁ σ' r

mutual
theorem execReads_fst : ∀ (s : Stmt) (σ σ' : St R) (rs : List (Option Int)),
    execReads x W s σ = .ok (σ', rs) → exec x s σ = .ok σ'
  | .assign .. | .addAssign .. | .vdecl .. | .adecl .. => fun σ σ' rs h => by
    simp only [execReads] at h
    exact (leafReads_eq_ok h).1
  | .forRange i lo hi body => fun σ σ' rs h => by
    simp only [execReads] at h
    simp only [exec]
    generalize evalI σ.iv σ.ia lo = l at h ⊢
    generalize evalI σ.iv σ.ia hi = u at h ⊢
    obtain _ | l := l
    · cases h
    obtain _ | u := u
    · cases h
    exact loopReads_fst (fun s => execReadsL x W body s) (fun s => execL x body s)
      (fun a b c hab => execReadsL_fst body a b c hab) i _ _ σ σ' rs h
  | .comment _ => fun σ σ' rs h => by
    simp only [execReads] at h
    cases h
    simp only [exec]
  | .block ss => fun σ σ' rs h => by
    simp only [execReads] at h
    simpa only [exec] using execReadsL_fst ss σ σ' rs h
  | .sect _ decls stmts _ _ _ => fun σ σ' rs h => by
    rw [execReads_sect] at h
    rw [exec_sect_eq_bind]
    exact thenReads_fst h (execReadsL_fst decls σ) fun σ₁ => execReadsL_fst stmts σ₁ σ'

theorem execReadsL_fst : ∀ (ss : List Stmt) (σ σ' : St R) (rs : List (Option Int)),
    execReadsL x W ss σ = .ok (σ', rs) → execL x ss σ = .ok σ'
  | [], σ, σ', rs, h => by
    simp only [execReadsL] at h
    cases h
    simp only [execL]
  | s :: ss, σ, σ', rs, h => by
    rw [execReadsL_cons] at h
    rw [execL_cons_bind]
    exact thenReads_fst h (execReads_fst s σ) fun σ₁ => execReadsL_fst ss σ₁ σ'
end

theorem agree_of_lockstep {σ τ σ' : St R} {s : Stmt} (h : AgreeW W d σ τ)
    (hnw : neverWritten W s = true) (hr : OutRel Eq (ShiftA W d) (exec x s σ) (exec x s τ))
    (hx : exec x s σ = .ok σ') : ∃ τ', exec x s τ = .ok τ' ∧ AgreeW W d σ' τ' := by
  obtain ⟨τ', ht, hr⟩ := (hx ▸ hr).ok_left
  exact ⟨τ', ht, h.of hr (exec_sameAt x W s σ σ' hnw hx).sa⟩

/-- sequencing for the lock step of a reads run from `σ` with a plain run from `τ`: `b`, `g` are the plain
    runs of `a`, `f` from the other state -/
theorem thenReads_agree {a : Except Err (St R × List (Option Int))}
    {f : St R → Except Err (St R × List (Option Int))} {b : Except Err (St R)} {g : St R → Except Err (St R)}
    {σ' : St R} {rs : List (Option Int)} (h : thenReads a f = .ok (σ', rs)) (hg : GoodReads D rs)
    (ha : ∀ σ₁ r, a = .ok (σ₁, r) → GoodReads D r → ∃ τ₁, b = .ok τ₁ ∧ AgreeW W d σ₁ τ₁)
    (hf : ∀ σ₁ τ₁ r, AgreeW W d σ₁ τ₁ → f σ₁ = .ok (σ', r) → GoodReads D r →
      ∃ τ', g τ₁ = .ok τ' ∧ AgreeW W d σ' τ') :
    ∃ τ', b.bind g = .ok τ' ∧ AgreeW W d σ' τ' := by
  obtain ⟨σ₁, r₁, r₂, h1, h2, rfl⟩ := thenReads_eq_ok h
  obtain ⟨τ₁, ht1, ha1⟩ := ha σ₁ r₁ h1 hg.append_left
  obtain ⟨τ₂, ht2, ha2⟩ := hf σ₁ τ₁ r₂ ha1 h2 hg.append_right
  exact ⟨τ₂, bind_eq_ok.mpr ⟨τ₁, ht1, ht2⟩, ha2⟩

theorem loop_agree
    (br : St R → Except Err (St R × List (Option Int))) (b : St R → Except Err (St R)) (i : String)
    (hb : ∀ σ τ σ' rs, AgreeW W d σ τ → br σ = .ok (σ', rs) → GoodReads D rs →
      ∃ τ', b τ = .ok τ' ∧ AgreeW W d σ' τ') :
    ∀ (n : Nat) (lo : Int) (σ τ σ' : St R) (rs : List (Option Int)), AgreeW W d σ τ →
      loopReads br i lo n σ = .ok (σ', rs) → GoodReads D rs →
      ∃ τ', loopN b i lo n τ = .ok τ' ∧ AgreeW W d σ' τ'
  | 0, _, σ, τ, σ', rs, h, hl, _ => by cases hl; exact ⟨τ, rfl, h⟩
  | n + 1, lo, σ, τ, σ', rs, h, hl, hg => by
    rw [loopReads_succ] at hl
    rw [loopN_succ_bind]
    exact thenReads_agree hl hg (fun σ₁ r => hb _ _ σ₁ r (h.of (h.toShiftA.setIV i lo) rfl))
      fun σ₁ τ₁ r ha => loop_agree br b i hb n (lo + 1) σ₁ τ₁ σ' r ha

mutual
theorem exec_agree (hd : ∀ k, ¬ D k → d k = 0) :
    ∀ (s : Stmt) (σ τ σ' : St R) (rs : List (Option Int)), readOnly W s = true →
      AgreeW W d σ τ → execReads x W s σ = .ok (σ', rs) → GoodReads D rs →
      ∃ τ', exec x s τ = .ok τ' ∧ AgreeW W d σ' τ'
  | .assign l r => fun σ τ σ' rs hro h he hg => by
    simp only [readOnly, Bool.not_eq_eq_eq_not, Bool.not_true] at hro
    simp only [execReads] at he
    obtain ⟨hx, rfl⟩ := leafReads_eq_ok he
    exact agree_of_lockstep x h (neverWritten_target_of_not_mentions r hro).1
      (assign_shift x h.toShiftA l r hro (evalEB_agree x h hd r hg.append_left).1) hx
  | .addAssign l r => fun σ τ σ' rs hro h he hg => by
    simp only [readOnly, Bool.not_eq_eq_eq_not, Bool.not_true] at hro
    simp only [execReads] at he
    obtain ⟨hx, rfl⟩ := leafReads_eq_ok he
    exact agree_of_lockstep x h (neverWritten_target_of_not_mentions r hro).2
      (addAssign_shift x h.toShiftA l r (.inr hro)
        (evalEB_agree x h hd r hg.append_left.append_left).1) hx
  | .vdecl n dt v => fun σ τ σ' rs hro h he hg => by
    simp only [execReads] at he
    obtain ⟨hx, rfl⟩ := leafReads_eq_ok he
    exact agree_of_lockstep x h hro
      (vdecl_shift x h.toShiftA n dt v (evalEB_agree x h hd v hg).1 (evalEB_agree x h hd v hg).2) hx
  | .adecl n dt sizes c vals => fun σ τ σ' rs hro h he hg => by
    simp only [execReads] at he
    obtain ⟨hx, rfl⟩ := leafReads_eq_ok he
    exact agree_of_lockstep x h hro
      (adecl_shift x h.toShiftA n (bne_iff_ne.mp hro) dt sizes c vals (evalL_agree x h hd _ hg)) hx
  | .forRange i lo hi body => fun σ τ σ' rs hro h he hg => by
    simp only [readOnly, Bool.and_eq_true] at hro
    simp only [execReads] at he
    simp only [exec, ← h.iv, ← h.ia]
    generalize evalI σ.iv σ.ia lo = l at he ⊢
    generalize evalI σ.iv σ.ia hi = u at he ⊢
    obtain _ | l := l
    · cases he
    obtain _ | u := u
    · cases he
    exact loop_agree _ _ i
      (fun a b a' r hab hbr hgr => execL_agree hd body a b a' r hro.2 hab hbr hgr) _ _ σ τ σ' rs h he hg
  | .comment _ => fun σ τ σ' rs _ h he _ => by
    simp only [execReads] at he
    cases he
    exact ⟨τ, by simp only [exec], h⟩
  | .block ss => fun σ τ σ' rs hro h he hg => by
    simp only [readOnly] at hro
    simp only [execReads] at he
    simpa only [exec] using execL_agree hd ss σ τ σ' rs hro h he hg
  | .sect _ decls stmts _ _ _ => fun σ τ σ' rs hro h he hg => by
    simp only [readOnly, Bool.and_eq_true] at hro
    rw [execReads_sect] at he
    rw [exec_sect_eq_bind]
    exact thenReads_agree he hg (fun σ₁ r => execL_agree hd decls σ τ σ₁ r hro.1 h)
      fun σ₁ τ₁ r ha => execL_agree hd stmts σ₁ τ₁ σ' r hro.2 ha

theorem execL_agree (hd : ∀ k, ¬ D k → d k = 0) :
    ∀ (ss : List Stmt) (σ τ σ' : St R) (rs : List (Option Int)), readOnlyL W ss = true →
      AgreeW W d σ τ → execReadsL x W ss σ = .ok (σ', rs) → GoodReads D rs →
      ∃ τ', execL x ss τ = .ok τ' ∧ AgreeW W d σ' τ'
  | [], σ, τ, σ', rs, _, h, he, _ => by
    simp only [execReadsL] at he
    cases he
    exact ⟨τ, by simp only [execL], h⟩
  | s :: ss, σ, τ, σ', rs, hro, h, he, hg => by
    simp only [readOnlyL, Bool.and_eq_true] at hro
    rw [execReadsL_cons] at he
    rw [execL_cons_bind]
    exact thenReads_agree he hg (fun σ₁ r => exec_agree hd s σ τ σ₁ r hro.1 h)
      fun σ₁ τ₁ r ha => execL_agree hd ss σ₁ τ₁ σ' r hro.2 ha
end

end Ffcx.LNodes
