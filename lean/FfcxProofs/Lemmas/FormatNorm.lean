/-
C16 — the normal form: the erasure does not see it (`eraseC_norm`).
-/
import FfcxProofs.Lemmas.FormatEval
namespace Ffcx.LNodes.Fmt

theorem eraseReal_normReal (sc : Scalar) (re im : Rat) : eraseC sc (normReal re im) = eraseReal re := by
  unfold normReal eraseReal
  by_cases h : re < 0
  · rw [if_pos h, if_pos h]
    exact congrArg (PT.un .neg) (if_neg (Rat.not_lt.2 (Rat.le_of_lt (Rat.neg_lt_neg h))))
  · rw [if_neg h, if_neg h]
    exact if_neg h

theorem leftNest_erase (sc : Scalar) (op : BinOp) {u : Int} {s : String}
    (hu : eraseC sc (.litI u) = .num s) :
    ∀ l : List Expr, eraseC sc (leftNest op u l) = leftNestPT op s (eraseLC sc l)
  | [] => hu
  | a :: as => foldl_bin_hom (eraseC sc) (eraseLC sc) rfl (fun _ _ => rfl) op _ (fun _ _ => rfl) as a

/-- By functional induction on `norm`; the nodes of `norm` and `eraseC` unfold by computation. -/
theorem erase_norm_all (sc : Scalar) :
    (∀ e : Expr, wfC sc e = true → eraseC sc (norm e) = eraseC sc e)
    ∧ (∀ l : List Expr, wfLC sc l = true → eraseLC sc (normL l) = eraseLC sc l) := by
  apply norm.mutual_induct
  -- cases as `norm`'s clauses: litF complex, litF real, litI `v < 0`, litI otherwise, sym, mi, neg, not, bin,
  -- sum, prod, call, idx, cond; then `normL`: nil, cons
  · intro re im _
    show PT.bin .add (eraseC sc (normReal re 0)) (.bin .mul (.id "I") (eraseC sc (normReal im 0))) = _
    rw [eraseReal_normReal, eraseReal_normReal]
    rfl
  · intro re im _
    exact eraseReal_normReal sc re im
  · intro v h _
    rw [norm_litI, if_pos h]
    exact (congrArg (PT.un .neg) (if_neg (Int.not_lt.2 (Int.neg_nonneg_of_nonpos (Int.le_of_lt h))))).trans
      (if_pos h).symm
  · intro v h _
    rw [norm_litI, if_neg h]
  · intro n dt _
    rfl
  · intro _ _ gi ih h
    exact ih h
  · intro a ih h
    exact congrArg (PT.un .neg) (ih h)
  · intro a ih h
    exact congrArg (PT.un .not) (ih h)
  · intro op a b iha ihb h
    have h := Bool.and_eq_true_iff.1 h
    show PT.bin op _ _ = .bin op _ _
    rw [iha h.1, ihb h.2]
  · intro args ih h
    exact (leftNest_erase sc .add rfl _).trans (congrArg (leftNestPT .add "0") (ih (Bool.and_eq_true_iff.1 h).2))
  · intro args ih h
    exact (leftNest_erase sc .mul rfl _).trans (congrArg (leftNestPT .mul "1") (ih (Bool.and_eq_true_iff.1 h).2))
  · intro f dt args ih h
    have h := Bool.and_eq_true_iff.1 h
    show PT.call (cMathName sc (normL args) f) _ = .call _ _
    -- `callOK` asks that the normal form does not change which arguments are scalars
    rw [ih h.2, cMathName, eq_of_beq (Bool.and_eq_true_iff.1 (Bool.and_eq_true_iff.1 h.1).1).2]
    rfl
  · intro arr dt ix ih h
    exact congrArg (List.foldl _ (PT.id arr)) (ih (Bool.and_eq_true_iff.1 h).2)
  · intro c t f ihc iht ihf h
    have h := Bool.and_eq_true_iff.1 h
    have h1 := Bool.and_eq_true_iff.1 h.1
    show PT.cond _ _ _ = .cond _ _ _
    rw [ihc h1.1, iht h1.2, ihf h.2]
  · intro _
    rfl
  · intro a as iha ihas h
    have h := Bool.and_eq_true_iff.1 h
    show _ :: _ = _ :: _
    rw [iha h.1, ihas h.2]

theorem eraseC_norm (sc : Scalar) : ∀ e : Expr, wfC sc e = true → eraseC sc (norm e) = eraseC sc e :=
  (erase_norm_all sc).1
theorem eraseLC_norm (sc : Scalar) : ∀ l : List Expr, wfLC sc l = true → eraseLC sc (normL l) = eraseLC sc l :=
  (erase_norm_all sc).2

end Ffcx.LNodes.Fmt
