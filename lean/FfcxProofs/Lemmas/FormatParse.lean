/-
C16 — the C expression parser: its productions as rules (composed by the round-trip proofs of
FormatRT*.lean), and what one induction over the fuel says of every successful run of the mutual
precedence-climbing functions (`FuelC`): the result is kept by every larger fuel, and by every fuel
above a bound in the length of the input alone.
-/
import FfcxModel.LNodes.ParseC
import FfcxProofs.Lemmas.Fuel

namespace Ffcx.LNodes.Fmt

/-! Each lemma reads one production of the grammar forwards: from the results of the sub-parsers at
fuel `k` to the result at fuel `k + 1`, the last five the ways in which the two loops end. The
round-trip proofs compose these and do not unfold the parser. -/

theorem atomOf_ne_p {t b} (h : atomOf t = some b) (q : P) : t ≠ .p q := by
  rintro rfl; cases h

theorem parseUnary_atom {k t b r res} (h : atomOf t = some b) (hp : parsePost k b r = some res) :
    parseUnary (k + 1) (t :: r) = some res := by
  rw [parseUnary, if_neg (atomOf_ne_p h _), if_neg (atomOf_ne_p h _), if_neg (atomOf_ne_p h _), h]
  exact hp

theorem parseUnary_neg {k r a r'} (h : parseUnary k r = some (a, r')) :
    parseUnary (k + 1) (.p .minus :: r) = some (.un .neg a, r') := by
  rw [parseUnary, if_pos rfl, h]

theorem parseUnary_not {k r a r'} (h : parseUnary k r = some (a, r')) :
    parseUnary (k + 1) (.p .bang :: r) = some (.un .not a, r') := by
  rw [parseUnary, if_neg (by decide), if_pos rfl, h]

theorem parseUnary_paren {k r e r2 res} (h : parseCond k r = some (e, .p .rpar :: r2))
    (hp : parsePost k e r2 = some res) : parseUnary (k + 1) (.p .lpar :: r) = some res := by
  rw [parseUnary, if_neg (by decide), if_neg (by decide), if_pos rfl, h]
  dsimp only
  rw [if_pos rfl, hp]

theorem parseBin_of {k m ts l r res} (hu : parseUnary k ts = some (l, r))
    (hl : loopBin k m l r = some res) : parseBin (k + 1) m ts = some res := by
  rw [parseBin, hu]
  exact hl

theorem loopBin_op {k m l t r op lv rhs r' res} (hb : binOf t = some (op, lv)) (hm : m ≤ lv)
    (hr : parseBin k (lv + 1) r = some (rhs, r'))
    (hl : loopBin k m (.bin op l rhs) r' = some res) : loopBin (k + 1) m l (t :: r) = some res := by
  rw [loopBin, hb]
  dsimp only
  rw [if_pos hm, hr]
  exact hl

theorem parseCond_plain {k ts c r} (hb : parseBin k 2 ts = some (c, r))
    (hq : r.head? ≠ some (.p .quest)) : parseCond (k + 1) ts = some (c, r) := by
  rw [parseCond, hb]
  cases r with
  | nil => rfl
  | cons t r1 =>
    dsimp only
    rw [if_neg (fun h => hq (congrArg some h))]

theorem parseCond_tern {k ts c r1 tt r3 e r4} (hb : parseBin k 2 ts = some (c, .p .quest :: r1))
    (ht : parseCond k r1 = some (tt, .p .colon :: r3)) (he : parseCond k r3 = some (e, r4)) :
    parseCond (k + 1) ts = some (.cond c tt e, r4) := by
  rw [parseCond, hb]
  dsimp only
  rw [if_pos rfl, ht]
  dsimp only
  rw [if_pos rfl, he]

theorem parsePost_idx {k base r i r2 res} (hi : parseCond k r = some (i, .p .rbrack :: r2))
    (hp : parsePost k (.idx base [i]) r2 = some res) :
    parsePost (k + 1) base (.p .lbrack :: r) = some res := by
  rw [parsePost, if_pos rfl, hi]
  dsimp only
  rw [if_pos rfl, hp]

theorem parsePost_call {k name t r args r' res} (ht : t ≠ .p .rpar)
    (ha : parseArgs k (t :: r) = some (args, r'))
    (hp : parsePost k (.call name args) r' = some res) :
    parsePost (k + 1) (.id name) (.p .lpar :: t :: r) = some res := by
  rw [parsePost, if_neg (by decide), if_pos rfl]
  dsimp only [nameOf]
  rw [if_neg ht, ha]
  exact hp

theorem parsePost_call_nil {k name r res} (hp : parsePost k (.call name []) r = some res) :
    parsePost (k + 1) (.id name) (.p .lpar :: .p .rpar :: r) = some res := by
  rw [parsePost, if_neg (by decide), if_pos rfl]
  dsimp only [nameOf]
  rw [if_pos rfl, hp]

theorem parseArgs_last {k ts e r} (h : parseCond k ts = some (e, .p .rpar :: r)) :
    parseArgs (k + 1) ts = some ([e], r) := by
  rw [parseArgs, h]
  dsimp only
  rw [if_neg (by decide), if_pos rfl]

theorem parseArgs_cons {k ts e r1 es r'} (h : parseCond k ts = some (e, .p .comma :: r1))
    (ha : parseArgs k r1 = some (es, r')) : parseArgs (k + 1) ts = some (e :: es, r') := by
  rw [parseArgs, h]
  dsimp only
  rw [if_pos rfl, ha]

theorem loopBin_nil {k m l} : loopBin (k + 1) m l [] = some (l, []) := by rw [loopBin]

theorem loopBin_noop {k m l t r} (hb : binOf t = none) : loopBin (k + 1) m l (t :: r) = some (l, t :: r) := by
  rw [loopBin, hb]

theorem loopBin_low {k m l t r op lv} (hb : binOf t = some (op, lv)) (hm : ¬ m ≤ lv) :
    loopBin (k + 1) m l (t :: r) = some (l, t :: r) := by
  rw [loopBin, hb]; exact if_neg hm

theorem parsePost_nil {k b} : parsePost (k + 1) b [] = some (b, []) := by rw [parsePost]

theorem parsePost_other {k b t r} (h1 : t ≠ .p .lbrack) (h2 : t ≠ .p .lpar) :
    parsePost (k + 1) b (t :: r) = some (b, t :: r) := by
  rw [parsePost, if_neg h1, if_neg h2]

/-- A successful run consumes input (`<`; the loops may consume none, `≤`) and is `Settled` from its
    own fuel on and from `4 * ts.length + c` on (the recipe is at `Settled`). The offsets `c` follow the
    one chain of calls that hands the input on unread, args → cond → bin → unary (4, 3, 2, 1), and four
    is its length. `loopBin` and `parsePost` are called only after a token has been read, and read one
    before they call: any offset from 1 to 4 serves them (2). `Settled.above` says
    that `fuelFor` never is the reason why `parseExprC` rejects an input. -/
structure FuelC (f : Nat) : Prop where
  cond : ∀ ts r, parseCond f ts = some r →
    r.2.length < ts.length ∧ Settled (parseCond · ts) f (4 * ts.length + 3) r
  bin : ∀ m ts r, parseBin f m ts = some r →
    r.2.length < ts.length ∧ Settled (parseBin · m ts) f (4 * ts.length + 2) r
  loop : ∀ m l ts r, loopBin f m l ts = some r →
    r.2.length ≤ ts.length ∧ Settled (loopBin · m l ts) f (4 * ts.length + 2) r
  un : ∀ ts r, parseUnary f ts = some r →
    r.2.length < ts.length ∧ Settled (parseUnary · ts) f (4 * ts.length + 1) r
  post : ∀ b ts r, parsePost f b ts = some r →
    r.2.length ≤ ts.length ∧ Settled (parsePost · b ts) f (4 * ts.length + 2) r
  args : ∀ ts r, parseArgs f ts = some r →
    r.2.length < ts.length ∧ Settled (parseArgs · ts) f (4 * ts.length + 4) r

theorem fuelC_step (f : Nat) (ih : FuelC f) : FuelC (f + 1) := by
  refine ⟨?_, ?_, ?_, ?_, ?_, ?_⟩
  · intro ts r h
    rw [parseCond] at h
    split at h
    · cases h
    · rename_i c r0 hb
      obtain ⟨lb, sb⟩ := ih.bin _ _ _ hb
      split at h
      · cases h
        exact ⟨lb, .succ fun k hk => parseCond_plain (sb.le hk (Nat.le_refl _)) nofun⟩
      · rename_i t r1
        by_cases hq : t = .p .quest
        · subst hq
          rw [if_pos rfl] at h
          split at h
          · cases h
          · rename_i tt r2 hc
            obtain ⟨lc, sc⟩ := ih.cond _ _ hc
            split at h
            · cases h
            · rename_i t2 r3
              by_cases hcol : t2 = .p .colon
              · subst hcol
                rw [if_pos rfl] at h
                split at h
                · cases h
                · rename_i e r4 he
                  obtain ⟨le, se⟩ := ih.cond _ _ he
                  cases h
                  have l1 : r1.length < ts.length := Nat.lt_of_succ_lt lb
                  have l3 : r3.length < ts.length := Nat.lt_trans (Nat.lt_of_succ_lt lc) l1
                  exact ⟨Nat.lt_trans le l3, .succ fun k hk => parseCond_tern (sb.le hk (Nat.le_refl _))
                    (sc.le hk (bound_lt l1 (by decide))) (se.le hk (bound_lt l3 (by decide)))⟩
              · rw [if_neg hcol] at h
                cases h
        · rw [if_neg hq] at h
          cases h
          exact ⟨lb, .succ fun k hk =>
            parseCond_plain (sb.le hk (Nat.le_refl _)) (fun e => hq (Option.some.inj e))⟩
  · intro m ts r h
    rw [parseBin] at h
    split at h
    · cases h
    · rename_i l r0 hu
      obtain ⟨lu, su⟩ := ih.un _ _ hu
      obtain ⟨ll, sl⟩ := ih.loop _ _ _ _ h
      exact ⟨Nat.lt_of_le_of_lt ll lu, .succ fun k hk =>
        parseBin_of (su.le hk (Nat.le_refl _)) (sl.le hk (bound_lt lu (by decide)))⟩
  · intro m l ts r h
    cases ts with
    | nil =>
      rw [loopBin] at h
      cases h
      exact ⟨Nat.le_refl _, .succ fun k _ => loopBin_nil⟩
    | cons t r0 =>
      rw [loopBin] at h
      split at h
      · rename_i hb
        cases h
        exact ⟨Nat.le_refl _, .succ fun k _ => loopBin_noop hb⟩
      · rename_i op lv hb
        by_cases hm : m ≤ lv
        · rw [if_pos hm] at h
          split at h
          · cases h
          · rename_i rhs r' hp
            obtain ⟨lp, sp⟩ := ih.bin _ _ _ hp
            obtain ⟨ll, sl⟩ := ih.loop _ _ _ _ h
            exact ⟨Nat.le_succ_of_le (Nat.le_of_lt (Nat.lt_of_le_of_lt ll lp)), .succ fun k hk =>
              loopBin_op hb hm (sp.le hk (bound_lt (Nat.lt_succ_self _) (by decide)))
                (sl.le hk (bound_lt (Nat.lt_succ_of_lt lp) (by decide)))⟩
        · rw [if_neg hm] at h
          cases h
          exact ⟨Nat.le_refl _, .succ fun k _ => loopBin_low hb hm⟩
  · intro ts r h
    cases ts with
    | nil => rw [parseUnary] at h; cases h
    | cons t r0 =>
      rw [parseUnary] at h
      by_cases hminus : t = .p .minus
      · subst hminus
        rw [if_pos rfl] at h
        split at h
        · cases h
        · rename_i a r' hu
          obtain ⟨lu, su⟩ := ih.un _ _ hu
          cases h
          -- `parseUnary` has offset 1, hence `(c := 0)` here and below (see `bound_lt`)
          exact ⟨Nat.lt_succ_of_lt lu, .succ fun k hk =>
            parseUnary_neg (su.le hk (bound_lt (c := 0) (Nat.lt_succ_self _) (by decide)))⟩
      rw [if_neg hminus] at h
      by_cases hbang : t = .p .bang
      · subst hbang
        rw [if_pos rfl] at h
        split at h
        · cases h
        · rename_i a r' hu
          obtain ⟨lu, su⟩ := ih.un _ _ hu
          cases h
          exact ⟨Nat.lt_succ_of_lt lu, .succ fun k hk =>
            parseUnary_not (su.le hk (bound_lt (c := 0) (Nat.lt_succ_self _) (by decide)))⟩
      rw [if_neg hbang] at h
      by_cases hlpar : t = .p .lpar
      · subst hlpar
        rw [if_pos rfl] at h
        split at h
        · cases h
        · rename_i e r1 hc
          obtain ⟨lc, sc⟩ := ih.cond _ _ hc
          split at h
          · cases h
          · rename_i t1 r2
            split at h
            · rename_i ht
              subst ht
              obtain ⟨lp, sp⟩ := ih.post _ _ _ h
              have l2 : r2.length < r0.length := Nat.lt_of_succ_lt lc
              exact ⟨Nat.lt_succ_of_lt (Nat.lt_of_le_of_lt lp l2), .succ fun k hk =>
                parseUnary_paren (sc.le hk (bound_lt (c := 0) (Nat.lt_succ_self _) (by decide)))
                  (sp.le hk (bound_lt (c := 0) (Nat.lt_succ_of_lt l2) (by decide)))⟩
            · cases h
      rw [if_neg hlpar] at h
      split at h
      · cases h
      · rename_i b hb
        obtain ⟨lp, sp⟩ := ih.post _ _ _ h
        exact ⟨Nat.lt_succ_of_le lp, .succ fun k hk =>
          parseUnary_atom hb (sp.le hk (bound_lt (c := 0) (Nat.lt_succ_self _) (by decide)))⟩
  · intro b ts r h
    cases ts with
    | nil =>
      rw [parsePost] at h
      cases h
      exact ⟨Nat.le_refl _, .succ fun k _ => parsePost_nil⟩
    | cons t r0 =>
      rw [parsePost] at h
      by_cases hlbrack : t = .p .lbrack
      · subst hlbrack
        rw [if_pos rfl] at h
        split at h
        · cases h
        · rename_i i r1 hc
          obtain ⟨lc, sc⟩ := ih.cond _ _ hc
          split at h
          · cases h
          · rename_i t1 r2
            split at h
            · rename_i ht
              subst ht
              obtain ⟨lp, sp⟩ := ih.post _ _ _ h
              have l2 : r2.length < r0.length := Nat.lt_of_succ_lt lc
              exact ⟨Nat.le_succ_of_le (Nat.le_of_lt (Nat.lt_of_le_of_lt lp l2)), .succ fun k hk =>
                parsePost_idx (sc.le hk (bound_lt (Nat.lt_succ_self _) (by decide)))
                  (sp.le hk (bound_lt (Nat.lt_succ_of_lt l2) (by decide)))⟩
            · cases h
      rw [if_neg hlbrack] at h
      by_cases hlpar : t = .p .lpar
      · subst hlpar
        rw [if_pos rfl] at h
        split at h
        · cases h
        · rename_i name hn
          cases b <;> cases hn
          split at h
          · cases h
          · rename_i t1 r1
            by_cases hrpar : t1 = .p .rpar
            · subst hrpar
              rw [if_pos rfl] at h
              obtain ⟨lp, sp⟩ := ih.post _ _ _ h
              exact ⟨Nat.le_succ_of_le (Nat.le_succ_of_le lp), .succ fun k hk => parsePost_call_nil
                (sp.le hk (bound_lt (Nat.lt_succ_of_lt (Nat.lt_succ_self _)) (by decide)))⟩
            rw [if_neg hrpar] at h
            split at h
            · cases h
            · rename_i args r' ha
              obtain ⟨la, sa⟩ := ih.args _ _ ha
              obtain ⟨lp, sp⟩ := ih.post _ _ _ h
              exact ⟨Nat.le_succ_of_le (Nat.le_of_lt (Nat.lt_of_le_of_lt lp la)), .succ fun k hk =>
                parsePost_call hrpar (sa.le hk (bound_lt (Nat.lt_succ_self _) (by decide)))
                  (sp.le hk (bound_lt (Nat.lt_succ_of_lt la) (by decide)))⟩
      rw [if_neg hlpar] at h
      cases h
      exact ⟨Nat.le_refl _, .succ fun k _ => parsePost_other hlbrack hlpar⟩
  · intro ts r h
    rw [parseArgs] at h
    split at h
    · cases h
    · rename_i e r0 hc
      obtain ⟨lc, sc⟩ := ih.cond _ _ hc
      split at h
      · cases h
      · rename_i t r1
        by_cases hcomma : t = .p .comma
        · subst hcomma
          rw [if_pos rfl] at h
          split at h
          · cases h
          · rename_i es r' ha
            obtain ⟨la, sa⟩ := ih.args _ _ ha
            cases h
            have l1 : r1.length < ts.length := Nat.lt_of_succ_lt lc
            exact ⟨Nat.lt_trans la l1, .succ fun k hk =>
              parseArgs_cons (sc.le hk (Nat.le_refl _)) (sa.le hk (bound_lt l1 (by decide)))⟩
        rw [if_neg hcomma] at h
        split at h
        · rename_i ht
          subst ht
          cases h
          exact ⟨Nat.lt_of_succ_lt lc, .succ fun k hk => parseArgs_last (sc.le hk (Nat.le_refl _))⟩
        · cases h

theorem fuelC_all : ∀ f, FuelC f
  | 0 => by constructor <;> intros <;> contradiction
  | f + 1 => fuelC_step f (fuelC_all f)

/-! Monotonicity in the fuel, for the functions that have it as a statement of their own, is `Settled.mono`. The round trip
does not use it: it goes through `parseCond_fuelFor` / `parseUnary_fuelFor`, which are `Settled.above`.
Two shapes stand side by side: here the run comes first and `f ≤ f'` second, while the
statement parsers (`parseStmtC_mono`, `parseStmtPy_mono`, through `mono_of_step`) take `f ≤ f'` first;
one step of fuel for all functions is the conjunction `parse_mono_all` here and the structure `PyMono`
(`pyMono_all`) in the numba file, each audited under its name by `harness/props/c16.py`. -/

theorem parseCond_mono {f f' ts r} (h : parseCond f ts = some r) (hle : f ≤ f') :
    parseCond f' ts = some r :=
  ((fuelC_all f).cond ts r h).2.mono hle

theorem parseBin_mono {f f' m ts r} (h : parseBin f m ts = some r) (hle : f ≤ f') :
    parseBin f' m ts = some r :=
  ((fuelC_all f).bin m ts r h).2.mono hle

theorem parseUnary_mono {f f' ts r} (h : parseUnary f ts = some r) (hle : f ≤ f') :
    parseUnary f' ts = some r :=
  ((fuelC_all f).un ts r h).2.mono hle

theorem parsePost_mono {f f' b ts r} (h : parsePost f b ts = some r) (hle : f ≤ f') :
    parsePost f' b ts = some r :=
  ((fuelC_all f).post b ts r h).2.mono hle

theorem parseArgs_mono {f f' ts r} (h : parseArgs f ts = some r) (hle : f ≤ f') :
    parseArgs f' ts = some r :=
  ((fuelC_all f).args ts r h).2.mono hle

theorem parse_mono_all : ∀ f,
    (∀ ts r, parseCond f ts = some r → parseCond (f + 1) ts = some r)
    ∧ (∀ m ts r, parseBin f m ts = some r → parseBin (f + 1) m ts = some r)
    ∧ (∀ m l ts r, loopBin f m l ts = some r → loopBin (f + 1) m l ts = some r)
    ∧ (∀ ts r, parseUnary f ts = some r → parseUnary (f + 1) ts = some r)
    ∧ (∀ b ts r, parsePost f b ts = some r → parsePost (f + 1) b ts = some r)
    ∧ (∀ ts r, parseArgs f ts = some r → parseArgs (f + 1) ts = some r) := fun f =>
  ⟨fun _ _ h => parseCond_mono h (Nat.le_succ f), fun _ _ _ h => parseBin_mono h (Nat.le_succ f),
    fun m l ts r h => ((fuelC_all f).loop m l ts r h).2.mono (Nat.le_succ f),
    fun _ _ h => parseUnary_mono h (Nat.le_succ f), fun _ _ _ h => parsePost_mono h (Nat.le_succ f),
    fun _ _ h => parseArgs_mono h (Nat.le_succ f)⟩

theorem parseCond_fuelFor {f ts r} (h : parseCond f ts = some r) :
    parseCond (fuelFor ts) ts = some r :=
  ((fuelC_all f).cond ts r h).2.above (by simp only [fuelFor]; omega)

theorem parseUnary_fuelFor {f ts r} (h : parseUnary f ts = some r) :
    parseUnary (fuelFor ts) ts = some r :=
  ((fuelC_all f).un ts r h).2.above (by simp only [fuelFor]; omega)

end Ffcx.LNodes.Fmt
