/-
C09 soundness of the dtype discipline — expressions: the certificate dtype `tyOf` is sound for "real"
(`tyOf_real`); hence the conversions of `evalG ρ` (at the arguments of functions with `double`
parameters) never meet a non-real value on a certified expression (`evalG_eq`).
-/
import FfcxProofs.Lemmas.DtypeBase

namespace Ffcx.LNodes

variable {R : Type}

variable [Add R] [Sub R] [Mul R] [Div R] [Neg R] [IntCast R]

theorem merge2_real {oa ob : Option DType} {d : DType}
    (h : (match oa, ob with | some x, some y => mergeDtypes [x, y] | _, _ => none) = some d)
    (hd : d.isRealTy = true) :
    ∃ x y, oa = some x ∧ ob = some y ∧ x.isRealTy = true ∧ y.isRealTy = true := by
  cases oa with
  | none => cases h
  | some x =>
    cases ob with
    | none => cases h
    | some y =>
      exact ⟨x, y, rfl, rfl, merge_isRealTy h hd x List.mem_cons_self,
        merge_isRealTy h hd y (List.mem_cons_of_mem _ List.mem_cons_self)⟩

/-- `h` is what `tyOf (.sum es) = some d` and `tyOf (.prod es) = some d` unfold to -/
theorem allRealTy_of_merge {es : List Expr} {d : DType}
    (h : (match tysOf es with | some (d :: ds) => mergeDtypes (d :: ds) | _ => none) = some d)
    (hd : d.isRealTy = true) : allRealTy es = true := by
  unfold allRealTy
  cases hts : tysOf es with
  | none => rw [hts] at h; cases h
  | some ds =>
    rw [hts] at h
    cases ds with
    | nil => cases h
    | cons d0 ds => exact List.all_eq_true.2 (merge_isRealTy h hd)

theorem allRealTy_cons {e : Expr} {es : List Expr} (h : allRealTy (e :: es) = true) :
    ∃ d, tyOf e = some d ∧ d.isRealTy = true ∧ allRealTy es = true := by
  unfold allRealTy at *
  rw [tysOf] at h
  cases hd : tyOf e with
  | none => rw [hd] at h; cases h
  | some d =>
    cases hds : tysOf es with
    | none => rw [hd, hds] at h; cases h
    | some ds =>
      rw [hd, hds] at h
      exact ⟨d, rfl, Bool.and_eq_true_iff.1 h⟩

theorem callTy_real {f : String} {args : List Expr} (h : (callTy f args).isRealTy = true) :
    realValued f = true ∨ truncatesArgs f args = true := by
  unfold callTy at h
  split at h
  · exact Bool.or_eq_true_iff.1 ‹_›
  · cases h

/-- what the proofs use of the strict certificate of a call node: the arguments are certified, and a
    function with `double` parameters gets REAL/INT/BOOL-typed arguments only.  (The certificate also
    checks the node's dtype against the first argument and that the formatter accepts the node; no
    theorem needs those two conjuncts.) -/
theorem certE_call_spec {Γ : DEnv} {f : String} {dt : DType} {args : List Expr}
    (hc : certE true Γ (.call f dt args) = true) :
    certEL true Γ args = true ∧ (truncatesArgs f args = true → allRealTy args = true) := by
  simp only [certE, Bool.and_eq_true, Bool.not_true, Bool.false_or, Bool.or_eq_true,
    Bool.not_eq_true'] at hc
  obtain ⟨⟨hargs, _⟩, _, hflow⟩ := hc
  refine ⟨hargs, fun htr => ?_⟩
  rcases hflow with h | h
  · rw [htr] at h; cases h
  · exact h

theorem readArr_real (C : ComplexLike R) {Γ : DEnv} {σ : St R} (hσ : RealStore C Γ σ)
    {arr : String} {d : DType} (hg : Γ.get arr = some d) (hd : d.isRealTy = true) {ix : List Int} :
    C.IsReal (readArr σ arr ix) := by
  unfold readArr
  cases ha : σ.sa.get arr with
  | none => exact C.isReal_intCast 0
  | some a =>
    simp only []
    cases flatIdx a.dims ix with
    | none => exact C.isReal_intCast 0
    | some k => exact hσ.sa arr d a hg hd ha k

/-- comparisons and logical operators yield 0/1; an arithmetic operator keeps real operands real -/
theorem isReal_eval_bin (C : ComplexLike R) (x : Extra R) (σ : St R) {op : BinOp} {a b : Expr}
    (h : op.isArith = true → C.IsReal (eval x σ a) ∧ C.IsReal (eval x σ b)) :
    C.IsReal (eval x σ (.bin op a b)) := by
  cases op
  case add => exact C.isReal_add (h rfl).1 (h rfl).2
  case sub => exact C.isReal_sub (h rfl).1 (h rfl).2
  case mul => exact C.isReal_mul (h rfl).1 (h rfl).2
  case div => exact C.isReal_div (h rfl).1 (h rfl).2
  all_goals exact C.isReal_b2r _

theorem evalG_bin {ρ : R → R} {x : Extra R} {σ : St R} {op : BinOp} {a b : Expr}
    (ha : evalG ρ x σ a = eval x σ a ∧ evalBG ρ x σ a = evalB x σ a)
    (hb : evalG ρ x σ b = eval x σ b ∧ evalBG ρ x σ b = evalB x σ b) :
    evalG ρ x σ (.bin op a b) = eval x σ (.bin op a b) ∧
      evalBG ρ x σ (.bin op a b) = evalB x σ (.bin op a b) := by
  cases op <;> simp only [evalG, evalBG, ha, hb] <;> exact ⟨rfl, rfl⟩

variable (C : ComplexLike R) (x : Extra R) (hx : LawfulComplexExtra C x)
  {Γ : DEnv} {σ : St R} (hσ : RealStore C Γ σ)
include hx hσ

-- the second theorem of each mutual block below needs the included hypotheses only through its call
-- of the first, which the linter does not see
set_option linter.unusedSectionVars false

mutual
/-- typing soundness: a certified expression whose certificate dtype is REAL/INT/BOOL is real -/
theorem tyOf_real : ∀ (e : Expr) (d : DType), certE true Γ e = true → tyOf e = some d →
    d.isRealTy = true → C.IsReal (eval x σ e)
  | .litF re im c => fun d hc ht hd => by
    cases c
    · simp only [certE, Bool.false_or, beq_iff_eq] at hc
      subst hc
      exact hx.ofRat_real re
    · cases ht; cases hd
  | .litI v => fun _ _ _ _ => C.isReal_intCast v
  | .sym n dt => fun d hc ht hd => by
    cases ht
    refine ite_elim (fun _ => C.isReal_intCast _) fun _ => ?_
    cases hv : σ.sv.get n with
    | none => exact C.isReal_intCast 0
    | some v => exact hσ.sv n dt v (beq_iff_eq.1 hc) hd hv
  | .mi s z gi => fun _ _ _ _ => C.isReal_intCast _
  | .neg a => fun d hc ht hd => C.isReal_neg (tyOf_real a d hc ht hd)
  | .not a => fun _ _ _ _ => C.isReal_b2r _
  | .bin op a b => fun d hc ht hd => by
    simp only [certE, Bool.and_eq_true] at hc
    refine isReal_eval_bin C x σ (fun hop => ?_)
    simp only [tyOf, hop, if_true] at ht
    obtain ⟨ta, tb, hta, htb, h1, h2⟩ := merge2_real ht hd
    exact ⟨tyOf_real a ta hc.1 hta h1, tyOf_real b tb hc.2 htb h2⟩
  | .sum args => fun d hc ht hd => by
    rw [tyOf] at ht
    exact C.isReal_foldOp (C.isReal_intCast 0) (fun _ _ => C.isReal_add)
      (tysOf_real args hc (allRealTy_of_merge ht hd))
  | .prod args => fun d hc ht hd => by
    rw [tyOf] at ht
    exact C.isReal_foldOp (C.isReal_intCast 1) (fun _ _ => C.isReal_mul)
      (tysOf_real args hc (allRealTy_of_merge ht hd))
  | .call f dt args => fun d hc ht hd => by
    cases ht
    obtain ⟨hargs, hflow⟩ := certE_call_spec hc
    rcases callTy_real hd with hrv | htr
    · exact hx.fn_real_valued f _ hrv
    · exact hx.fn_real_closed f _ (tysOf_real args hargs (hflow htr))
  | .idx arr dt ix => fun d hc ht hd => by
    cases ht
    simp only [certE, Bool.and_eq_true, beq_iff_eq] at hc
    exact ite_elim (fun _ => C.isReal_intCast _) fun _ => readArr_real C hσ hc.1.1 hd
  | .cond c t f => fun d hc ht hd => by
    simp only [certE, Bool.and_eq_true] at hc
    obtain ⟨tt, tf, htt, htf, h1, h2⟩ := merge2_real ht hd
    exact ite_elim (fun _ => tyOf_real t tt hc.1.2 htt h1) fun _ => tyOf_real f tf hc.2 htf h2

theorem tysOf_real : ∀ (es : List Expr), certEL true Γ es = true → allRealTy es = true →
    ∀ v, v ∈ evalL x σ es → C.IsReal v
  | [], _, _, _, hv => nomatch hv
  | e :: es, hc, ht, v, hv => by
    simp only [certEL, Bool.and_eq_true] at hc
    obtain ⟨d, hd, hr, hes⟩ := allRealTy_cons ht
    rcases List.mem_cons.1 hv with rfl | hv
    · exact tyOf_real e d hc.1 hd hr
    · exact tysOf_real es hc.2 hes v hv
end

variable {ρ : R → R} (hρ : FixesReals C ρ)
include hρ

mutual
/-- no conversion changes a value: on a certified expression `evalG ρ = eval`, and likewise for
    conditions -/
theorem evalG_eq : ∀ (e : Expr), certE true Γ e = true →
    evalG ρ x σ e = eval x σ e ∧ evalBG ρ x σ e = evalB x σ e
  | .litF .. | .litI .. | .sym .. | .mi .. | .idx .. => fun _ => ⟨rfl, rfl⟩
  | .neg a => fun hc => ⟨congrArg (- ·) (evalG_eq a hc).1, rfl⟩
  | .not a => fun hc =>
    have h := (evalG_eq a hc).2
    ⟨congrArg (fun b => b2r !b) h, congrArg (!·) h⟩
  | .bin op a b => fun hc =>
    have hc := Bool.and_eq_true_iff.1 hc
    evalG_bin (evalG_eq a hc.1) (evalG_eq b hc.2)
  | .sum args => fun hc => ⟨congrArg (foldOp _ _) (evalLG_eq args hc), rfl⟩
  | .prod args => fun hc => ⟨congrArg (foldOp _ _) (evalLG_eq args hc), rfl⟩
  | .call f dt args => fun hc => by
    obtain ⟨hargs, hflow⟩ := certE_call_spec hc
    refine ⟨congrArg (x.fn f) ?_, rfl⟩
    rw [evalLG_eq args hargs]
    unfold convArgs
    split
    · exact map_fixes fun v hv => hρ v (tysOf_real C x hx hσ args hargs (hflow ‹_›) v hv)
    · rfl
  | .cond c t f => fun hc => by
    simp only [certE, Bool.and_eq_true] at hc
    refine ⟨?_, rfl⟩
    show (if _ then _ else _) = (if _ then _ else _)
    rw [(evalG_eq c hc.1.1).2, (evalG_eq t hc.1.2).1, (evalG_eq f hc.2).1]

theorem evalLG_eq : ∀ (es : List Expr), certEL true Γ es = true → evalLG ρ x σ es = evalL x σ es
  | [] => fun _ => rfl
  | e :: es => fun hc => by
    have hc := Bool.and_eq_true_iff.1 hc
    show _ :: _ = _ :: _
    rw [(evalG_eq e hc.1).1, evalLG_eq es hc.2]
end

end Ffcx.LNodes
