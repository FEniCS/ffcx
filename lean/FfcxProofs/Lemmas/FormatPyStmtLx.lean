/-
C16 — numba statements, text level: INDENT / DEDENT (`pyLines_enter`, `pyLines_leave`, with the
conditions `FirstAt`, `LowFirst` on the lines that follow), blank lines, the text of lines (`unl`),
composition of statement texts (`Lx`, `lx_append`, `lx_logical`), bracket balance of piece lists
(`Bal`, `bal_pieces`), a logical line given by its pieces (`pieces_lines`, `LineOK`, `lx_pieces`), an
indented block and the `for` statement (`pyLines_block`, `lx_for`). Names: `lx_…`, `bal_…` build an
`Lx`, a `Bal`; `Lx.…`, `Bal.…` take one apart (so `lx_blanks` gives `Lx ls []` for blank lines, while
`Lx.blanks` says that the lines of an `Lx ls []` are blank).
-/
import FfcxProofs.Lemmas.FormatPyLines
import FfcxProofs.Lemmas.FormatPySepExpr
namespace Ffcx.LNodes.Fmt

/-- the first non-blank line, if there is one, is indented by at most `n` -/
def LowFirst (n : Nat) : List (List Char) → Prop
  | [] => True
  | l :: ls => if isBlankLine l = true then LowFirst n ls else leadingSpaces l ≤ n

/-- there is a non-blank line, and the first one is indented by exactly `n` -/
def FirstAt (n : Nat) : List (List Char) → Prop
  | [] => False
  | l :: ls => if isBlankLine l = true then FirstAt n ls else leadingSpaces l = n

theorem firstAt_low {n : Nat} : ∀ {ls : List (List Char)}, FirstAt n ls → LowFirst n ls := by
  intro ls
  induction ls with
  | nil => intro h; exact absurd h (by simp [FirstAt])
  | cons l ls ih =>
    intro h
    simp only [FirstAt, LowFirst] at h ⊢
    split
    · rename_i hb; rw [if_pos hb] at h; exact ih h
    · rename_i hb; rw [if_neg hb] at h; omega

theorem lowFirst_mono {n m : Nat} (hnm : n ≤ m) : ∀ {ls : List (List Char)}, LowFirst n ls → LowFirst m ls := by
  intro ls
  induction ls with
  | nil => intro _; trivial
  | cons l ls ih =>
    intro h
    simp only [LowFirst] at h ⊢
    split
    · rename_i hb; rw [if_pos hb] at h; exact ih h
    · rename_i hb; rw [if_neg hb] at h; omega

theorem lowFirst_blanks {n : Nat} : ∀ {bs : List (List Char)} {ls : List (List Char)},
    (∀ b ∈ bs, isBlankLine b = true) → LowFirst n ls → LowFirst n (bs ++ ls) := by
  intro bs
  induction bs with
  | nil => intro ls _ h; exact h
  | cons b bs ih =>
    intro ls hb h
    simp only [List.cons_append, LowFirst, hb b (by simp), if_true]
    exact ih (fun x hx => hb x (by simp [hx])) h

theorem firstAt_blanks {n : Nat} : ∀ {bs : List (List Char)} {ls : List (List Char)},
    (∀ b ∈ bs, isBlankLine b = true) → FirstAt n ls → FirstAt n (bs ++ ls) := by
  intro bs
  induction bs with
  | nil => intro ls _ h; exact h
  | cons b bs ih =>
    intro ls hb h
    simp only [List.cons_append, FirstAt, hb b (by simp), if_true]
    exact ih (fun x hx => hb x (by simp [hx])) h

theorem firstAt_exists {n : Nat} : ∀ {ls : List (List Char)}, FirstAt n ls → ∃ l ∈ ls, isBlankLine l = false := by
  intro ls
  induction ls with
  | nil => intro h; exact absurd h (by simp [FirstAt])
  | cons l ls ih =>
    intro h
    simp only [FirstAt] at h
    by_cases hb : isBlankLine l = true
    · rw [if_pos hb] at h
      obtain ⟨x, hx, hxb⟩ := ih h
      exact ⟨x, by simp [hx], hxb⟩
    · exact ⟨l, by simp, by simpa using hb⟩

theorem pyLines_blanks (st : List Nat) : ∀ (bs : List (List Char)) (ls : List (List Char)),
    (∀ b ∈ bs, isBlankLine b = true) → pyLines st 0 (bs ++ ls) = pyLines st 0 ls := by
  intro bs
  induction bs with
  | nil => intro ls _; rfl
  | cons b bs ih =>
    intro ls hb
    rw [List.cons_append, pyLines_blank st (hb b (by simp)), ih ls (fun x hx => hb x (by simp [hx]))]

/-- entering a block: the first real line is indented deeper than the current level -/
theorem pyLines_enter (n m : Nat) (st' : List Nat) (hmn : m < n) : ∀ (ls : List (List Char)), FirstAt n ls →
    pyLines (m :: st') 0 ls = (pyLines (n :: m :: st') 0 ls).map (fun r => .indent :: r) := by
  intro ls
  induction ls with
  | nil => intro h; exact absurd h (by simp [FirstAt])
  | cons l ls ih =>
    intro h
    simp only [FirstAt] at h
    by_cases hb : isBlankLine l = true
    · rw [if_pos hb] at h
      rw [pyLines_blank _ hb, pyLines_blank _ hb]; exact ih h
    · rw [if_neg hb] at h
      have hb' : isBlankLine l = false := by simpa using hb
      rw [pyLines_indent m st' hb' (by omega), pyLines_same n (m :: st') hb' h, h, Option.map_map]
      rfl

theorem popTo_lt {k m : Nat} (st : List Nat) (h : k < m) :
    popTo k (m :: st) = (popTo k st).map (fun p => (Tok.dedent :: p.1, p.2)) := by
  have h1 : (k == m) = false := by simp; omega
  simp only [popTo, h1, Bool.false_eq_true, if_false, h, if_true]

/-- leaving a block: the next real line (if any) is indented at most like the enclosing level -/
theorem pyLines_leave (n m : Nat) (st' : List Nat) (hmn : n < m) : ∀ (ls : List (List Char)), LowFirst n ls →
    pyLines (m :: n :: st') 0 ls = (pyLines (n :: st') 0 ls).map (fun r => .dedent :: r) := by
  intro ls
  induction ls with
  | nil =>
    -- the end of the text pops every positive level (`pyLines _ _ []`), so `LowFirst n [] = True` is the right base
    intro _
    have hm : decide (m > 0) = true := by simp; omega
    simp [pyLines, hm]
  | cons l ls ih =>
    intro h
    simp only [LowFirst] at h
    by_cases hb : isBlankLine l = true
    · rw [if_pos hb] at h
      rw [pyLines_blank _ hb, pyLines_blank _ hb]; exact ih h
    · rw [if_neg hb] at h
      have hb' : isBlankLine l = false := by simpa using hb
      rw [pyLines_low m _ hb' (by omega), pyLines_low n _ hb' h, popTo_lt _ (by omega)]
      cases popTo (leadingSpaces l) (n :: st') with
      | none => rfl
      | some p => simp only [Option.map_some, Option.bind_some, Option.map_map]; rfl

def unl (ls : List (List Char)) : List Char := ls.flatMap (· ++ ['\n'])

theorem unl_append (a b : List (List Char)) : unl (a ++ b) = unl a ++ unl b := by simp [unl]

theorem splitLines_append_nl (R : List Char) : ∀ (l acc : List Char), '\n' ∉ l →
    splitLines acc (l ++ '\n' :: R) = (acc.reverse ++ l) :: splitLines [] R := by
  intro l
  induction l with
  | nil => intro acc _; simp [splitLines]
  | cons c cs ih =>
    intro acc h
    simp only [List.mem_cons, not_or] at h
    have hc : (c == '\n') = false := by simpa using fun e => h.1 e.symm
    simp only [List.cons_append, splitLines, hc, Bool.false_eq_true, if_false]
    rw [ih (c :: acc) h.2]; simp

theorem splitLines_unl : ∀ (ls : List (List Char)), (∀ l ∈ ls, '\n' ∉ l) → splitLines [] (unl ls) = ls ++ [[]] := by
  intro ls
  induction ls with
  | nil => intro _; rfl
  | cons l ls ih =>
    intro h
    have : unl (l :: ls) = l ++ '\n' :: unl ls := by simp [unl]
    rw [this, splitLines_append_nl _ l [] (h l (by simp)), ih (fun x hx => h x (by simp [hx]))]
    simp

theorem map_ind_zero (ls : List (List Char)) : ls.map (ind 0) = ls := by
  have : ind 0 = id := funext (fun l => by simp [ind])
  rw [this]; simp

theorem map_ind_ind (n m : Nat) (ls : List (List Char)) : (ls.map (ind m)).map (ind n) = ls.map (ind (n + m)) := by
  simp [ind, ← List.append_assoc]

/-- The lines `ls` (written at indentation 0) carry the token stream `T`: moved to any indentation
    `n` that is on top of the indentation stack, `pyLines` reads them as `T` and goes on with what
    follows (`run`). That needs the next real line not to be indented deeper than `n` (`LowFirst`),
    else the last line of `ls` would open a block; `empty` and `first` let `lx_append` establish
    this for the lines of the second part, which either are all blank or begin at `n`. -/
structure Lx (ls : List (List Char)) (T : List Tok) : Prop where
  nonl : ∀ l ∈ ls, '\n' ∉ l
  run : ∀ n st' rest, LowFirst n rest →
    pyLines (n :: st') 0 (ls.map (ind n) ++ rest) = (pyLines (n :: st') 0 rest).map (fun r => T ++ r)
  empty : T = [] → ∀ l ∈ ls, isBlankLine l = true
  first : T ≠ [] → ∀ n rest, FirstAt n (ls.map (ind n) ++ rest)

theorem lx_blanks (ls : List (List Char)) (hb : ∀ l ∈ ls, isBlankLine l = true) (hn : ∀ l ∈ ls, '\n' ∉ l) :
    Lx ls [] := by
  refine ⟨hn, fun n st' rest _ => ?_, fun _ => hb, fun h => absurd rfl h⟩
  rw [pyLines_blanks _ (ls.map (ind n)) rest fun x hx => by
    obtain ⟨y, hy, rfl⟩ := List.mem_map.1 hx
    rw [isBlankLine_ind]; exact hb y hy]
  simp

theorem Lx.blanks {ls : List (List Char)} {T : List Tok} (h : Lx ls T) (hT : T = []) (n : Nat) :
    ∀ x ∈ ls.map (ind n), isBlankLine x = true := by
  intro x hx
  obtain ⟨y, hy, rfl⟩ := List.mem_map.1 hx
  rw [isBlankLine_ind]; exact h.empty hT y hy

theorem firstAt_real {l : List Char} (h : RealStart l) (n : Nat) (ls : List (List Char)) : FirstAt n (ind n l :: ls) := by
  simp only [FirstAt, isBlankLine_ind, realStart_not_blank h, Bool.false_eq_true, if_false, leadingSpaces_ind,
    realStart_leading h]
  omega

theorem lx_append {a b : List (List Char)} {Ta Tb : List Tok} (ha : Lx a Ta) (hb : Lx b Tb) :
    Lx (a ++ b) (Ta ++ Tb) := by
  have hlow : ∀ n rest, LowFirst n rest → LowFirst n (b.map (ind n) ++ rest) := by
    intro n rest hr
    by_cases hT : Tb = []
    · exact lowFirst_blanks (hb.blanks hT n) hr
    · exact firstAt_low (hb.first hT n rest)
  refine ⟨?_, ?_, ?_, ?_⟩
  · intro l hl
    simp only [List.mem_append] at hl
    rcases hl with hl | hl
    · exact ha.nonl l hl
    · exact hb.nonl l hl
  · intro n st' rest hr
    rw [List.map_append, List.append_assoc, ha.run n st' _ (hlow n rest hr), hb.run n st' rest hr, Option.map_map]
    simp [Function.comp_def]
  · intro hT l hl
    simp only [List.append_eq_nil_iff] at hT
    simp only [List.mem_append] at hl
    rcases hl with hl | hl
    · exact ha.empty hT.1 l hl
    · exact hb.empty hT.2 l hl
  · intro hT n rest
    rw [List.map_append, List.append_assoc]
    by_cases hTa : Ta = []
    · have hTb : Tb ≠ [] := by intro e; exact hT (by simp [hTa, e])
      exact firstAt_blanks (ha.blanks hTa n) (hb.first hTb n rest)
    · exact ha.first hTa n _

theorem lx_logical (lines : List (List Char)) (hnl : ∀ l ∈ lines, '\n' ∉ l)
    (hfirst : ∃ l tail, lines = l :: tail ∧ RealStart l)
    (hw : walk 0 (joinTokNL (lines.map lexPyFlat)) = some 0) :
    Lx lines (lines.flatMap lineToks ++ [.newline]) := by
  refine ⟨hnl, ?_, fun h => absurd (List.append_eq_nil_iff.1 h).2 (List.cons_ne_nil _ _), ?_⟩
  · intro n st' rest _
    rw [pyLines_logical n st' rest lines hfirst hw]
  · intro _ n rest
    obtain ⟨l, tail, rfl, hreal⟩ := hfirst
    exact firstAt_real hreal n _

theorem walkN_append {a b : List Piece} {d d' d'' : Nat} (ha : walk d (toksN a) = some d')
    (hb : walk d' (toksN b) = some d'') : walk d (toksN (a ++ b)) = some d'' := by
  rw [show toksN (a ++ b) = toksN a ++ toksN b from toksW_append _ a b, walk_append, ha]; exact hb

/-- from every bracket depth `≥ k` the tokens of `ps`, with a NEWLINE for every line break, lead back to that depth:
    brackets are balanced; a line break may stand outside them only if `0 < k` (the text of an item of a bracketed
    list, `k = 1`), not in a text that stands on a line of its own (`k = 0`). Only `bal_nlp` needs `k = 1`. The
    one list the formatter builds that is not balanced is the tail `, dtype=…)` of an array declaration, which
    closes a bracket opened before it: `KwTailOK.closes` says it of the whole call, from `(` on. -/
def Bal (k : Nat) (ps : List Piece) : Prop := ∀ d, k ≤ d → walk d (toksN ps) = some d

section
variable {k : Nat} {ps : List Piece}

theorem Bal.walk (h : Bal k ps) : walk k (toksN ps) = some k := h k (Nat.le_refl k)

theorem bal_nil : Bal k [] := fun _ _ => rfl

theorem Bal.mono {k' : Nat} (h : Bal k ps) (hk : k ≤ k') : Bal k' ps :=
  fun d hd => h d (Nat.le_trans hk hd)

theorem bal_append {a b : List Piece} (ha : Bal k a) (hb : Bal k b) : Bal k (a ++ b) :=
  fun d hd => walkN_append (ha d hd) (hb d hd)

def plainP : Piece → Bool
  | .t t => decide (t ≠ .newline ∧ ¬ isOpenT t ∧ ¬ isCloseT t)
  | .ws s => decide (s ≠ ['\n'])

theorem bal_cons {p : Piece} (hp : plainP p = true) (h : Bal k ps) : Bal k (p :: ps) := by
  intro d hd
  cases p with
  | t t =>
    have hp := of_decide_eq_true hp
    simp only [toksW, walk, hp.1, hp.2.1, hp.2.2, if_false]; exact h d hd
  | ws s => simp only [toksW, nlTok, if_neg (of_decide_eq_true hp), List.nil_append]; exact h d hd

theorem plain_id (s : String) : plainP (.t (.id s)) = true := rfl
theorem plain_num (s : String) : plainP (.t (.num s)) = true := rfl

theorem bal_nlp : Bal 1 [nlp] := fun d hd => by
  simp only [toksW, nlTok, nlp, walk, if_true, List.append_nil, if_pos (show 0 < d from hd)]

/-- brackets make room for line breaks (`walk` counts brackets, it does not match their kinds) -/
theorem bal_brackets {o c : P} (ho : isOpenT (.p o)) (hc : isCloseT (.p c)) (h : Bal (k + 1) ps) :
    Bal k (pp o :: ps ++ [pp c]) := by
  intro d hd
  have h1 : walk d (toksN [pp o]) = some (d + 1) := by
    simp only [toksW, pp, walk, if_pos ho, if_neg (show Tok.p o ≠ .newline from nofun)]
  have hnc : ¬ isOpenT (.p c) := by
    rcases hc with e | e | e <;> (cases e; decide)
  have h2 : walk (d + 1) (toksN [pp c]) = some d := by
    simp only [toksW, pp, walk, if_neg hnc, if_pos hc, if_neg (show Tok.p c ≠ .newline from nofun), Nat.succ_pos, if_true,
      Nat.add_sub_cancel]
  exact walkN_append (a := [pp o]) h1 (walkN_append (h (d + 1) (Nat.succ_le_succ hd)) h2)

theorem bal_paren (h : Bal k ps) : Bal k (pp .lpar :: ps ++ [pp .rpar]) :=
  bal_brackets (by decide) (by decide) (h.mono (Nat.le_succ k))

theorem bal_parenIf (b : Bool) (h : Bal k ps) : Bal k (parenIf b ps) := by
  cases b with
  | false => exact h
  | true => exact bal_paren h

theorem bal_joinP {sepr : List Piece} (hs : Bal k sepr) :
    ∀ xs : List (List Piece), (∀ x ∈ xs, Bal k x) → Bal k (joinP sepr xs)
  | [], _ => bal_nil
  | [x], h => h x (List.mem_singleton_self x)
  | x :: y :: ys, h => bal_append (bal_append (h x (List.mem_cons_self ..)) hs)
      (bal_joinP hs (y :: ys) fun z hz => h z (List.mem_cons_of_mem _ hz))

theorem bal_ite {c : Prop} [Decidable c] {a b : List Piece} (ha : Bal k a) (hb : Bal k b) :
    Bal k (if c then a else b) := by
  split
  · exact ha
  · exact hb

end

theorem bal_numPieces (txt : List Char) : Bal 0 (numPieces txt) := by
  unfold numPieces
  split
  · exact bal_cons rfl (bal_cons (plain_num _) bal_nil)
  · exact bal_cons (plain_num _) bal_nil

theorem bal_number (e : Expr) : Bal 0 (pyNumber e) := by
  unfold pyNumber
  split
  · unfold pyComplexPieces
    split
    · exact bal_numPieces _
    · refine bal_paren (bal_append (bal_append (bal_numPieces _) ?_) (bal_numPieces _))
      split
      · exact bal_nil
      · exact bal_cons rfl bal_nil
  · exact bal_numPieces _
  · exact bal_numPieces _
  · exact bal_nil

theorem bal_op (op : BinOp) : Bal 0 (pyOpPieces op) := by
  cases op
  case and => exact bal_cons (plain_id _) bal_nil
  case or => exact bal_cons (plain_id _) bal_nil
  all_goals exact bal_cons rfl bal_nil

theorem bal_mid {t : Tok} (ht : plainP (.t t) = true) : Bal 0 [sp, .t t, sp] :=
  bal_cons rfl (bal_cons ht (bal_cons rfl bal_nil))

theorem bal_nary {o : P} (ho : plainP (pp o) = true) (p : Nat) (args : List Expr) (hall : ∀ x ∈ args, Bal 0 (piecesPy x)) :
    Bal 0 (joinP [sp, pp o, sp] (piecesNaryPy p args)) := by
  rw [piecesNaryPy_eq_map]
  exact bal_joinP (bal_mid ho) _ (List.forall_mem_map.2 fun a ha => bal_parenIf _ (hall a ha))

theorem bal_args (args : List Expr) (hall : ∀ x ∈ args, Bal 0 (piecesPy x)) :
    Bal 0 (joinP [pp .comma, sp] (piecesListPy args)) := by
  rw [piecesListPy_eq_map]
  exact bal_joinP (bal_cons rfl (bal_cons rfl bal_nil)) _ (List.forall_mem_map.2 hall)

theorem bal_call (parts : List String) {xs : List Piece} (hX : Bal 0 xs) :
    Bal 0 (dotted parts ++ [pp .lpar] ++ xs ++ [pp .rpar]) := by
  rw [List.append_assoc, List.append_assoc]
  exact bal_append (bal_joinP (bal_cons rfl bal_nil) _
    (List.forall_mem_map.2 fun s _ => bal_cons (plain_id s) bal_nil)) (bal_paren hX)

mutual
/-- every expression text is balanced, well-formed or not: each case of `piecesPy` closes the brackets it opens -/
theorem bal_pieces : ∀ e : Expr, Bal 0 (piecesPy e)
  | .litF re im c => bal_number _
  | .litI v => bal_number _
  | .sym nm dt => bal_cons (plain_id nm) bal_nil
  | .mi s z gi => bal_pieces gi
  | .neg a => bal_cons rfl (bal_parenIf _ (bal_pieces a))
  | .not a => by
    rw [piecesPy]
    simpa using bal_paren (bal_cons (plain_id _) (bal_cons rfl (bal_paren (bal_pieces a))))
  | .bin op a b =>
    bal_append (bal_append (bal_append (bal_append (bal_parenIf _ (bal_pieces a)) (bal_cons rfl bal_nil))
      (bal_op op)) (bal_cons rfl bal_nil)) (bal_parenIf _ (bal_pieces b))
  | .sum args => bal_nary rfl 5 args (bal_piecesL args)
  | .prod args => bal_nary rfl 4 args (bal_piecesL args)
  | .call f dt args => by
    have hj := bal_args args (bal_piecesL args)
    -- `math.erf(args[0])`
    have hh : Bal 0 ((piecesListPy args).headD []) := by
      cases args with
      | nil => exact bal_nil
      | cons a as => exact bal_piecesL (a :: as) a (List.mem_cons_self ..)
    rw [piecesPy]
    exact bal_ite (bal_call _ hj) (bal_ite (bal_call _ hj) (bal_ite (bal_call _ hh) (bal_call _ hj)))
  | .idx arr dt ix =>
    bal_cons (plain_id arr) (bal_brackets (by decide) (by decide) ((bal_args ix (bal_piecesL ix)).mono (Nat.le_succ 0)))
  | .cond c t f =>
    bal_paren (bal_append (bal_append (bal_append (bal_append (bal_parenIf _ (bal_pieces t)) (bal_mid (plain_id _)))
      (bal_parenIf _ (bal_pieces c))) (bal_mid (plain_id _))) (bal_parenIf _ (bal_pieces f)))
theorem bal_piecesL : ∀ l : List Expr, ∀ x ∈ l, Bal 0 (piecesPy x)
  | [], _, hx => nomatch hx
  | a :: as, x, hx => by
    rcases List.mem_cons.1 hx with e | hx
    · exact e ▸ bal_pieces a
    · exact bal_piecesL as x hx
end

theorem filter_joinTokNL (segs : List (List Tok)) :
    (joinTokNL segs).filter (· != .newline) = segs.flatMap (fun s => s.filter (· != .newline)) := by
  induction segs with
  | nil => rfl
  | cons s segs ih =>
    cases segs with
    | nil => simp [joinTokNL]
    | cons s' segs => simp only [joinTokNL, List.filter_append, List.filter_cons, List.flatMap_cons, ih]; simp

theorem unl_splitLines (x : List Char) : unl (splitLines [] x) = x ++ ['\n'] := by
  have h : ∀ ls : List (List Char), ls ≠ [] → unl ls = joinNL ls ++ ['\n'] := by
    intro ls
    induction ls with
    | nil => intro h; exact absurd rfl h
    | cons l ls ih =>
      intro _
      cases ls with
      | nil => simp [unl, joinNL]
      | cons l' ls =>
        have := ih (by simp)
        simp only [unl, List.flatMap_cons, joinNL] at this ⊢
        rw [this]; simp
  obtain ⟨l, ls, _, h2⟩ := splitLines_acc [] x
  rw [h _ (by rw [h2]; simp), joinNL_splitLines]

theorem pieces_lines (P : List Piece) (hsep : pySepNL P = true) (hfirst : ∃ n, firstP P = some (.id n)) :
    (∀ l ∈ splitLines [] (render P), '\n' ∉ l)
    ∧ (∃ l tl, splitLines [] (render P) = l :: tl ∧ RealStart l)
    ∧ joinTokNL ((splitLines [] (render P)).map lexPyFlat) = toksN P
    ∧ (splitLines [] (render P)).flatMap lineToks = toks P := by
  have hlex : joinTokNL ((splitLines [] (render P)).map lexPyFlat) = toksN P := by
    rw [← lexPyFlat_lines, lex_render_nl P hsep]
  refine ⟨splitLines_no_nl (render P), ?_, hlex, ?_⟩
  · obtain ⟨n, hn⟩ := hfirst
    cases P with
    | nil => cases hn
    | cons p r =>
      cases p with
      | ws _ => cases hn
      | t a =>
        cases hn
        simp only [pySepNL, pyTokOK, Bool.and_eq_true] at hsep
        cases hl : n.toList with
        | nil => simp [hl] at hsep
        | cons c cs =>
          simp only [hl, Bool.and_eq_true] at hsep
          have hc : ∀ d, isIdStart d = false → c ≠ d := fun d => ne_of_class hsep.1.1.1
          have hr : render (.t (.id n) :: r) = c :: (cs ++ render r) := by simp [render, Tok.text, hl]
          rw [hr]
          obtain ⟨l, ls, _, e⟩ := splitLines_cons c (hc _ (by decide)) (cs ++ render r)
          exact ⟨c :: l, ls, e, c, l, rfl, hc _ (by decide), hc _ (by decide), hc _ (by decide), hc _ (by decide)⟩
  · have := filter_joinTokNL ((splitLines [] (render P)).map lexPyFlat)
    rw [hlex, toksN_filter P hsep] at this
    rw [this, List.flatMap_map]
    rfl

/-- what may stand to the left of `=`: the pieces of a name or of an array access -/
structure LhsOK (ps : List Piece) : Prop where
  psp : PSP ps
  first : ∃ n, firstP ps = some (.id n)
  bal : Bal 0 ps

/-- what may stand to the right of `=`: separated (line breaks allowed), brackets balanced and
    every line break inside them -/
structure RhsOK (ps : List Piece) : Prop where
  sep : pySepNL ps = true
  bal : Bal 0 ps

/-- the pieces of a logical line: it also starts with a name -/
structure LineOK (ps : List Piece) : Prop extends RhsOK ps where
  first : ∃ n, firstP ps = some (.id n)

theorem lx_pieces (P : List Piece) (h : LineOK P) : Lx (splitLines [] (render P)) (toks P ++ [.newline]) := by
  obtain ⟨hnl, hreal, hlex, hT⟩ := pieces_lines P h.sep h.first
  have := lx_logical _ hnl hreal (by rw [hlex]; exact h.bal.walk)
  rwa [hT] at this

theorem lx_pass : Lx ["pass".toList] [.id "pass", .newline] :=
  lx_logical ["pass".toList] (by decide) ⟨_, [], rfl, 'p', "ass".toList, by decide⟩ (by decide +kernel)

/-- an indented block: lines `L` that carry `T ≠ []`, at a level `m` deeper than the current one, are read as
    INDENT `T` DEDENT, if the next real line is not deeper than the current level -/
theorem pyLines_block {L : List (List Char)} {T : List Tok} (hL : Lx L T) (hT : T ≠ []) {n m : Nat} (hnm : n < m)
    (st' : List Nat) (rest : List (List Char)) (hr : LowFirst n rest) :
    pyLines (n :: st') 0 (L.map (ind m) ++ rest)
      = (pyLines (n :: st') 0 rest).map (fun r => .indent :: (T ++ .dedent :: r)) := by
  rw [pyLines_enter m n st' hnm _ (hL.first hT m _),
    hL.run m (n :: st') rest (lowFirst_mono (Nat.le_of_lt hnm) hr),
    pyLines_leave n m st' hnm rest hr]
  simp only [Option.map_map]
  rfl

/-- a header line followed by a block, as in a `for` statement (nothing here is particular to `for`): header line(s)
    given by their pieces, the body indented by four blanks (with the trailing empty line `indentAllLines` produces),
    `pass` if the body has no real line -/
theorem lx_for (P : List Piece) (hP : LineOK P) {lsb : List (List Char)} {Tb : List Tok} (hb : Lx lsb Tb) :
    Lx (splitLines [] (render P) ++ ((lsb ++ [[]]).map (ind 4) ++ (if Tb = [] then [ind 4 "pass".toList] else [])))
      (toks P ++ [.newline] ++ (if Tb = [] then [.indent, .id "pass", .newline, .dedent] else [.indent] ++ Tb ++ [.dedent])) := by
  obtain ⟨hnl, hreal, hlex, hT⟩ := pieces_lines P hP.sep hP.first
  -- the body as the formatter prints it, with `pass` where it carries no token: an `Lx` with tokens
  have hbl : Lx (lsb ++ [[]]) Tb := by
    simpa using lx_append hb (lx_blanks [[]] (by decide) (by decide))
  obtain ⟨B, TB, hB, hTB, eB, eT⟩ : ∃ B TB, Lx B TB ∧ TB ≠ []
      ∧ (lsb ++ [[]]).map (ind 4) ++ (if Tb = [] then [ind 4 "pass".toList] else []) = B.map (ind 4)
      ∧ (if Tb = [] then [.indent, .id "pass", .newline, .dedent] else [.indent] ++ Tb ++ [.dedent])
          = Tok.indent :: (TB ++ [.dedent]) := by
    by_cases h : Tb = []
    · subst h
      exact ⟨_, _, lx_append hbl lx_pass, by simp, by simp, by simp⟩
    · exact ⟨_, _, hbl, h, by simp [h], by simp [h]⟩
  rw [eB, eT]
  refine ⟨?_, ?_, fun h => absurd (List.append_eq_nil_iff.1 (List.append_eq_nil_iff.1 h).1).2 (List.cons_ne_nil _ _), ?_⟩
  · intro l hl
    simp only [List.mem_append, List.mem_map] at hl
    rcases hl with hl | ⟨y, hy, rfl⟩
    · exact hnl l hl
    · simp only [ind, List.mem_append, List.mem_replicate, not_or]
      exact ⟨fun h => absurd h.2 (by decide), hB.nonl y hy⟩
  · intro n st' rest hr
    -- the header is read as a logical line whatever follows (no `LowFirst` needed: the body is deeper)
    rw [List.map_append, map_ind_ind, List.append_assoc,
      pyLines_logical n st' _ _ hreal (by rw [hlex]; exact hP.bal.walk), hT, pyLines_block hB hTB (Nat.lt_add_of_pos_right (by decide)) st' rest hr, Option.map_map]
    congr 1
    funext r
    simp
  · intro _ n rest
    obtain ⟨l, tl, e, hr⟩ := hreal
    rw [e]
    exact firstAt_real hr n _

end Ffcx.LNodes.Fmt
