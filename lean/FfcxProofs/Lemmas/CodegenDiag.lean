/-
`part = 'diagonal'` block groups: `genOneBlock` indexes both argument tables of a block by the single loop index `i`
and emits one subscript of `A` (`DiagInv`).  The value of the produced term (`diag_term_sem`), the closed form
`diagLeafL` of the innermost statement list, the per-block facts `DiagOk` and the leaf lemma `diag_leaf` are the
counterparts of `block_term_sem` (Lemmas/CodegenBlock) and `blockLeafL`, `PairOk`, `block_leaf` (Lemmas/CodegenGroup).
-/
import FfcxProofs.C01Codegen

namespace Ffcx.Codegen
open Ffcx.LNodes Lean.Grind
attribute [local instance] Lean.Grind.Ring.intCast
variable {R : Type} [Field R] (x : Extra R)

/-- what a successful `genOneBlock` returns for a rank-2 block of a `diagonal` kernel -/
structure DiagInv (g : GroupDesc) (b : BlockData) (o : BlockOut) (a0 a1 : ArgDesc) : Prop where
  args : b.args = [a0, a1]
  bIdx : o.bIdx = [dofIndex a0.table "i"]
  aIdx : o.term.aIdx = aIndices [a0, a1] [dofIndex a0.table "i"] g.bmLens
  facs : ∃ facs tabs, argFactors g (quadIndex g.rule)
      [(a0, dofIndex a0.table "i"), (a1, dofIndex a0.table "i")] = .ok (facs, tabs) ∧
    o.term.rhs = (floatProductPy (.ex o.fw :: facs)).toExpr

/-- `genOneBlock_inv` for a block of a `diagonal` kernel, with the cache facts `genBlocks_all` asks for -/
theorem genOneBlock_inv_diag (g : GroupDesc) (st st1 : GenState) (b : BlockData) (o : BlockOut)
    (hgen : genOneBlock g st b = .ok (o, st1)) (hdiag : g.diagonal = true)
    (hrank : g.bmLens.length = 2) (a0 a1 : ArgDesc) (hargs : b.args = [a0, a1]) :
    DiagInv g b o a0 a1 ∧ o.fw = (fwOf g st b).1 ∧ st1 = (fwOf g st b).2.2 := by
  unfold genOneBlock at hgen
  simp only [hdiag, hrank, hargs, Bool.true_and, beq_self_eq_true, List.length_cons, List.length_nil,
    Nat.lt_irrefl, decide_false, Bool.false_or, dofNames, List.take, bIndices] at hgen
  replace hgen := (ite_eq_of_ne hgen nofun).2
  by_cases hsh : (g.aShape.length != 1) = true
  · simp [hsh] at hgen
  simp only [hsh] at hgen
  replace hgen := (ite_eq_of_ne hgen nofun).2
  replace hgen := (ite_eq_of_ne hgen nofun).2
  replace hgen := (ite_eq_of_ne hgen nofun).2
  generalize varOf (fwOf g st b).1 = X at hgen
  cases X with
  | error e => simp at hgen
  | ok var =>
    replace hgen := (ite_eq_of_ne hgen nofun).2
    simp only [List.zip_cons_cons, List.zip_nil_right] at hgen
    generalize ha : argFactors g (quadIndex g.rule)
      [(a0, dofIndex a0.table "i"), (a1, dofIndex a0.table "i")] = Y at hgen
    cases Y with
    | error e => simp at hgen
    | ok p =>
      simp only [Except.ok.injEq, Prod.mk.injEq, List.take] at hgen
      obtain ⟨rfl, rfl⟩ := hgen
      exact ⟨⟨hargs, rfl, rfl, p.1, p.2, ha, rfl⟩, rfl, rfl⟩

/-- **One term of a diagonal group, one value `d` of `i`** (the counterpart of `block_term_sem`): it adds
    `fw · T_0[…][q][d] · T_1[…][q][d]` at the flat index of `bs_0·d + off_0`. -/
theorem diag_term_sem (hlaw : LawfulExtra x) (g : GroupDesc) (b : BlockData) (o : BlockOut)
    (a0 a1 : ArgDesc) (hinv : DiagInv g b o a0 a1) (hrule : g.rule.factors = none)
    (hnf0 : a0.table.factors = none) (hnf1 : a1.table.factors = none) (n0 n1 : Nat)
    (hL : g.bmLens = [n0, n1]) (hn1 : a1.table.ndofs = n0)
    (hcov : coversB [a0] [n0] g.aShape = true)
    (hname0 : a0.table.name ≠ aName) (hname1 : a1.table.name ≠ aName)
    (hfwA : mentionsE aName o.fw = false)
    (τ : St R) (q d : Int) (hq : τ.iv.get "iq" = some q) (hd : τ.iv.get "i" = some d)
    (hin : InBox [n0] [d])
    (hok0 : ArgOk τ g.entityType q a0) (hok1 : ArgOk τ g.entityType q a1)
    (hsfw : safeE τ o.fw = true) :
    TermAdds x aName (sizeProd g.aShape) τ (o.term.aterm g.aShape) (flatIdx g.aShape [aCoord a0 n0 d])
      (eval x τ o.fw * (argVal τ g.entityType q a0 d * argVal τ g.entityType q a1 d)) := by
  obtain ⟨facs, tabs, hfac, hrhs⟩ := hinv.facs
  obtain ⟨_, _, hnd⟩ := coversB_lens _ _ _ hcov
  simp only [List.map_cons, List.map_nil, List.cons.injEq, and_true] at hnd
  obtain ⟨dn, rfl⟩ : ∃ dn : Nat, d = dn := ⟨d.toNat, by have := hin.1; omega⟩
  have hdn : dn < n0 := by have := hin.1; omega
  -- both tables are indexed by `i`: these are the factors of `[a0, a1]` for the index names `["i", "i"]`
  have hix : dofIndex a1.table "i" = dofIndex a0.table "i" := by
    rw [dofIndex_noTF _ _ hnf0, dofIndex_noTF _ _ hnf1, hnd, hn1]
  rw [quadIndex_noTF _ hrule] at hfac
  obtain ⟨f1, f2, f3⟩ := argFactors_sem x g g.rule.nweights τ q hq [a0, a1] ["i", "i"] [dn, dn] facs tabs
    (by simp only [bIndices, List.zip_cons_cons, List.zip_nil_right, hix]; exact hfac)
    (List.forall_mem_cons.mpr ⟨hnf0, List.forall_mem_singleton.mpr hnf1⟩) (Nat.le_refl _) rfl
    ⟨hd, hd, trivial⟩ (List.forall_mem_cons.mpr ⟨hok0, List.forall_mem_singleton.mpr hok1⟩)
  have haidx : o.term.aIdx = aIndices [a0] (bIndices [a0] ["i"]) [n0] := by rw [hinv.aIdx, hL]; rfl
  obtain ⟨hev, hmen⟩ := aIndices_sem τ [a0] ["i"] [n0] [dn] (List.forall_mem_singleton.mpr hnf0)
    (Nat.le_refl _) rfl rfl ⟨hd, trivial⟩
  rw [← haidx] at hev hmen
  obtain ⟨c1, c2⟩ := inBox_iff_zip.mp
    (coversB_inBox [a0] _ _ _ hcov (show InBox [a0.table.ndofs] _ from hnd ▸ hin))
  obtain ⟨k, k1, k2, k3⟩ := evalI_mkMultiIndex τ.iv τ.ia o.term.aIdx g.aShape _ hev c1 c2
  refine ⟨?_, show safeE τ o.term.rhs = true from ?_, ⟨k, k1, k2, k3⟩, show eval x τ o.term.rhs = _ from ?_⟩
  · simp only [ATerm.noA, Term.aterm, Bool.and_eq_true, Bool.not_eq_true']
    refine ⟨mentions_mkMultiIndex aName _ _ ?_, ?_⟩
    · exact hmen aName (by decide +kernel)
    · rw [hrhs]
      exact mentions_floatProductPy _ _ (List.forall_mem_cons.2 ⟨hfwA,
        f3 aName (List.forall_mem_cons.mpr ⟨hname0.symm, List.forall_mem_singleton.mpr hname1.symm⟩)
          (by decide +kernel) (by decide +kernel) (by decide +kernel) (by decide +kernel)⟩)
  · rw [hrhs]
    exact safe_floatProductPy _ _ (List.forall_mem_cons.2 ⟨hsfw,
      f2 ⟨⟨Int.natCast_nonneg dn, show (dn : Int) < (a0.table.ndofs : Int) by omega⟩,
        ⟨Int.natCast_nonneg dn, show (dn : Int) < (a1.table.ndofs : Int) by omega⟩, trivial⟩⟩)
  · rw [hrhs, eval_floatProductPy hlaw]
    simp only [evalPy, prodR, MSym.toExpr, f1, argVals, Semiring.mul_one]

/-- `Σ_b [flat(bs_b0·d + off_b0) = k] · fw_b · T_b0(q,d) · T_b1(q,d)` over the blocks of a diagonal group -/
def diagLeafL (σ : St R) (et : String) (aShape : List Nat) (n0 : Nat) (q d : Int) (k : Nat) :
    List BlockData → List Expr → R
  | b :: bs, fw :: fws =>
    (match b.args with
     | [a0, a1] =>
       if flatIdx aShape [aCoord a0 n0 d] = some k
         then eval x σ fw * (argVal σ et q a0 d * argVal σ et q a1 d) else 0
     | _ => 0) +
    diagLeafL σ et aShape n0 q d k bs fws
  | _, _ => 0

theorem diagLeafL_eq_lsum (σ : St R) (et : String) (aShape : List Nat) (n0 : Nat) (q d : Int) (k : Nat)
    (bs : List BlockData) (fws : List Expr) :
    diagLeafL x σ et aShape n0 q d k bs fws =
      IR.lsum (fun p : BlockData × Expr => match p.1.args with
        | [a0, a1] =>
          if flatIdx aShape [aCoord a0 n0 d] = some k
            then eval x σ p.2 * (argVal σ et q a0 d * argVal σ et q a1 d) else 0
        | _ => 0) (bs.zip fws) :=
  lsum_zip_of_rec (diagLeafL x σ et aShape n0 q d k) _ (fun _ _ _ _ => rfl) (fun _ => rfl) (fun _ _ => rfl)
    bs fws

/-- what is assumed of a block of a diagonal group with the arguments `a0`, `a1` (from `diagonalBlock` and the side
    conditions on its tables) and of its output (from `genOneBlock_inv_diag` and `namesOk`); as in `PairOk`, `tab0`,
    `tab1` and `fwS` are about the state `σ` in which the section starts; `fwD` has the shape `fw_frame` takes -/
structure DiagOk (g : GroupDesc) (σ : St R) (q : Int) (n0 : Nat) (b : BlockData) (o : BlockOut)
    (a0 a1 : ArgDesc) : Prop where
  inv : DiagInv g b o a0 a1
  nf0 : a0.table.factors = none
  nf1 : a1.table.factors = none
  nd : a1.table.ndofs = n0
  cov : coversB [a0] [n0] g.aShape = true
  name0 : a0.table.name ≠ aName
  name1 : a1.table.name ≠ aName
  fwA : mentionsE aName o.fw = false
  fwD : ∀ n, mentionsE n o.fw = true → n ∉ dofNames
  tab0 : ArgOk σ g.entityType q a0
  tab1 : ArgOk σ g.entityType q a1
  fwS : safeE σ o.fw = true

/-- **The innermost statement list of a diagonal group** at one value `d < n0` of the loop index `i` (the
    counterpart of `block_leaf`, with the same two states). -/
theorem diag_leaf (hlaw : LawfulExtra x) (g : GroupDesc) (hrule : g.rule.factors = none)
    (n0 n1 : Nat) (hL : g.bmLens = [n0, n1]) (σ τ : St R) (q d : Int)
    (hag : Agree aName (fun n => n ∉ dofNames) (fun _ => True) σ τ)
    (hq : τ.iv.get "iq" = some q) (hd : τ.iv.get "i" = some d) (hin : InBox [n0] [d])
    (bs : List BlockData) (os : List BlockOut) (hl : os.length = bs.length)
    (hp : ∀ p ∈ bs.zip os, ∃ a0 a1, DiagOk g σ q n0 p.1 p.2 a0 a1) :
    LeafAdds x aName (sizeProd g.aShape) (os.map (fun o => o.term.aterm g.aShape)) τ
      (fun k => diagLeafL x σ g.entityType g.aShape n0 q d k bs (os.map (·.fw))) := by
  refine LeafAdds.of_zip x g.aShape (fun k => diagLeafL x σ g.entityType g.aShape n0 q d k) _
    (fun _ _ _ _ _ => rfl) (fun _ => rfl) bs os hl fun p hp' => ?_
  obtain ⟨a0, a1, h⟩ := hp p hp'
  obtain ⟨efw, sfw⟩ := fw_frame x hag p.2.fw h.fwA h.fwD
  have ht := diag_term_sem x hlaw g p.1 p.2 a0 a1 h.inv hrule h.nf0 h.nf1 n0 n1 hL
    h.nd h.cov h.name0 h.name1 h.fwA τ q d hq hd hin
    (ArgOk_agree hag g.entityType q a0 h.name0 h.tab0) (ArgOk_agree hag g.entityType q a1 h.name1 h.tab1)
    (sfw.symm.trans h.fwS)
  rw [argVal_agree hag g.entityType q a0 d h.name0, argVal_agree hag g.entityType q a1 d h.name1, ← efw] at ht
  exact ⟨_, _, fun _ => by simp only [h.inv.args], ht⟩

end Ffcx.Codegen
