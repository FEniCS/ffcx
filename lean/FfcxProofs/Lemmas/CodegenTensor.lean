/-
Tensor-factorised (`sum_factorization=True`) block groups: the loop symbols `famSyms` and the multi-symbol index
`Σ stride_d·i_d`, the generated accesses `FE_TF_d[perm][entity][iq_d][i_d]` of one argument (`tpArgVal`) and of all
arguments of a block, one emitted term (`tp_term_sem`), the closed form `tpLeafL` of the innermost statement list with
the per-block facts `TpOk` and the leaf lemma `tp_leaf`: the counterparts of `argFactor_sem` … `block_leaf` of
Lemmas/CodegenBlock and CodegenGroup.

`2 ≤ D` is asked by `argFactor_sem_tp` and by what rests on it (`argFactors_sem_tp`, `tp_term_sem`, `tp_leaf`):
`tableAccess` (Block.lean) takes its one-table branch when the dof index and the quadrature index both have a single
symbol, so a factorised access is generated only for `D ≥ 2` (the step `hne` there).  `aIndices_sem_tp` asks `1 ≤ D`
(`MIx.global` of no sizes is the literal 0, not a sum); the other lemmas ask nothing of `D`.  FFCx builds rules with
tensor factors only for quadrilaterals and hexahedra (`create_quadrature_points_and_weights`), `D = 2` or `3`.
-/
import FfcxProofs.C01Codegen

namespace Ffcx.Codegen
open Ffcx.LNodes Lean.Grind
attribute [local instance] Lean.Grind.Ring.intCast
variable {R : Type}

/-- the symbols `name0, name1, …` of a tensor-factorised index -/
def famSyms (name : String) (D : Nat) : List String := (List.range D).map (fun i => s!"{name}{i}")

/-- the loop symbols of all argument positions -/
def allFamSyms (D : Nat) : List String := (dofNames.map (fun nm => famSyms nm D)).flatten

theorem evalI_global_multi (τ : St R) (syms : List String) (sizes : List Nat) (vs : List Int)
    (hb : BoundAll τ syms vs) (hne : sizes ≠ []) :
    evalI τ.iv τ.ia (MIx.global { syms := syms, sizes := sizes }) = some (dotStrides (strides sizes) vs) := by
  have hmap : evalIs τ.iv τ.ia ((syms.map (fun s => MSym.ex (isym s))).map MSym.toExpr) = some vs := by
    simpa [List.map_map, Function.comp_def, MSym.toExpr] using hb.evalIs_eq
  simp only [MIx.global, miGlobal]
  have : sizes.isEmpty = false := by cases sizes <;> simp_all
  simp only [this, Bool.false_eq_true, if_false, evalI]
  exact evalISum_miTerms τ.iv τ.ia (strides sizes) _ vs hmap

theorem mentions_global_multi (m : String) (syms : List String) (sizes : List Nat) (h : m ∉ syms) :
    mentionsE m (MIx.global { syms := syms, sizes := sizes }) = false := by
  have h1 := mentions_mkMultiIndex m (syms.map isym) sizes (by
    intro e he
    obtain ⟨s, hs, rfl⟩ := List.mem_map.mp he
    simp only [isym, mentionsE, beq_eq_false_iff_ne, ne_eq]
    intro e'; subst e'; exact h hs)
  simp only [mkMultiIndex, mentionsE, Bool.or_eq_false_iff] at h1
  simpa [MIx.global, List.map_map, Function.comp_def] using h1.2

variable [Field R] (x : Extra R)

/-- values `TF_d[vp][ve][q_d][v_d]` of the factor tables -/
def tfVals (σ : St R) (vp ve : Int) : List (String × Nat) → List Int → List Int → List R
  | (f, _) :: fs, q :: qs, d :: ds => readArr σ f [vp, ve, q, d] :: tfVals σ vp ve fs qs ds
  | _, _, _ => []

/-- the factor tables are declared and cover `[vp][ve][q_d][v]`, `v < size_d` -/
def TfOk (σ : St R) (vp ve : Int) : List (String × Nat) → List Int → Prop
  | (f, n) :: fs, q :: qs =>
    (∃ arr, σ.sa.get f = some arr ∧ ∀ v : Nat, v < n → (flatIdx arr.dims [vp, ve, q, (v : Int)]).isSome = true) ∧
      TfOk σ vp ve fs qs
  | [], [] => True
  | _, _ => False

/-- the accesses `tpGo` builds for the factor tables `fs`: their values are `tfVals`; they are safe if the tables
    cover the index values (`TfOk`, `InBox`); they mention only `qp`, `e`, the index symbols and the table names -/
theorem tpGo_sem (qp e : Expr) (τ : St R) (vp ve : Int)
    (hqp : evalI τ.iv τ.ia qp = some vp) (he : evalI τ.iv τ.ia e = some ve) :
    ∀ (n : Nat) (fs : List (String × Nat)) (qss dss : List String) (qvs dvs : List Int)
      (fe : List Expr) (names : List String),
      tpGo qp (some e) n fs qss dss = .ok (fe, names) → fs.length = n →
      BoundAll τ qss qvs → BoundAll τ dss dvs → qss.length = n → dss.length = n →
      evalL x τ fe = tfVals τ vp ve fs qvs dvs ∧
      (TfOk τ vp ve fs qvs → InBox (fs.map (·.2)) dvs → ∀ f ∈ fe, safeE τ f = true) ∧
      (∀ m, mentionsE m qp = false → mentionsE m e = false → m ∉ qss → m ∉ dss →
        (∀ f ∈ fs, m ≠ f.1) → ∀ f ∈ fe, mentionsE m f = false)
  | 0, fs, qss, dss, qvs, dvs, fe, names, h, hl, _, _, _, _ => by
    simp only [tpGo, Except.ok.injEq, Prod.mk.injEq] at h
    obtain ⟨rfl, _⟩ := h
    cases fs with
    | nil => simp [evalL, tfVals]
    | cons _ _ => simp at hl
  | n + 1, [], _, _, _, _, _, _, _, hl, _, _, _, _ => by simp at hl
  | n + 1, _ :: _, [], _, _, _, _, _, _, _, _, _, hq, _ => by simp at hq
  | n + 1, _ :: _, _ :: _, [], _, _, _, _, _, _, _, _, _, hd => by simp at hd
  | n + 1, (fname, sz) :: fs, qs :: qss, ds :: dss, qvs, dvs, fe, names, h, hl, hbq, hbd, hq, hd => by
    cases qvs with
    | nil => exact hbq.elim
    | cons qv qvs =>
      cases dvs with
      | nil => exact hbd.elim
      | cons dv dvs =>
        simp only [BoundAll] at hbq hbd
        simp only [tpGo] at h
        cases hr : tpGo qp (some e) n fs qss dss with
        | error err => simp [hr] at h
        | ok p =>
          obtain ⟨fe', names'⟩ := p
          simp only [hr, Except.ok.injEq, Prod.mk.injEq] at h
          obtain ⟨rfl, _⟩ := h
          obtain ⟨i1, i2, i3⟩ := tpGo_sem qp e τ vp ve hqp he n fs qss dss qvs dvs fe' names' hr
            (Nat.succ.inj hl) hbq.2 hbd.2 (Nat.succ.inj hq) (Nat.succ.inj hd)
          have hixs : evalIs τ.iv τ.ia [qp, e, isym qs, isym ds] = some [vp, ve, qv, dv] := by
            simp [evalIs, hqp, he, isym, evalI, hbq.1, hbd.1]
          refine ⟨?_, ?_, ?_⟩
          · simp only [evalL, tfVals, i1, eval, hixs]
            simp
          · intro hok hin f hf
            simp only [TfOk] at hok
            simp only [List.map_cons, InBox] at hin
            obtain ⟨⟨arr, harr, hfl⟩, hok'⟩ := hok
            rcases List.mem_cons.mp hf with rfl | hf
            · simp only [safeE, harr, hixs]
              have := hfl dv.toNat (by omega)
              rw [Int.toNat_of_nonneg hin.1.1] at this
              simpa using this
            · exact i2 hok' hin.2 f hf
          · intro m m1 m2 m3 m4 m5 f hf
            rcases List.mem_cons.mp hf with rfl | hf
            · have e1 : fname ≠ m := fun e' => m5 (fname, sz) (List.mem_cons_self ..) e'.symm
              have e2 : qs ≠ m := fun e' => m3 (e' ▸ List.mem_cons_self ..)
              have e3 : ds ≠ m := fun e' => m4 (e' ▸ List.mem_cons_self ..)
              simp [mentionsE, mentionsL, isym, e1, e2, e3, m1, m2]
            · exact i3 m m1 m2 (fun h => m3 (by simp [h])) (fun h => m4 (by simp [h]))
                (fun f' hf' => m5 f' (List.mem_cons_of_mem _ hf')) f hf

/-- the factor tables of an argument (`[]` if it has none) -/
def ArgDesc.fs (a : ArgDesc) : List (String × Nat) := a.table.factors.getD []

/-- **The tensor-factorised argument value** `Π_d TF_d[perm][entity][q_d][i_d]` (1 for "ones") -/
def tpArgVal (σ : St R) (et : String) (qs : List Int) (a : ArgDesc) (ds : List Int) : R :=
  if a.table.ttype == "ones" then 1
  else prodR (tfVals σ (subVal σ (qpExpr a.table a.restriction))
    (match entExpr et a.table a.restriction with | some e => subVal σ e | none => 0) a.fs qs ds)

/-- the factor tables of `a` are declared with extents covering the accesses at `qs` -/
def TpArgOk (σ : St R) (et : String) (qs : List Int) (a : ArgDesc) : Prop :=
  a.table.ttype = "ones" ∨
  ∃ e vp ve, entExpr et a.table a.restriction = some e ∧
    evalI σ.iv σ.ia (qpExpr a.table a.restriction) = some vp ∧ evalI σ.iv σ.ia e = some ve ∧
    TfOk σ vp ve a.fs qs

theorem dofIndex_TF (t : TableRef) (nm : String) (fs : List (String × Nat)) (h : t.factors = some fs) :
    dofIndex t nm = { syms := famSyms nm fs.length, sizes := fs.map (·.2) } := by
  simp [dofIndex, h, famSyms]

/-- **One argument factor of a tensor-factorised block** (the counterpart of `argFactor_sem`): its value is
    `tpArgVal`; it is safe at index values inside the factor dimensions; it mentions only the quadrature and dof
    index symbols, the factor tables and the two integer input arrays. -/
theorem argFactor_sem_tp (g : GroupDesc) (a : ArgDesc) (fs : List (String × Nat))
    (hfs : a.table.factors = some fs) (iqs dsyms : List String) (ms : List Nat)
    (hD : 2 ≤ fs.length) (hiq : iqs.length = fs.length) (hds : dsyms.length = fs.length)
    (f : MSym) (tabs : List String)
    (h : argFactor g { syms := iqs, sizes := ms } a { syms := dsyms, sizes := fs.map (·.2) } = .ok (f, tabs))
    (τ : St R) (qvs dvs : List Int) (hbq : BoundAll τ iqs qvs) (hbd : BoundAll τ dsyms dvs)
    (hok : TpArgOk τ g.entityType qvs a) :
    eval x τ f.toExpr = tpArgVal τ g.entityType qvs a dvs ∧
    (InBox (fs.map (·.2)) dvs → safeE τ f.toExpr = true) ∧
    (∀ m, m ∉ iqs → m ∉ dsyms → (∀ f' ∈ fs, m ≠ f'.1) → m ≠ "quadrature_permutation" →
      m ≠ "entity_local_index" → mentionsE m f.toExpr = false) := by
  unfold argFactor at h
  split at h
  · simp at h
  split at h
  · rename_i hz hone
    simp only [Except.ok.injEq, Prod.mk.injEq] at h
    obtain ⟨rfl, _⟩ := h
    refine ⟨?_, fun _ => by simp [MSym.toExpr, safeE], fun m _ _ _ _ _ => by simp [MSym.toExpr, mentionsE]⟩
    simp [MSym.toExpr, eval, tpArgVal, hone, Ring.intCast_one]
  · rename_i hz hone
    rcases hok with hok | ⟨e, vp, ve, he, hvp, hve, htf⟩
    · simp [hok] at hone
    unfold tableAccess at h
    have he' : (if a.table.isUniform = true then some (Expr.litI 0)
        else entityExpr g.entityType a.restriction) = some e := he
    simp only [MIx.dim, List.length_map, he', hfs] at h
    have hne : (fs.length == 1 && ms.length == 1) = false := by
      have : (fs.length == 1) = false := by simp; omega
      simp [this]
    simp only [hne, Bool.false_eq_true, if_false] at h
    cases hr : tpGo (qpExpr a.table a.restriction) (some e) fs.length fs iqs dsyms with
    | error err => simp [hr] at h
    | ok p =>
      obtain ⟨fe, names⟩ := p
      simp only [hr] at h
      by_cases hemp : fe.isEmpty = true
      · simp [hemp] at h
      simp only [hemp, Bool.false_eq_true, if_false, Except.ok.injEq, Prod.mk.injEq] at h
      obtain ⟨rfl, _⟩ := h
      obtain ⟨i1, i2, i3⟩ := tpGo_sem x _ e τ vp ve hvp hve fs.length fs iqs dsyms qvs dvs fe names hr rfl
        hbq hbd hiq hds
      have hfsA : a.fs = fs := by simp [ArgDesc.fs, hfs]
      refine ⟨?_, ?_, ?_⟩
      · simp only [MSym.toExpr, eval_prod, i1, tpArgVal, hone, he, subVal, hvp, hve, hfsA]
        simp
      · intro hin
        simp only [MSym.toExpr, safeE]
        exact safeL_eq_true_iff.2 (i2 (by rw [← hfsA]; exact htf) hin)
      · intro m m1 m2 m3 m4 m5
        simp only [MSym.toExpr, mentionsE]
        exact mentionsL_eq_false_iff.2 (i3 m ((qpExpr_constSub a.table a.restriction).mentions m4)
          ((entExpr_constSub he).mentions m5) m1 m2 m3)

/-- the dof index families of the arguments hold the per-argument value lists.  More names than value lists is
    allowed (it is used with the four `dofNames` against one or two lists), the converse is not. -/
def BoundFam (τ : St R) (D : Nat) : List String → List (List Int) → Prop
  | nm :: nms, dvs :: dvss => BoundAll τ (famSyms nm D) dvs ∧ BoundFam τ D nms dvss
  | _, [] => True
  | [], _ :: _ => False

def tpArgVals (σ : St R) (et : String) (qs : List Int) : List ArgDesc → List (List Int) → List R
  | a :: as, dvs :: dvss => tpArgVal σ et qs a dvs :: tpArgVals σ et qs as dvss
  | _, _ => []

def InBoxes : List ArgDesc → List (List Int) → Prop
  | a :: as, dvs :: dvss => InBox (a.fs.map (·.2)) dvs ∧ InBoxes as dvss
  | _, _ => True

/-- the subscripts of `A`: `block_size·(Σ stride_d·i_d) + offset` per argument -/
def aCoordsTP : List ArgDesc → List Nat → List (List Int) → List Int
  | a :: as, n :: ns, dvs :: dvss =>
    aCoord a n (dotStrides (strides (a.fs.map (·.2))) dvs) :: aCoordsTP as ns dvss
  | _, _, _ => []

def AllTF (D : Nat) (args : List ArgDesc) : Prop :=
  ∀ a ∈ args, ∃ fs, a.table.factors = some fs ∧ fs.length = D

theorem AllTF.fs {D : Nat} {args : List ArgDesc} (h : AllTF D args) (a : ArgDesc) (ha : a ∈ args) :
    a.table.factors = some a.fs ∧ a.fs.length = D := by
  obtain ⟨fs, h1, h2⟩ := h a ha
  simp [ArgDesc.fs, h1, h2]

theorem famSyms_length (nm : String) (D : Nat) : (famSyms nm D).length = D := by simp [famSyms]

theorem AllTF.dims_length {D : Nat} {args : List ArgDesc} (h : AllTF D args) (a : ArgDesc) (ha : a ∈ args) :
    (a.fs.map (·.2)).length = D := by rw [List.length_map]; exact (h.fs a ha).2

theorem loops_TF {D : Nat} {args : List ArgDesc} (h : AllTF D args) (a : ArgDesc) (ha : a ∈ args)
    (nm : String) :
    ((dofIndex a.table nm).syms.zip (dofIndex a.table nm).sizes).map (·.1) = famSyms nm D ∧
    ((dofIndex a.table nm).syms.zip (dofIndex a.table nm).sizes).map (·.2) = a.fs.map (·.2) := by
  have hl := h.dims_length a ha
  rw [dofIndex_TF _ _ _ (h.fs a ha).1, (h.fs a ha).2]
  exact ⟨List.map_fst_zip (by rw [famSyms_length, hl]; exact Nat.le_refl _),
    List.map_snd_zip (by rw [famSyms_length, hl]; exact Nat.le_refl _)⟩

/-- `argFactor_sem_tp` for all arguments of a block (value, safety, mentioned names) -/
theorem argFactors_sem_tp (g : GroupDesc) (D : Nat) (hD : 2 ≤ D) (iqs : List String) (ms : List Nat)
    (hiq : iqs.length = D) (τ : St R) (qvs : List Int) (hbq : BoundAll τ iqs qvs) :
    ∀ (args : List ArgDesc) (names : List String) (dvss : List (List Int)) (facs : List MSym)
      (tabs : List String),
      argFactors g { syms := iqs, sizes := ms } (args.zip (bIndices args names)) = .ok (facs, tabs) →
      AllTF D args → args.length ≤ names.length → dvss.length = args.length →
      BoundFam τ D names dvss → (∀ a ∈ args, TpArgOk τ g.entityType qvs a) →
      evalPy x τ facs = tpArgVals τ g.entityType qvs args dvss ∧
      (InBoxes args dvss → ∀ f ∈ facs, safeE τ f.toExpr = true) ∧
      (∀ m, m ∉ iqs → (∀ nm ∈ names, m ∉ famSyms nm D) → (∀ a ∈ args, ∀ f' ∈ a.fs, m ≠ f'.1) →
        m ≠ "quadrature_permutation" → m ≠ "entity_local_index" →
        ∀ f ∈ facs, mentionsE m f.toExpr = false)
  | [], names, dvss, facs, tabs, h, _, _, _, _, _ => by
    simp only [List.zip_nil_left, argFactors, Except.ok.injEq, Prod.mk.injEq] at h
    obtain ⟨rfl, _⟩ := h
    exact ⟨rfl, fun _ f hf => absurd hf List.not_mem_nil, fun m _ _ _ _ _ f hf => absurd hf List.not_mem_nil⟩
  | a :: as, [], _, _, _, _, _, hn, _, _, _ => by simp at hn
  | a :: as, nm :: nms, [], _, _, _, _, _, hl, _, _ => by simp at hl
  | a :: as, nm :: nms, dvs :: dvss, facs, tabs, h, htf, hn, hl, hb, hok => by
    obtain ⟨hfs, hlen⟩ := htf.fs a (List.mem_cons_self ..)
    simp only [bIndices, dofIndex_TF _ _ _ hfs, List.zip_cons_cons, argFactors, hlen] at h
    cases h1 : argFactor g { syms := iqs, sizes := ms } a
        { syms := famSyms nm D, sizes := a.fs.map (·.2) } with
    | error e => simp [h1] at h
    | ok p =>
      obtain ⟨f, ts⟩ := p
      cases h2 : argFactors g { syms := iqs, sizes := ms } (as.zip (bIndices as nms)) with
      | error e => simp [h1, h2] at h
      | ok p2 =>
        obtain ⟨fs', tss⟩ := p2
        simp only [h1, h2, Except.ok.injEq, Prod.mk.injEq] at h
        obtain ⟨rfl, _⟩ := h
        simp only [BoundFam] at hb
        have hfam : (famSyms nm D).length = a.fs.length := (famSyms_length nm D).trans hlen.symm
        obtain ⟨v1, s1, m1⟩ := argFactor_sem_tp x g a a.fs hfs iqs (famSyms nm D) ms (by omega)
          (by omega) hfam f ts h1 τ qvs dvs hbq hb.1 (hok a (List.mem_cons_self ..))
        obtain ⟨i1, i2, i3⟩ := argFactors_sem_tp g D hD iqs ms hiq τ qvs hbq as nms dvss fs' tss h2
          (fun b hb' => htf b (List.mem_cons_of_mem _ hb')) (Nat.le_of_succ_le_succ hn) (Nat.succ.inj hl) hb.2
          (fun b hb' => hok b (List.mem_cons_of_mem _ hb'))
        refine ⟨by simp [evalPy, tpArgVals, v1, i1], ?_, ?_⟩
        · intro hin f' hf'
          simp only [InBoxes] at hin
          rcases List.mem_cons.mp hf' with rfl | hf'
          · exact s1 hin.1
          · exact i2 hin.2 f' hf'
        · intro m m1' m2' m3' m4' m5' f' hf'
          rcases List.mem_cons.mp hf' with rfl | hf'
          · exact m1 m m1' (m2' nm (List.mem_cons_self ..)) (m3' a (List.mem_cons_self ..)) m4' m5'
          · exact i3 m m1' (fun nm' hnm' => m2' nm' (List.mem_cons_of_mem _ hnm'))
              (fun b hb' => m3' b (List.mem_cons_of_mem _ hb')) m4' m5' f' hf'

omit [Field R] in
theorem aIndices_sem_tp (D : Nat) (hD : 1 ≤ D) (τ : St R) :
    ∀ (args : List ArgDesc) (names : List String) (lens : List Nat) (dvss : List (List Int)),
      AllTF D args → args.length ≤ names.length → dvss.length = args.length →
      lens.length = args.length → BoundFam τ D names dvss →
      evalIs τ.iv τ.ia (aIndices args (bIndices args names) lens) = some (aCoordsTP args lens dvss) ∧
      (∀ m, (∀ nm ∈ names, m ∉ famSyms nm D) →
        ∀ e ∈ aIndices args (bIndices args names) lens, mentionsE m e = false)
  | [], _, _, _, _, _, _, _, _ => ⟨rfl, fun _ _ _ he => absurd he List.not_mem_nil⟩
  | a :: as, [], _, _, _, hn, _, _, _ => by simp at hn
  | a :: as, nm :: nms, [], _, _, _, _, hl2, _ => by simp at hl2
  | a :: as, nm :: nms, n :: ns, [], _, _, hl, _, _ => by simp at hl
  | a :: as, nm :: nms, n :: ns, dvs :: dvss, htf, hn, hl, hl2, hb => by
    obtain ⟨hfs, hlen⟩ := htf.fs a (List.mem_cons_self ..)
    simp only [BoundFam] at hb
    obtain ⟨i1, i2⟩ := aIndices_sem_tp D hD τ as nms ns dvss (fun b hb' => htf b (List.mem_cons_of_mem _ hb'))
      (Nat.le_of_succ_le_succ hn) (Nat.succ.inj hl) (Nat.succ.inj hl2) hb.2
    have hne : a.fs.map (·.2) ≠ [] := by
      intro h
      have h' := congrArg List.length h
      simp only [List.length_map, List.length_nil] at h'
      omega
    have hg := evalI_global_multi τ (famSyms nm D) (a.fs.map (·.2)) dvs hb.1 hne
    simp only [bIndices, dofIndex_TF _ _ _ hfs, hlen, aIndices, evalIs, aCoordsTP,
      evalI_aIndex_of τ.iv τ.ia a _ n _ hg, i1]
    refine ⟨rfl, ?_⟩
    intro m hm e he
    rcases List.mem_cons.mp he with rfl | he
    · exact mentions_aIndex_of m a _ n (mentions_global_multi m _ _ (hm nm (List.mem_cons_self ..)))
    · exact i2 m (fun nm' hnm' => hm nm' (List.mem_cons_of_mem _ hnm')) e he

theorem dot_inbox : ∀ (ns : List Nat) (vs : List Int), InBox ns vs →
    ∃ k : Nat, dotStrides (strides ns) vs = (k : Int) ∧ k < sizeProd ns ∧ flatIdx ns vs = some k := by
  intro ns vs h
  obtain ⟨k, hk⟩ := flatIdx_some_of_inrange ns vs h.length (inBox_iff_zip.mp h).2
  exact ⟨k, flatIdx_dot ns vs k hk, flatIdx_lt ns vs k hk, hk⟩

/-- the flat dof index of every argument -/
def flatVals : List ArgDesc → List (List Int) → List Int
  | a :: as, dvs :: dvss => dotStrides (strides (a.fs.map (·.2))) dvs :: flatVals as dvss
  | _, _ => []

theorem aCoordsTP_eq : ∀ (args : List ArgDesc) (lens : List Nat) (dvss : List (List Int)),
    aCoordsTP args lens dvss = aCoords args lens (flatVals args dvss)
  | [], _, _ => rfl
  | _ :: _, [], _ => rfl
  | _ :: _, _ :: _, [] => rfl
  | a :: as, n :: ns, _ :: dvss => congrArg (aCoord a n _ :: ·) (aCoordsTP_eq as ns dvss)

def TPDims (args : List ArgDesc) : Prop := ∀ a ∈ args, a.table.ndofs = sizeProd (a.fs.map (·.2))

theorem inBox_flatVals : ∀ (args : List ArgDesc) (dvss : List (List Int)), TPDims args →
    dvss.length = args.length → InBoxes args dvss →
    InBox (args.map (·.table.ndofs)) (flatVals args dvss)
  | [], _, _, _, _ => trivial
  | _ :: _, [], _, h, _ => by simp at h
  | a :: as, dvs :: dvss, htp, hl, hin => by
    simp only [InBoxes] at hin
    have i2 := inBox_flatVals as dvss (fun b hb => htp b (List.mem_cons_of_mem _ hb)) (Nat.succ.inj hl) hin.2
    obtain ⟨k, hk, hlt, _⟩ := dot_inbox _ _ hin.1
    refine ⟨?_, i2⟩
    show 0 ≤ _ ∧ _ < (a.table.ndofs : Int)
    rw [htp a (List.mem_cons_self ..), hk]
    omega

structure TpBlock (g : GroupDesc) (D : Nat) (b : BlockData) : Prop where
  tf : AllTF D b.args
  dims : TPDims b.args
  cov : coversB b.args g.bmLens g.aShape = true
  names : ∀ a ∈ b.args, ∀ f' ∈ a.fs, f'.1 ≠ aName

/-- **One term of a tensor-factorised group, one tuple of index values** (the counterpart of `block_term_sem`): it
    adds `fw · Π_r Π_d TF_{r,d}[…][q_d][i_{r,d}]` at the flat index of `aCoordsTP`. -/
theorem tp_term_sem (hlaw : LawfulExtra x) (g : GroupDesc) (b : BlockData) (o : BlockOut)
    (hinv : BlockInv g b o) (D : Nat) (hD : 2 ≤ D) (ms : List Nat) (hrule : g.rule.factors = some ms)
    (hms : ms.length = D) (hblk : TpBlock g D b) (hAiq : aName ∉ famSyms "iq" D)
    (hAfam : ∀ nm ∈ dofNames, aName ∉ famSyms nm D) (hfwA : mentionsE aName o.fw = false)
    (τ : St R) (qvs : List Int) (dvss : List (List Int))
    (hbq : BoundAll τ (famSyms "iq" D) qvs) (hb : BoundFam τ D dofNames dvss)
    (hl : dvss.length = b.args.length) (hin : InBoxes b.args dvss)
    (hok : ∀ a ∈ b.args, TpArgOk τ g.entityType qvs a) (hsfw : safeE τ o.fw = true) :
    TermAdds x aName (sizeProd g.aShape) τ (o.term.aterm g.aShape)
      (flatIdx g.aShape (aCoordsTP b.args g.bmLens dvss))
      (eval x τ o.fw * prodR (tpArgVals τ g.entityType qvs b.args dvss)) := by
  obtain ⟨_, haidx, hrank, facs, tabs, hfac, hrhs⟩ := hinv
  obtain ⟨htf, htp, hcov, hnA⟩ := hblk
  obtain ⟨hl1, hl2, hl3⟩ := coversB_lens _ _ _ hcov
  have hlen : b.args.length ≤ dofNames.length := by omega
  have hqi : quadIndex g.rule = { syms := famSyms "iq" D, sizes := ms } := by
    simp [quadIndex, hrule, famSyms, hms]
  rw [hqi] at hfac
  obtain ⟨f1, f2, f3⟩ := argFactors_sem_tp x g D hD (famSyms "iq" D) ms (famSyms_length _ _) τ qvs hbq
    b.args dofNames dvss facs tabs hfac htf hlen hl hb hok
  obtain ⟨a1, a2⟩ := aIndices_sem_tp D (by omega) τ b.args dofNames g.bmLens dvss htf hlen hl hl1 hb
  have r2 := inBox_flatVals b.args dvss htp hl hin
  obtain ⟨c1, c2⟩ := inBox_iff_zip.mp (coversB_inBox _ _ _ _ hcov r2)
  rw [← haidx] at a1 a2
  rw [← aCoordsTP_eq b.args g.bmLens dvss] at c1 c2
  obtain ⟨k, k1, k2, k3⟩ := evalI_mkMultiIndex τ.iv τ.ia o.term.aIdx g.aShape _ a1 c1 c2
  have hfacA : ∀ f ∈ facs, mentionsE aName f.toExpr = false :=
    f3 aName hAiq hAfam (fun a ha f' hf' => (hnA a ha f' hf').symm) (by decide +kernel) (by decide +kernel)
  refine ⟨?_, show safeE τ o.term.rhs = true from ?_, ⟨k, k1, k2, k3⟩, show eval x τ o.term.rhs = _ from ?_⟩
  · simp only [ATerm.noA, Term.aterm, Bool.and_eq_true, Bool.not_eq_true']
    refine ⟨mentions_mkMultiIndex aName _ _ (a2 aName hAfam), ?_⟩
    rw [hrhs]
    exact mentions_floatProductPy _ _ (List.forall_mem_cons.2 ⟨hfwA, hfacA⟩)
  · rw [hrhs]
    exact safe_floatProductPy _ _ (List.forall_mem_cons.2 ⟨hsfw, f2 hin⟩)
  · rw [hrhs, eval_floatProductPy hlaw]
    simp only [evalPy, prodR, MSym.toExpr, f1]

variable {A : String} {Pi Ps : String → Prop}

theorem tfVals_agree {σ τ : St R} (h : Agree A Pi Ps σ τ) (vp ve : Int) :
    ∀ (fs : List (String × Nat)) (qs ds : List Int), (∀ f ∈ fs, f.1 ≠ A) →
      tfVals τ vp ve fs qs ds = tfVals σ vp ve fs qs ds
  | [], _, _, _ => by simp [tfVals]
  | (f, n) :: fs, [], _, _ => by simp [tfVals]
  | (f, n) :: fs, _ :: _, [], _ => by simp [tfVals]
  | (f, n) :: fs, q :: qs, d :: ds, hn => by
    simp only [tfVals, tfVals_agree h vp ve fs qs ds (fun f' hf' => hn f' (List.mem_cons_of_mem _ hf'))]
    congr 1
    simp only [readArr, h.sa f (hn (f, n) (List.mem_cons_self ..))]

omit [Field R] in
theorem TfOk_agree {σ τ : St R} (h : Agree A Pi Ps σ τ) (vp ve : Int) :
    ∀ (fs : List (String × Nat)) (qs : List Int), (∀ f ∈ fs, f.1 ≠ A) →
      TfOk σ vp ve fs qs → TfOk τ vp ve fs qs
  | [], [], _, _ => trivial
  | [], _ :: _, _, h' => h'.elim
  | _ :: _, [], _, h' => h'.elim
  | (f, n) :: fs, q :: qs, hn, h' => by
    simp only [TfOk] at h' ⊢
    obtain ⟨⟨arr, harr, hfl⟩, hrest⟩ := h'
    exact ⟨⟨arr, by rw [h.sa f (hn (f, n) (List.mem_cons_self ..))]; exact harr, hfl⟩,
      TfOk_agree h vp ve fs qs (fun f' hf' => hn f' (List.mem_cons_of_mem _ hf')) hrest⟩

theorem tpArgVal_agree {σ τ : St R} (h : Agree A Pi Ps σ τ) (et : String) (qs : List Int) (a : ArgDesc)
    (ds : List Int) (hn : ∀ f ∈ a.fs, f.1 ≠ A) : tpArgVal τ et qs a ds = tpArgVal σ et qs a ds := by
  simp only [tpArgVal, (qpExpr_constSub a.table a.restriction).subVal_eq h.ia]
  cases he : entExpr et a.table a.restriction with
  | none => simp only [tfVals_agree h _ _ a.fs qs ds hn]
  | some e => simp only [(entExpr_constSub he).subVal_eq h.ia, tfVals_agree h _ _ a.fs qs ds hn]

theorem tpArgVals_agree {σ τ : St R} (h : Agree A Pi Ps σ τ) (et : String) (qs : List Int) :
    ∀ (args : List ArgDesc) (dvss : List (List Int)), (∀ a ∈ args, ∀ f ∈ a.fs, f.1 ≠ A) →
      tpArgVals τ et qs args dvss = tpArgVals σ et qs args dvss
  | [], _, _ => by simp [tpArgVals]
  | _ :: _, [], _ => by simp [tpArgVals]
  | a :: as, d :: ds, hn => by
    simp only [tpArgVals, tpArgVal_agree h et qs a d (hn a (List.mem_cons_self ..)),
      tpArgVals_agree h et qs as ds (fun b hb => hn b (List.mem_cons_of_mem _ hb))]

omit [Field R] in
theorem TpArgOk_agree {σ τ : St R} (h : Agree A Pi Ps σ τ) (et : String) (qs : List Int) (a : ArgDesc)
    (hn : ∀ f ∈ a.fs, f.1 ≠ A) (hok : TpArgOk σ et qs a) : TpArgOk τ et qs a := by
  rcases hok with hok | ⟨e, vp, ve, he, hvp, hve, htf⟩
  · exact Or.inl hok
  · refine Or.inr ⟨e, vp, ve, he, ?_, ?_, TfOk_agree h vp ve a.fs qs hn htf⟩
    · rw [h.ia, (qpExpr_constSub _ _).evalI_iv τ.iv σ.iv]; exact hvp
    · rw [h.ia, (entExpr_constSub he).evalI_iv τ.iv σ.iv]; exact hve

/-- `Σ_b [flat_b(dvss) = k] · fw_b · Π_r Π_d TF_{b,r,d}(q_d, i_{r,d})` over the blocks of a group -/
def tpLeafL (σ : St R) (et : String) (aShape lens : List Nat) (qs : List Int) (dvss : List (List Int))
    (k : Nat) : List BlockData → List Expr → R
  | b :: bs, fw :: fws =>
    (if flatIdx aShape (aCoordsTP b.args lens dvss) = some k
      then eval x σ fw * prodR (tpArgVals σ et qs b.args dvss) else 0) +
    tpLeafL σ et aShape lens qs dvss k bs fws
  | _, _ => 0

theorem tpLeafL_eq_lsum (σ : St R) (et : String) (aShape lens : List Nat) (qs : List Int)
    (dvss : List (List Int)) (k : Nat) (bs : List BlockData) (fws : List Expr) :
    tpLeafL x σ et aShape lens qs dvss k bs fws =
      IR.lsum (fun p : BlockData × Expr => if flatIdx aShape (aCoordsTP p.1.args lens dvss) = some k
        then eval x σ p.2 * prodR (tpArgVals σ et qs p.1.args dvss) else 0) (bs.zip fws) :=
  lsum_zip_of_rec (tpLeafL x σ et aShape lens qs dvss k) _ (fun _ _ _ _ => rfl) (fun _ => rfl) (fun _ _ => rfl)
    bs fws

/-- as in `PairOk`, `tab` and `fwS` are about the state `σ` in which the section starts; `fwD` has the shape
    `fw_frame` takes -/
structure TpOk (g : GroupDesc) (D : Nat) (σ : St R) (qvs : List Int) (b : BlockData) (o : BlockOut) : Prop
    extends TpBlock g D b where
  inv : BlockInv g b o
  fwA : mentionsE aName o.fw = false
  fwD : ∀ n, mentionsE n o.fw = true → n ∉ allFamSyms D
  tab : ∀ a ∈ b.args, TpArgOk σ g.entityType qvs a
  fwS : safeE σ o.fw = true

/-- **The innermost statement list of a tensor-factorised group** at one tuple of index values (the counterpart of
    `block_leaf`, with the same two states). -/
theorem tp_leaf (hlaw : LawfulExtra x) (g : GroupDesc) (D : Nat) (hD : 2 ≤ D) (ms : List Nat)
    (hrule : g.rule.factors = some ms) (hms : ms.length = D)
    (hAiq : aName ∉ famSyms "iq" D) (hAfam : ∀ nm ∈ dofNames, aName ∉ famSyms nm D)
    (σ τ : St R) (qvs : List Int) (dvss : List (List Int))
    (hag : Agree aName (fun n => n ∉ allFamSyms D) (fun _ => True) σ τ)
    (hbq : BoundAll τ (famSyms "iq" D) qvs) (hb : BoundFam τ D dofNames dvss)
    (bs : List BlockData) (os : List BlockOut) (hl : os.length = bs.length)
    (hp : ∀ p ∈ bs.zip os, TpOk g D σ qvs p.1 p.2)
    (hr : ∀ b ∈ bs, dvss.length = b.args.length ∧ InBoxes b.args dvss) :
    LeafAdds x aName (sizeProd g.aShape) (os.map (fun o => o.term.aterm g.aShape)) τ
      (fun k => tpLeafL x σ g.entityType g.aShape g.bmLens qvs dvss k bs (os.map (·.fw))) := by
  refine LeafAdds.of_zip x g.aShape (fun k => tpLeafL x σ g.entityType g.aShape g.bmLens qvs dvss k) _
    (fun _ _ _ _ _ => rfl) (fun _ => rfl) bs os hl fun p hp' => ⟨_, _, fun _ => rfl, ?_⟩
  have hpo := hp p hp'
  have hb' := hr p.1 (List.of_mem_zip hp').1
  obtain ⟨efw, sfw⟩ := fw_frame x hag p.2.fw hpo.fwA hpo.fwD
  have ht := tp_term_sem x hlaw g p.1 p.2 hpo.inv D hD ms hrule hms hpo.toTpBlock
    hAiq hAfam hpo.fwA τ qvs dvss hbq hb hb'.1 hb'.2
    (fun a ha => TpArgOk_agree hag g.entityType qvs a (hpo.names a ha) (hpo.tab a ha))
    (by rw [← sfw]; exact hpo.fwS)
  rwa [tpArgVals_agree hag g.entityType qvs p.1.args dvss hpo.names, ← efw] at ht

end Ffcx.Codegen
