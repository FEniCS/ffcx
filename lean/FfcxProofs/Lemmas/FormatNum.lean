/-
C16 — number printing at the value level: powers, round-to-nearest, the decimal exponent
(`decExp_spec`), rounding to `p` significant digits (`roundSig_close`), the binary exponent
(`binExp_spec`) and rounding to binary64 (`round64_of_close`).
-/
import FfcxModel.LNodes.FormatC
namespace Ffcx.LNodes.Fmt

theorem mul_den_eq_num (x : Rat) : x * (x.den : Rat) = (x.num : Rat) := by
  have h := Rat.num_divInt_den x
  rw [Rat.divInt_eq_div] at h
  exact (congrArg (· * (x.den : Rat)) h.symm).trans
    (Rat.div_mul_cancel (Rat.ne_of_gt (Rat.natCast_pos.2 x.den_pos)))

/-- the sign-split definition of an integer power of a natural base is core's `zpow` -/
theorem natPow_zpow (b : Nat) (e : Int) :
    (if 0 ≤ e then ((b ^ e.toNat : Nat) : Rat) else 1 / ((b ^ (-e).toNat : Nat) : Rat)) = (b : Rat) ^ e := by
  split
  · rename_i h
    rw [Rat.natCast_pow, ← Rat.zpow_natCast, Int.toNat_of_nonneg h]
  · rename_i h
    rw [Rat.natCast_pow, ← Rat.zpow_natCast,
      Int.toNat_of_nonneg (Int.neg_nonneg_of_nonpos (Int.le_of_lt (Int.not_le.1 h))), Rat.zpow_neg,
      Rat.div_def, Rat.one_mul, Rat.inv_inv]

theorem p10i_eq (e : Int) : p10i e = (10 : Rat) ^ e := natPow_zpow 10 e
theorem p2i_eq (e : Int) : p2i e = (2 : Rat) ^ e := natPow_zpow 2 e

theorem p10i_pos (e : Int) : 0 < p10i e := p10i_eq e ▸ Rat.zpow_pos (by decide)
theorem p2i_pos (e : Int) : 0 < p2i e := p2i_eq e ▸ Rat.zpow_pos (by decide)

theorem p10i_add (a b : Int) : p10i (a + b) = p10i a * p10i b := by
  simp only [p10i_eq]; exact Rat.zpow_add (by decide) a b
theorem p2i_add (a b : Int) : p2i (a + b) = p2i a * p2i b := by
  simp only [p2i_eq]; exact Rat.zpow_add (by decide) a b

theorem p10i_natCast (n : Nat) : p10i (n : Int) = p10 n := if_pos (Int.natCast_nonneg n)
theorem p2i_natCast (n : Nat) : p2i (n : Int) = p2 n := if_pos (Int.natCast_nonneg n)

theorem p10i_succ (e : Int) : p10i (e + 1) = 10 * p10i e := by
  rw [p10i_add, Rat.mul_comm]; rfl
theorem p2i_succ (e : Int) : p2i (e + 1) = 2 * p2i e := by
  rw [p2i_add, Rat.mul_comm]; rfl

theorem p2i_double (e : Int) : p2i (e + 1) = p2i e + p2i e := by
  rw [p2i_add, show p2i 1 = 1 + 1 by decide +kernel, Rat.mul_add, Rat.mul_one]

theorem p10i_neg (e : Int) : p10i (-e) * p10i e = 1 := by
  rw [← p10i_add, Int.add_left_neg]; rfl

theorem p10i_add_nat (e : Int) (n : Nat) : p10i (e + n) = p10i e * p10 n := by
  rw [p10i_add, p10i_natCast]
theorem p2i_add_nat (e : Int) (n : Nat) : p2i (e + n) = p2i e * p2 n := by
  rw [p2i_add, p2i_natCast]

theorem num_pos {x : Rat} (hx : 0 < x) : 0 < x.num := by
  have h := Rat.mul_pos hx (Rat.natCast_pos.2 x.den_pos)
  rw [mul_den_eq_num] at h
  exact Rat.intCast_pos.1 h

theorem natCast_toNat {z : Int} (h : 0 ≤ z) : ((z.toNat : Nat) : Rat) = (z : Rat) := by
  rw [← Rat.intCast_natCast, Int.toNat_of_nonneg h]

theorem sub_mul (a b c : Rat) : (a - b) * c = a * c - b * c := by
  rw [Rat.sub_eq_add_neg, Rat.add_mul, Rat.neg_mul, ← Rat.sub_eq_add_neg]

theorem p10_zero : p10 0 = 1 := rfl
theorem p10_succ (n : Nat) : p10 (n + 1) = 10 * p10 n := by
  rw [← p10i_natCast, ← p10i_natCast, Int.natCast_succ, p10i_succ]

theorem p2_zero : p2 0 = 1 := rfl
theorem p2_succ (n : Nat) : p2 (n + 1) = 2 * p2 n := by
  rw [← p2i_natCast, ← p2i_natCast, Int.natCast_succ, p2i_succ]
theorem p2_pos (n : Nat) : 0 < p2 n := p2i_natCast n ▸ p2i_pos n

theorem rne_cases (q : Rat) :
    (rne q = q.floor ∧ q - (q.floor : Rat) ≤ 1 / 2) ∨ (rne q = q.floor + 1 ∧ 1 / 2 ≤ q - (q.floor : Rat)) := by
  unfold rne
  simp only []
  split
  · rename_i h; exact .inl ⟨rfl, Rat.le_of_lt h⟩
  · rename_i h
    split
    · rename_i h'; exact .inr ⟨rfl, Rat.le_of_lt h'⟩
    · rename_i h'
      split
      · exact .inl ⟨rfl, Rat.not_lt.1 h'⟩
      · exact .inr ⟨rfl, Rat.not_lt.1 h⟩

theorem half_add_half_add (a : Rat) : 1 / 2 + (1 / 2 + a) = a + 1 := by
  rw [← Rat.add_assoc, Rat.add_comm, show (1 / 2 + 1 / 2 : Rat) = 1 by decide +kernel]

theorem sub_le_half_of_le {a b : Rat} (h : a ≤ b) : a - b ≤ 1 / 2 := by
  have h' := (Rat.add_le_add_right (c := b)).2 (show (0 : Rat) ≤ 1 / 2 by decide +kernel)
  rw [Rat.zero_add] at h'
  exact Rat.sub_right_le_iff_le_add.2 (Rat.le_trans h h')

theorem lt_add_one_of_close {a q b : Rat} (h1 : a - q ≤ 1 / 2) (h2 : q - b ≤ 1 / 2)
    (h : a - q < 1 / 2 ∨ q - b < 1 / 2) : a < b + 1 := by
  refine half_add_half_add b ▸ ?_
  rcases h with h | h
  · exact Std.lt_of_lt_of_le (Rat.sub_lt_iff.1 h) (Rat.add_le_add_left.2 (Rat.sub_right_le_iff_le_add.1 h2))
  · exact Std.lt_of_le_of_lt (Rat.sub_right_le_iff_le_add.1 h1) (Rat.add_lt_add_left.2 (Rat.sub_lt_iff.1 h))

theorem rne_close (q : Rat) : ((rne q : Int) : Rat) - q ≤ 1 / 2 ∧ q - ((rne q : Int) : Rat) ≤ 1 / 2 := by
  rcases rne_cases q with ⟨h, hr⟩ | ⟨h, hr⟩
  · rw [h]; exact ⟨sub_le_half_of_le (Rat.floor_le q), hr⟩
  · rw [h]
    refine ⟨?_, sub_le_half_of_le (Rat.le_of_lt (Rat.lt_floor_add_one q))⟩
    have := Rat.add_le_add_left (c := 1 / 2).2 (Rat.le_sub_iff.1 hr)
    rw [half_add_half_add] at this
    exact Rat.sub_right_le_iff_le_add.2 (Rat.intCast_add .. ▸ this)

theorem rne_unique (q : Rat) (n : Int) (h1 : q - (n : Rat) < 1 / 2) (h2 : (n : Rat) - q < 1 / 2) : rne q = n := by
  obtain ⟨c1, c2⟩ := rne_close q
  have a : ((rne q : Int) : Rat) < ((n + 1 : Int) : Rat) :=
    Rat.intCast_add .. ▸ lt_add_one_of_close c1 (Rat.le_of_lt h1) (.inr h1)
  have b : (n : Rat) < ((rne q + 1 : Int) : Rat) :=
    Rat.intCast_add .. ▸ lt_add_one_of_close (Rat.le_of_lt h2) c2 (.inl h2)
  exact Int.le_antisymm (Int.lt_add_one_iff.1 (Rat.intCast_lt_intCast.1 a))
    (Int.lt_add_one_iff.1 (Rat.intCast_lt_intCast.1 b))

theorem rne_nonneg {q : Rat} (hq : 0 ≤ q) : 0 ≤ rne q := by
  have hf : 0 ≤ q.floor := Rat.le_floor_iff.2 hq
  rcases rne_cases q with ⟨h, _⟩ | ⟨h, _⟩
  · exact h ▸ hf
  · exact h ▸ Int.le_add_one hf

theorem mul_p10i_lt_one (x : Rat) (j : Int) : x * p10i j < 1 ↔ x < p10i (-j) := by
  rw [← Rat.lt_div_iff (p10i_pos j), p10i_eq, p10i_eq, Rat.zpow_neg, Rat.div_def, Rat.one_mul]

theorem expUp_spec (x : Rat) : ∀ (fuel k : Nat) (pk : Rat), pk = p10i ((k : Int) + 1) → p10i k ≤ x →
    x < p10i (((k + fuel : Nat) : Int) + 1) →
    p10i (expUp x fuel k pk : Nat) ≤ x ∧ x < p10i ((expUp x fuel k pk : Nat) + 1) := by
  intro fuel
  induction fuel with
  | zero => intro k pk _ h1 h2; exact ⟨h1, h2⟩
  | succ f ih =>
    intro k pk hpk h1 h2
    unfold expUp
    split
    · rename_i hlt; exact ⟨h1, hpk ▸ hlt⟩
    · rename_i hge
      refine ih (k + 1) (10 * pk) (by rw [hpk, ← p10i_succ]; rfl) (hpk ▸ Rat.not_lt.1 hge) ?_
      rwa [Nat.add_right_comm, Nat.add_assoc]

theorem expDown_spec (x : Rat) : ∀ (fuel j : Nat) (xj : Rat), xj = x * p10i (j : Nat) → x < p10i (-(j : Nat) + 1) →
    p10i (-((j + fuel : Nat) : Int)) ≤ x →
    p10i (-(expDown x fuel j xj : Nat)) ≤ x ∧ x < p10i (-(expDown x fuel j xj : Nat) + 1) := by
  intro fuel
  induction fuel with
  | zero => intro j xj _ h2 h3; exact ⟨h3, h2⟩
  | succ f ih =>
    intro j xj hxj h2 h3
    unfold expDown
    split
    · rename_i hge
      exact ⟨Rat.not_lt.1 fun h => Rat.not_lt.2 (hxj ▸ hge) ((mul_p10i_lt_one x j).2 h), h2⟩
    · rename_i hlt
      refine ih (j + 1) (10 * xj) ?_ ?_ ?_
      · rw [hxj, Int.natCast_succ, p10i_succ, ← Rat.mul_assoc, Rat.mul_comm 10, Rat.mul_assoc]
      · rw [Int.natCast_succ, Int.neg_add, Int.neg_add_cancel_right]
        exact (mul_p10i_lt_one x j).1 (hxj ▸ Rat.not_le.1 hlt)
      · rwa [Nat.add_right_comm, Nat.add_assoc]

theorem natCast_lt_p10 (n : Nat) : (n : Rat) < p10 (n + 1) :=
  Rat.natCast_lt_natCast.2 (Nat.lt_of_lt_of_le (Nat.lt_pow_self (by decide))
    (Nat.pow_le_pow_right (by decide) (Nat.le_succ n)))

/-- `10^e ≤ x < 10^(e+1)` for `e = decExp x`; the fuel suffices since `x ≤ num < 10^(num+1)` and
    `x·10^(1+den) ≥ x·den = num ≥ 1` -/
theorem decExp_spec (x : Rat) (hx : 0 < x) : p10i (decExp x) ≤ x ∧ x < p10i (decExp x + 1) := by
  have hnd := mul_den_eq_num x
  have hnum := num_pos hx
  unfold decExp
  split
  · rename_i h1
    refine expUp_spec x x.num.toNat 0 10 (by decide +kernel) h1 ?_
    rw [Nat.zero_add, ← Int.natCast_succ, p10i_natCast]
    have hden : (1 : Rat) ≤ (x.den : Rat) := Rat.natCast_le_natCast.2 x.den_pos
    have hxle := Rat.mul_le_mul_of_nonneg_left hden (Rat.le_of_lt hx)
    rw [Rat.mul_one, hnd, ← natCast_toNat (Int.le_of_lt hnum)] at hxle
    exact Std.lt_of_le_of_lt hxle (natCast_lt_p10 _)
  · rename_i h1
    refine expDown_spec x x.den 1 (10 * x) (Rat.mul_comm _ _) (Rat.not_le.1 h1) (Rat.not_lt.1 fun h => ?_)
    have h2 := (mul_p10i_lt_one x _).2 h
    rw [p10i_natCast, Nat.add_comm] at h2
    have h3 := Rat.mul_le_mul_of_nonneg_left (Rat.le_of_lt (natCast_lt_p10 x.den)) (Rat.le_of_lt hx)
    rw [hnd] at h3
    have h4 : (1 : Rat) ≤ (x.num : Rat) := Rat.intCast_le_intCast.2 hnum
    exact Rat.lt_irrefl (Std.lt_of_le_of_lt (Rat.le_trans h4 h3) h2)

theorem roundSig_val (p : Nat) (hp : 1 ≤ p) (x : Rat) :
    (roundSig p x).val = (((rne (x * p10i ((p : Int) - 1 - decExp x))).toNat : Nat) : Rat)
      * p10i (decExp x - ((p : Int) - 1)) := by
  unfold roundSig
  simp only []
  split
  · rename_i hm
    simp only [Dec.val]
    rw [hm, p10i_succ]
    obtain ⟨p', rfl⟩ : ∃ p', p = p' + 1 := ⟨p - 1, (Nat.sub_add_cancel hp).symm⟩
    simp only [Nat.add_sub_cancel, Nat.pow_succ, Rat.natCast_mul]
    exact (Rat.mul_assoc _ _ _).symm
  · rfl

theorem roundSig_close (p : Nat) (hp : 1 ≤ p) (x : Rat) (hx : 0 < x) :
    (roundSig p x).val - x ≤ 1 / 2 * p10i (decExp x - ((p : Int) - 1))
    ∧ x - (roundSig p x).val ≤ 1 / 2 * p10i (decExp x - ((p : Int) - 1)) := by
  rw [roundSig_val p hp x]
  generalize hk : decExp x - ((p : Int) - 1) = k
  have hs : (p : Int) - 1 - decExp x = -k := by omega
  rw [hs]
  have hsu := p10i_neg k
  have hu := p10i_pos k
  have hs' := p10i_pos (-k)
  generalize hq : x * p10i (-k) = q
  have hq0 : 0 ≤ q := by rw [← hq]; exact Rat.le_of_lt (Rat.mul_pos hx hs')
  have hm := natCast_toNat (rne_nonneg hq0)
  rw [hm]
  have hx' : x = q * p10i k := by
    rw [← hq, Rat.mul_assoc, hsu, Rat.mul_one]
  obtain ⟨c1, c2⟩ := rne_close q
  have d1 := Rat.mul_le_mul_of_nonneg_right c1 (Rat.le_of_lt hu)
  have d2 := Rat.mul_le_mul_of_nonneg_right c2 (Rat.le_of_lt hu)
  rw [sub_mul] at d1 d2
  exact hx' ▸ ⟨d1, d2⟩

theorem p2i_mul_p2 {e : Int} {b a : Nat} (h : e + b = a) : p2i e * p2 b = p2 a := by
  rw [← p2i_add_nat, h, p2i_natCast]

theorem one_le_p2 (n : Nat) : 1 ≤ p2 n := Rat.natCast_le_natCast.2 Nat.one_le_two_pow

theorem p2i_mono {a b : Int} (h : a ≤ b) : p2i a ≤ p2i b := by
  obtain ⟨n, rfl⟩ : ∃ n : Nat, b = a + n := ⟨(b - a).toNat, by omega⟩
  have := Rat.mul_le_mul_of_nonneg_left (one_le_p2 n) (Rat.le_of_lt (p2i_pos a))
  rwa [Rat.mul_one, ← p2i_add_nat] at this

/-- `2^e ≤ x < 2^(e+1)` for `e = binExp x`: with `a`, `b` the bit lengths of numerator and denominator,
    `2^a ≤ num < 2^(a+1)` and `2^b ≤ den < 2^(b+1)` put `x` strictly between `2^(a-b-1)` and `2^(a-b+1)` -/
theorem binExp_spec (x : Rat) (hx : 0 < x) : p2i (binExp x) ≤ x ∧ x < p2i (binExp x + 1) := by
  have hnum := num_pos hx
  have n1 : p2 _ ≤ ((x.num.toNat : Nat) : Rat) :=
    Rat.natCast_le_natCast.2 (Nat.log2_self_le (Nat.ne_of_gt (Int.pos_iff_toNat_pos.1 hnum)))
  have n2 : ((x.num.toNat : Nat) : Rat) < p2 _ := Rat.natCast_lt_natCast.2 Nat.lt_log2_self
  have d1 : p2 _ ≤ (x.den : Rat) := Rat.natCast_le_natCast.2 (Nat.log2_self_le x.den_nz)
  have d2 : (x.den : Rat) < p2 _ := Rat.natCast_lt_natCast.2 Nat.lt_log2_self
  rw [natCast_toNat (Int.le_of_lt hnum), ← mul_den_eq_num x] at n1 n2
  unfold binExp
  generalize x.num.toNat.log2 = a at n1 n2 ⊢
  generalize x.den.log2 = b at d1 d2 ⊢
  have hup : x < p2i ((a : Int) - b + 1) := by
    refine Rat.lt_of_mul_lt_mul_right (c := p2 b) ?_ (Rat.le_of_lt (p2_pos b))
    rw [p2i_mul_p2 (a := a + 1) (by omega)]
    exact Std.lt_of_le_of_lt (Rat.mul_le_mul_of_nonneg_left d1 (Rat.le_of_lt hx)) n2
  have hlo : p2i ((a : Int) - b - 1) < x := by
    refine Rat.lt_of_mul_lt_mul_right (c := p2 (b + 1)) ?_ (Rat.le_of_lt (p2_pos _))
    rw [p2i_mul_p2 (a := a) (by omega)]
    exact Std.lt_of_le_of_lt n1 (Rat.mul_lt_mul_of_pos_left d2 hx)
  simp only []
  split
  · rename_i h; exact ⟨h, hup⟩
  · rename_i h; exact ⟨Rat.le_of_lt hlo, by rw [Int.sub_add_cancel]; exact Rat.not_le.1 h⟩

theorem binExp_unique (v : Rat) (k : Int) (h1 : p2i k ≤ v) (h2 : v < p2i (k + 1)) : binExp v = k := by
  obtain ⟨s1, s2⟩ := binExp_spec v (Std.lt_of_lt_of_le (p2i_pos k) h1)
  -- two binades that share a point coincide
  have a : ¬ binExp v + 1 ≤ k := fun h =>
    Rat.lt_irrefl (Std.lt_of_lt_of_le s2 (Rat.le_trans (p2i_mono h) h1))
  have b : ¬ k + 1 ≤ binExp v := fun h =>
    Rat.lt_irrefl (Std.lt_of_lt_of_le h2 (Rat.le_trans (p2i_mono h) s1))
  exact Int.le_antisymm (Int.not_lt.1 b) (Int.not_lt.1 a)

theorem round64_pos (v : Rat) (hv : 0 < v) :
    round64 v = ((rne (v / p2i ((if binExp v < -1022 then -1022 else binExp v) - 52)) : Int) : Rat)
      * p2i ((if binExp v < -1022 then -1022 else binExp v) - 52) := by
  simp only [round64, if_neg (Rat.ne_of_gt hv), if_neg (Rat.not_lt.2 (Rat.le_of_lt hv))]

/-- if `v` lies in the binade `[2^k, 2^(k+1))` and within half a step of the point `n·g` of that binade's
    grid (the subnormal grid below `2^-1022`), `round64 v` is that point. The grid exponent is the
    variable `e`, tied to `k` by `he`: `round64` computes it as `if k < -1022 then -1022 else k`, and
    each caller knows which branch it is in (`e = k` in a normal binade, `e = k + 1 = -1022` for the
    binade just below the lowest normal one), so it states the grid in its own terms and no `if`
    enters `h1`, `h2` or the conclusion. -/
theorem round64_of_close (v : Rat) (k : Int) (hlo : p2i k ≤ v) (hhi : v < p2i (k + 1))
    (e : Int) (he : (if k < -1022 then -1022 else k) = e)
    (n : Int) (h1 : v - (n : Rat) * p2i (e - 52) < 1 / 2 * p2i (e - 52))
    (h2 : (n : Rat) * p2i (e - 52) - v < 1 / 2 * p2i (e - 52)) :
    round64 v = (n : Rat) * p2i (e - 52) := by
  have hv := Std.lt_of_lt_of_le (p2i_pos k) hlo
  have hg := p2i_pos (e - 52)
  rw [round64_pos v hv, binExp_unique v k hlo hhi, he]
  have hq := Rat.div_mul_cancel (a := v) (Rat.ne_of_gt hg)
  rw [← hq, ← sub_mul] at h1 h2
  rw [rne_unique _ n (Rat.lt_of_mul_lt_mul_right h1 (Rat.le_of_lt hg))
    (Rat.lt_of_mul_lt_mul_right h2 (Rat.le_of_lt hg))]

end Ffcx.LNodes.Fmt
