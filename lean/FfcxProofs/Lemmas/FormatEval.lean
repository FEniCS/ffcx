/-
C16 — the normal form has the same value: `evalI_norm` (integer evaluation), `int_eval` (an
integer-shaped expression evaluates to the cast of its integer value) and `norm_eval_all`
(`eval`/`evalB` of well-typed trees), over any field with a lawful literal embedding.
-/
import FfcxProofs.Lemmas.Fold
import FfcxModel.LNodes.ParseC
namespace Ffcx.LNodes.Fmt
open Lean.Grind
-- The cast `Int → R` in `eval` and in the statements below is the `intCast` field of
-- `Lean.Grind.Ring`, which core does not make an instance; without this line they do not elaborate.
attribute [local instance] Lean.Grind.Ring.intCast

/-- A map `h` that sends the node `.bin op` to `F` (with `L` its list companion) sends the left nest
    of a list to the left fold of the images: the one fact behind `eval`, `eraseC` and `erasePy` of
    `leftNest`. -/
theorem foldl_bin_hom {β : Type} (h : Expr → β) (L : List Expr → List β) (h0 : L [] = [])
    (hL : ∀ a as, L (a :: as) = h a :: L as) (op : BinOp) (F : β → β → β)
    (hop : ∀ a b, h (.bin op a b) = F (h a) (h b)) : ∀ (as : List Expr) (a : Expr),
    h (as.foldl (fun acc b => .bin op acc b) a) = (L as).foldl F (h a)
  | [], _ => by rw [h0]; rfl
  | b :: bs, a => by rw [List.foldl, foldl_bin_hom h L h0 hL op F hop bs, hop, hL]; rfl

section leftNestInt
variable (iv : AList Int) (ia : AList (Array Int)) (op : BinOp) (f : Int → Int → Int) (u : Int)
  (g : List Expr → Option Int)
  (hop : ∀ a b, evalI iv ia (.bin op a b)
    = (evalI iv ia a).bind fun p => (evalI iv ia b).bind fun q => some (f p q))
  (h0 : g [] = some u)
  (hg : ∀ e es, g (e :: es) = (evalI iv ia e).bind fun p => (g es).bind fun q => some (f p q))
  (hassoc : ∀ p q r, f (f p q) r = f p (f q r)) (hu : ∀ p, f p u = p)
include hop h0 hg hassoc hu

theorem evalI_foldl : ∀ (as : List Expr) (a : Expr),
    evalI iv ia (as.foldl (fun acc b => .bin op acc b) a)
      = (evalI iv ia a).bind fun p => (g as).bind fun q => some (f p q)
  | [], a => by
    rw [h0]
    show evalI iv ia a = _
    cases evalI iv ia a with
    | none => rfl
    | some p => exact congrArg some (hu p).symm
  | b :: bs, a => by
    rw [List.foldl, evalI_foldl bs (.bin op a b), hop, hg]
    cases evalI iv ia a with
    | none => rfl
    | some p =>
      cases evalI iv ia b with
      | none => rfl
      | some q =>
        cases g bs with
        | none => rfl
        | some r => exact congrArg some (hassoc p q r)

/-- The left-nested tree of an associative operation with unit `u` has the value of the n-ary node
    `g`, given by its two equations (`evalISum`, `evalIProd`). -/
theorem evalI_leftNest : ∀ l : List Expr, evalI iv ia (leftNest op u l) = g l
  | [] => h0.symm
  | a :: as => (evalI_foldl iv ia op f u g hop h0 hg hassoc hu as a).trans (hg a as).symm
end leftNestInt

theorem norm_litI (v : Int) : norm (.litI v) = if v < 0 then .neg (.litI (-v)) else .litI v := rfl

theorem evalI_normReal (iv ia) (re im : Rat) : evalI iv ia (normReal re im) = none := by
  unfold normReal; split <;> rfl

-- Here and below a node is unfolded by `show` (or by `rfl`/`exact` up to unfolding), not by the
-- equation lemmas of `norm`, `evalI`, `kindOf`: these are mutual over `Expr`/`List Expr`.
mutual
theorem evalI_norm (iv ia) : ∀ e : Expr, evalI iv ia (norm e) = evalI iv ia e
  | .litF re im true => by
    show (evalI iv ia (normReal re 0)).bind _ = none
    rw [evalI_normReal]; rfl
  | .litF re im false => evalI_normReal iv ia re im
  | .litI v => by
    rw [norm_litI]
    split
    · exact congrArg some (Int.neg_neg v)
    · rfl
  | .sym .. | .not _ | .call .. | .cond .. => rfl
  | .mi _ _ gi => evalI_norm iv ia gi
  | .neg a => congrArg (Option.map _) (evalI_norm iv ia a)
  | .bin op a b => by
    have key (f : Int → Int → Int) :
        ((evalI iv ia (norm a)).bind fun p => (evalI iv ia (norm b)).bind fun q => some (f p q))
          = (evalI iv ia a).bind fun p => (evalI iv ia b).bind fun q => some (f p q) := by
      rw [evalI_norm iv ia a, evalI_norm iv ia b]
    cases op
    case add => exact key (· + ·)
    case sub => exact key (· - ·)
    case mul => exact key (· * ·)
    all_goals rfl
  | .sum args => by
    show evalI iv ia (leftNest .add 0 (normL args)) = evalI.evalISum iv ia args
    rw [evalI_leftNest iv ia .add (· + ·) 0 (evalI.evalISum iv ia) (fun _ _ => rfl) rfl (fun _ _ => rfl)
      Int.add_assoc Int.add_zero, evalISum_norm iv ia args]
  | .prod args => by
    show evalI iv ia (leftNest .mul 1 (normL args)) = evalI.evalIProd iv ia args
    rw [evalI_leftNest iv ia .mul (· * ·) 1 (evalI.evalIProd iv ia) (fun _ _ => rfl) rfl (fun _ _ => rfl)
      Int.mul_assoc Int.mul_one, evalIProd_norm iv ia args]
  | .idx arr dt [] => rfl
  | .idx arr dt [i] => by
    show (ia.get arr).bind (fun a => (evalI iv ia (norm i)).bind _) = _
    rw [evalI_norm iv ia i]; rfl
  | .idx arr dt (_ :: _ :: _) => rfl
theorem evalIs_norm (iv ia) : ∀ l : List Expr, evalIs iv ia (normL l) = evalIs iv ia l
  | [] => rfl
  | a :: as => by
    show evalIs iv ia (norm a :: normL as) = _
    rw [evalIs, evalIs, evalI_norm iv ia a, evalIs_norm iv ia as]
theorem evalISum_norm (iv ia) : ∀ l : List Expr, evalI.evalISum iv ia (normL l) = evalI.evalISum iv ia l
  | [] => rfl
  | a :: as => by
    show evalI.evalISum iv ia (norm a :: normL as) = _
    rw [evalI.evalISum, evalI.evalISum, evalI_norm iv ia a, evalISum_norm iv ia as]
theorem evalIProd_norm (iv ia) : ∀ l : List Expr, evalI.evalIProd iv ia (normL l) = evalI.evalIProd iv ia l
  | [] => rfl
  | a :: as => by
    show evalI.evalIProd iv ia (norm a :: normL as) = _
    rw [evalI.evalIProd, evalI.evalIProd, evalI_norm iv ia a, evalIProd_norm iv ia as]
end

variable {R : Type} [Field R] {x : Extra R}

mutual
/-- the shape of a `MultiIndex.global_index`: integer literals and symbols under `- + * Σ Π` -/
def intE : Expr → Bool
  | .litI _ => true
  | .sym _ dt => dt == .int
  | .neg a => intE a
  | .bin op a b => (op == .add || op == .sub || op == .mul) && intE a && intE b
  | .sum args => intEL args
  | .prod args => intEL args
  | _ => false
def intEL : List Expr → Bool
  | [] => true
  | a :: as => intE a && intEL as
end

theorem cast_bind2 {f : Int → Int → Int} {F : R → R → R}
    (hF : ∀ p q, (IntCast.intCast (f p q) : R) = F (IntCast.intCast p) (IntCast.intCast q))
    {a b : Option Int} {v : Int} {ra rb : R} (ha : ∀ p, a = some p → ra = IntCast.intCast p)
    (hb : ∀ q, b = some q → rb = IntCast.intCast q)
    (h : (a.bind fun p => b.bind fun q => some (f p q)) = some v) : F ra rb = IntCast.intCast v := by
  cases a with
  | none => cases h
  | some p =>
    cases b with
    | none => cases h
    | some q => cases h; rw [ha p rfl, hb q rfl, hF]

mutual
theorem int_eval (σ : St R) : ∀ (e : Expr) (v : Int), intE e = true → evalI σ.iv σ.ia e = some v →
    eval x σ e = IntCast.intCast v
  | .litI w => by intro v _ h; cases h; rfl
  | .sym n dt => fun v hi h =>
    (if_pos hi).trans (congrArg (fun o => IntCast.intCast (o.getD 0)) h)
  | .neg a => by
    intro v hi h
    obtain ⟨w, hw, rfl⟩ := Option.map_eq_some_iff.1 h
    exact (congrArg Neg.neg (int_eval σ a w hi hw)).trans (Ring.intCast_neg w).symm
  | .bin op a b => by
    intro v hi h
    obtain ⟨hi, hb⟩ := Bool.and_eq_true_iff.1 hi
    have ha := (Bool.and_eq_true_iff.1 hi).2
    cases op
    case add => exact cast_bind2 Ring.intCast_add (int_eval σ a · ha) (int_eval σ b · hb) h
    case sub => exact cast_bind2 Ring.intCast_sub (int_eval σ a · ha) (int_eval σ b · hb) h
    case mul => exact cast_bind2 Ring.intCast_mul (int_eval σ a · ha) (int_eval σ b · hb) h
    all_goals cases h
  | .sum args => fun v hi h => (eval_sum σ args).trans (int_sum σ args v hi h)
  | .prod args => fun v hi h => (eval_prod σ args).trans (int_prod σ args v hi h)
  | .litF .. | .mi .. | .not _ | .call .. | .idx .. | .cond .. => by intro _ hi; cases hi
theorem int_sum (σ : St R) : ∀ (l : List Expr) (v : Int), intEL l = true → evalI.evalISum σ.iv σ.ia l = some v →
    sumR (evalL x σ l) = IntCast.intCast v
  | [], v, _, h => by cases h; exact Ring.intCast_zero.symm
  | a :: as, v, hi, h => by
    have hi := Bool.and_eq_true_iff.1 hi
    exact cast_bind2 Ring.intCast_add (int_eval σ a · hi.1) (int_sum σ as · hi.2) h
theorem int_prod (σ : St R) : ∀ (l : List Expr) (v : Int), intEL l = true → evalI.evalIProd σ.iv σ.ia l = some v →
    prodR (evalL x σ l) = IntCast.intCast v
  | [], v, _, h => by cases h; exact Ring.intCast_one.symm
  | a :: as, v, hi, h => by
    have hi := Bool.and_eq_true_iff.1 hi
    exact cast_bind2 Ring.intCast_mul (int_eval σ a · hi.1) (int_prod σ as · hi.2) h
end

mutual
/-- every `MultiIndex` in the tree carries an integer-shaped global index that evaluates in `σ` -/
def miOK (σ : St R) : Expr → Bool
  | .mi _ _ gi => intE gi && (evalI σ.iv σ.ia gi).isSome
  | .neg a => miOK σ a
  | .not a => miOK σ a
  | .bin _ a b => miOK σ a && miOK σ b
  | .sum args => miOKL σ args
  | .prod args => miOKL σ args
  | .call _ _ args => miOKL σ args
  | .idx _ _ args => miOKL σ args
  | .cond c t f => miOK σ c && miOK σ t && miOK σ f
  | _ => true
def miOKL (σ : St R) : List Expr → Bool
  | [] => true
  | a :: as => miOK σ a && miOKL σ as
end

theorem eval_normReal (hl : LawfulExtra x) (σ : St R) (re im : Rat) :
    eval x σ (normReal re im) = x.ofRat re im := by
  unfold normReal
  split
  · show - x.ofRat (-re) (-im) = _
    rw [← hl.ofRat_neg, Rat.neg_neg, Rat.neg_neg]
  · rfl

theorem eval_leftNest (σ : St R) (op : BinOp) (F : R → R → R)
    (hop : ∀ a b, eval x σ (.bin op a b) = F (eval x σ a) (eval x σ b)) (u : Int) : ∀ l : List Expr,
    eval x σ (leftNest op u l) = foldOp F (IntCast.intCast u) (evalL x σ l)
  | [] => rfl
  | a :: as => foldl_bin_hom (eval x σ) (evalL x σ) rfl (fun _ _ => rfl) op F hop as a

/-- a well-typed binary node: both operands have the kind its operator takes -/
theorem kindOf_bin (op : BinOp) (a b : Expr) : kindOf (.bin op a b) =
    if kindOf a == some (!(op.isArith || op.isCompare)) && kindOf b == some (!(op.isArith || op.isCompare))
    then some (!op.isArith) else none := by
  show (if op.isArith then _ else if op.isCompare then _ else _) = _
  cases op.isArith <;> cases op.isCompare <;> rfl

theorem eval_bin_congr (σ : St R) (op : BinOp) {a a' b b' : Expr}
    (ha : eval x σ a' = eval x σ a) (hb : eval x σ b' = eval x σ b)
    (hc : (op.isArith || op.isCompare) = false →
      evalB x σ a' = evalB x σ a ∧ evalB x σ b' = evalB x σ b) :
    eval x σ (.bin op a' b') = eval x σ (.bin op a b)
      ∧ evalB x σ (.bin op a' b') = evalB x σ (.bin op a b) := by
  cases op
  case and | or =>
    obtain ⟨h1, h2⟩ := hc rfl
    simp only [eval, evalB, h1, h2, and_self]
  all_goals simp only [eval, evalB, ha, hb, and_self]

/-- the imaginary unit: the value of the symbol `I` of `<complex.h>` -/
def ComplexI (x : Extra R) (σ : St R) : Prop :=
  ∀ re im, x.ofRat re im = x.ofRat re 0 + eval x σ (.sym "I" .scalar) * x.ofRat im 0

omit [Field R] in
mutual
theorem miOK_of_intE (σ : St R) : ∀ e : Expr, intE e = true → miOK σ e = true
  | .litI _ | .sym .. => fun _ => rfl
  | .neg a => miOK_of_intE σ a
  | .bin op a b => fun h => by
    obtain ⟨h, hb⟩ := Bool.and_eq_true_iff.1 h
    exact Bool.and_eq_true_iff.2 ⟨miOK_of_intE σ a (Bool.and_eq_true_iff.1 h).2, miOK_of_intE σ b hb⟩
  | .sum args | .prod args => miOKL_of_intEL σ args
  | .litF .. | .mi .. | .not _ | .call .. | .idx .. | .cond .. => fun h => by cases h
theorem miOKL_of_intEL (σ : St R) : ∀ l : List Expr, intEL l = true → miOKL σ l = true
  | [], _ => rfl
  | a :: as, h => by
    have h := Bool.and_eq_true_iff.1 h
    exact Bool.and_eq_true_iff.2 ⟨miOK_of_intE σ a h.1, miOKL_of_intEL σ as h.2⟩
end

/-- For a tree of kind `k` the value is kept, and for a condition also the truth value.
    By functional induction on `norm`. -/
theorem norm_eval_all (hl : LawfulExtra x) (σ : St R) (hI : ComplexI x σ) :
    (∀ (e : Expr) (k : Bool), miOK σ e = true → kindOf e = some k →
      eval x σ (norm e) = eval x σ e ∧ (k = true → evalB x σ (norm e) = evalB x σ e))
    ∧ (∀ l : List Expr, allArith l = true → miOKL σ l = true → evalL x σ (normL l) = evalL x σ l) := by
  apply norm.mutual_induct
  -- cases as `norm`'s clauses: litF complex, litF real, litI `v < 0`, litI otherwise, sym, mi, neg, not, bin,
  -- sum, prod, call, idx, cond; then `normL`: nil, cons
  · intro re im _ _ hk
    cases hk
    refine ⟨?_, nofun⟩
    show eval x σ (normReal re 0) + eval x σ (.sym "I" .scalar) * eval x σ (normReal im 0) = _
    rw [eval_normReal hl, eval_normReal hl]
    exact (hI re im).symm
  · intro re im _ _ hk
    cases hk
    exact ⟨eval_normReal hl σ re im, nofun⟩
  · intro v h _ _ hk
    cases hk
    refine ⟨?_, nofun⟩
    rw [norm_litI, if_pos h]
    exact (congrArg Neg.neg (Ring.intCast_neg v)).trans (AddCommGroup.neg_neg _)
  · intro v h _ _ hk
    cases hk
    refine ⟨?_, nofun⟩
    rw [norm_litI, if_neg h]
  · intro n dt _ _ _
    exact ⟨rfl, fun _ => rfl⟩
  · intro s z gi ih _ hm hk
    obtain ⟨hc, ⟨⟩⟩ := ite_eq_of_else_ne hk nofun
    obtain ⟨hi, hv⟩ := Bool.and_eq_true_iff.1 hm
    obtain ⟨v, hv⟩ := Option.isSome_iff_exists.1 hv
    refine ⟨?_, nofun⟩
    -- an integer-shaped expression contains no MultiIndex
    show eval x σ (norm gi) = IntCast.intCast ((evalI σ.iv σ.ia gi).getD 0)
    rw [(ih _ (miOK_of_intE σ gi hi) (eq_of_beq hc)).1, int_eval σ gi v hi hv, hv]
    rfl
  · intro a ih _ hm hk
    obtain ⟨hc, ⟨⟩⟩ := ite_eq_of_else_ne hk nofun
    exact ⟨congrArg Neg.neg (ih _ hm (eq_of_beq hc)).1, nofun⟩
  · intro a ih _ hm hk
    obtain ⟨hc, ⟨⟩⟩ := ite_eq_of_else_ne hk nofun
    have := (ih _ hm (eq_of_beq hc)).2 rfl
    exact ⟨congrArg (fun c => b2r (!c)) this, fun _ => congrArg (!·) this⟩
  · intro op a b iha ihb _ hm hk
    obtain ⟨hma, hmb⟩ := Bool.and_eq_true_iff.1 hm
    rw [kindOf_bin] at hk
    obtain ⟨hka, hkb⟩ := Bool.and_eq_true_iff.1 (ite_eq_of_else_ne hk nofun).1
    have iha := iha _ hma (eq_of_beq hka)
    have ihb := ihb _ hmb (eq_of_beq hkb)
    have := eval_bin_congr σ op iha.1 ihb.1
      fun h => ⟨iha.2 (congrArg (!·) h), ihb.2 (congrArg (!·) h)⟩
    exact ⟨this.1, fun _ => this.2⟩
  · intro args ih _ hm hk
    obtain ⟨hc, ⟨⟩⟩ := ite_eq_of_else_ne hk nofun
    refine ⟨?_, nofun⟩
    show eval x σ (leftNest .add 0 (normL args)) = foldOp (· + ·) _ (evalL x σ args)
    rw [eval_leftNest σ .add (· + ·) (fun _ _ => rfl), ih hc hm]
  · intro args ih _ hm hk
    obtain ⟨hc, ⟨⟩⟩ := ite_eq_of_else_ne hk nofun
    refine ⟨?_, nofun⟩
    show eval x σ (leftNest .mul 1 (normL args)) = foldOp (· * ·) _ (evalL x σ args)
    rw [eval_leftNest σ .mul (· * ·) (fun _ _ => rfl), ih hc hm]
  · intro f dt args ih _ hm hk
    obtain ⟨hc, ⟨⟩⟩ := ite_eq_of_else_ne hk nofun
    exact ⟨congrArg (x.fn f) (ih hc hm), nofun⟩
  · intro arr dt ix _ _ _ hk
    obtain ⟨-, ⟨⟩⟩ := ite_eq_of_else_ne hk nofun
    refine ⟨?_, nofun⟩
    have h1 : evalI σ.iv σ.ia (.idx arr dt (normL ix)) = _ := evalI_norm σ.iv σ.ia (.idx arr dt ix)
    show (if dt == .int then IntCast.intCast ((evalI σ.iv σ.ia (.idx arr dt (normL ix))).getD 0)
      else readArr σ arr ((evalIs σ.iv σ.ia (normL ix)).getD [])) = _
    rw [h1, evalIs_norm]
    rfl
  · intro c t f ihc iht ihf _ hm hk
    obtain ⟨hc, ⟨⟩⟩ := ite_eq_of_else_ne hk nofun
    rw [Bool.and_eq_true, Bool.and_eq_true, beq_iff_eq, beq_iff_eq, beq_iff_eq] at hc
    obtain ⟨hm, hmf⟩ := Bool.and_eq_true_iff.1 hm
    obtain ⟨hmc, hmt⟩ := Bool.and_eq_true_iff.1 hm
    refine ⟨?_, nofun⟩
    show (if evalB x σ (norm c) then eval x σ (norm t) else eval x σ (norm f)) = _
    rw [(ihc _ hmc hc.1.1).2 rfl, (iht _ hmt hc.1.2).1, (ihf _ hmf hc.2).1]
    rfl
  · intro _ _
    rfl
  · intro a as iha ihas hk hm
    obtain ⟨hka, hk⟩ := Bool.and_eq_true_iff.1 hk
    obtain ⟨hma, hm⟩ := Bool.and_eq_true_iff.1 hm
    show eval x σ (norm a) :: evalL x σ (normL as) = eval x σ a :: evalL x σ as
    rw [(iha _ hma (eq_of_beq hka)).1, ihas hk hm]

theorem normL_evalL (hl : LawfulExtra x) (σ : St R) (hI : ComplexI x σ) : ∀ l : List Expr,
    allArith l = true → miOKL σ l = true → evalL x σ (normL l) = evalL x σ l :=
  (norm_eval_all hl σ hI).2

/-- What `norm` does — left-nesting n-ary sums/products (C's left-to-right evaluation of the text),
    splitting the sign off negative literals, expanding complex literals as `re + I*im`, replacing
    a MultiIndex by its global index — does not change the value. `norm_eval` (C16.lean), where the
    hypotheses are explained, is this with `WT` unpacked. -/
theorem norm_eval_of_kind (hl : LawfulExtra x) (σ : St R) (hI : ComplexI x σ) (e : Expr)
    (hk : (kindOf e).isSome = true) (hm : miOK σ e = true) : eval x σ (norm e) = eval x σ e := by
  obtain ⟨k, hk⟩ := Option.isSome_iff_exists.1 hk
  exact ((norm_eval_all hl σ hI).1 e k hm hk).1

end Ffcx.LNodes.Fmt
