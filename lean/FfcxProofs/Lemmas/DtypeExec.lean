/-
C09 soundness of the dtype discipline — statements.

`dtype_sound_stmt`: for a certified statement run in a store satisfying `RealStore Γ`, the
semantics with conversions `execG ρ` (any `ρ` fixing the reals) coincides with `exec`, and the
final store again satisfies `RealStore Γ` (`SameRun`, Lemmas/ExecSim).  `execG ρ` has the control
structure of `exec` (`interp_execG`), so `exec_same` leaves only the four storing statements
(`leaf_sound`).
-/
import FfcxProofs.Lemmas.DtypeEval
import FfcxProofs.Lemmas.ExecSim

namespace Ffcx.LNodes

variable {R : Type}

variable [Add R] [Sub R] [Mul R] [Div R] [Neg R] [IntCast R]

theorem tyLe_spec {e : Expr} {t : DType} (h : tyLe e t = true) :
    ∃ d, tyOf e = some d ∧ d.leB t = true := by
  unfold tyLe at h
  cases hd : tyOf e with
  | none => rw [hd] at h; cases h
  | some d => exact ⟨d, rfl, by rwa [hd] at h⟩

variable (C : ComplexLike R) (x : Extra R) (hx : LawfulComplexExtra C x) {Γ : DEnv}

include hx in
theorem tyLe_real {σ : St R} (hσ : RealStore C Γ σ) {e : Expr} {t : DType}
    (hc : certE true Γ e = true) (hle : tyLe e t = true) (ht : t.isRealTy = true) :
    C.IsReal (eval x σ e) := by
  obtain ⟨d, hd, hl⟩ := tyLe_spec hle
  exact tyOf_real C x hx hσ e d hc hd (isRealTy_of_leB hl ht)

include hx in
theorem initLe_real {σ : St R} (hσ : RealStore C Γ σ) {dt : DType} (ht : dt.isRealTy = true) :
    ∀ (es : List Expr), certEL true Γ es = true → initLe true dt es = true →
      ∀ v, v ∈ evalL x σ es → C.IsReal v
  | [], _, _, _, hv => nomatch hv
  | e :: es, hc, hi, v, hv => by
    have hc := Bool.and_eq_true_iff.1 hc
    have hi := Bool.and_eq_true_iff.1 hi
    rcases List.mem_cons.1 hv with rfl | hv
    · exact tyLe_real C x hx hσ hc.1 hi.1 ht
    · exact initLe_real hσ ht es hc.2 hi.2 v hv

/-- `store` applies the update function only to the current value of the target, which is real
    when the target is declared REAL/INT/BOOL.  So two update functions that agree on such a value
    store alike, and the invariant survives if the new value of such a target is real again. -/
theorem store_realStore {σ : St R} (hσ : RealStore C Γ σ) {lhs : Expr}
    (hc : certE true Γ lhs = true) {f g : R → R}
    (hfg : ∀ old, ((lhsDt lhs).isRealTy = true → C.IsReal old) →
      f old = g old ∧ ((lhsDt lhs).isRealTy = true → C.IsReal (g old))) :
    SameRun (RealStore C Γ) (store x σ lhs f) (store x σ lhs g) := by
  cases lhs
  case sym n dt =>
    simp only [certE, beq_iff_eq] at hc
    refine .ite (.error _) ?_
    cases hv : σ.sv.get n with
    | none => exact .error _
    | some v =>
      obtain ⟨h1, h2⟩ := hfg v fun hd => hσ.sv n dt v hc hd hv
      simp only [h1]
      exact .ok (hσ.setSV hc h2)
  case idx arr dt ix =>
    simp only [certE, Bool.and_eq_true, beq_iff_eq] at hc
    refine .ite (.error _) ?_
    cases hr : resolve σ arr ix with
    | error e => exact .error _
    | ok p =>
      obtain ⟨a, k⟩ := p
      have hold := fun hd => hσ.sa arr dt a hc.1.1 hd (resolve_ok_get hr)
      obtain ⟨h1, h2⟩ := hfg _ fun hd => hold hd k
      simp only [h1]
      exact .ite (.error _) (.ok (hσ.setSA hc.1.1 fun hd =>
        setIfInBounds_of_all C.IsReal (h2 hd) (hold hd)))
  all_goals exact .error _

variable {ρ : R → R} (hρ : FixesReals C ρ)

include hρ in
theorem cv_eq {dt : DType} {v : R} (h : dt.isRealTy = true → C.IsReal v) : cv ρ dt v = v := by
  unfold cv
  split
  · cases beq_iff_eq.1 ‹_›
    exact hρ v (h rfl)
  · rfl

theorem interp_execG : Interp (execG ρ x) (execLG ρ x) where
  nil _ := by simp only [execLG]
  cons s _ σ := by simp only [execLG]; cases execG ρ x s σ <;> rfl
  comment _ _ := by simp only [execG]
  block _ _ := by simp only [execG]
  sect _ d _ _ _ _ σ := by simp only [execG]; cases execLG ρ x d σ <;> rfl
  loop _ _ _ _ _ := by simp only [execG]; rfl

theorem certS_closed : SubClosed (certS true Γ · = true) (certSL true Γ · = true) where
  cons h := by simpa only [certSL, Bool.and_eq_true] using h
  block h := by simpa only [certS] using h
  sect h := by simpa only [certS, Bool.and_eq_true] using h
  body h := by simp only [certS, Bool.and_eq_true] at h; exact h.2

include hx hρ

/-- `=` and `+=`: a certified right-hand side is evaluated alike with and without conversions, and
    the value stored into a REAL/INT/BOOL target is real (`u` combines it with the old value).
    `certS` has the same clause for `.assign` and `.addAssign`, so `hc` is also what `+=` supplies. -/
theorem assign_sound (u : R → R → R) (hu : ∀ a b, C.IsReal a → C.IsReal b → C.IsReal (u a b))
    {lhs rhs : Expr} {σ : St R} (hc : certS true Γ (.assign lhs rhs) = true)
    (hσ : RealStore C Γ σ) :
    SameRun (RealStore C Γ) (store x σ lhs fun old => cv ρ (lhsDt lhs) (u old (evalG ρ x σ rhs)))
      (store x σ lhs fun old => u old (eval x σ rhs)) := by
  simp only [certS, Bool.and_eq_true, Bool.not_true, Bool.false_or] at hc
  obtain ⟨⟨⟨_, hl⟩, hr⟩, hle⟩ := hc
  refine store_realStore C x hσ hl fun old hold => ?_
  have hnew := fun ht => hu _ _ (hold ht) (tyLe_real C x hx hσ hr hle ht)
  rw [(evalG_eq C x hx hσ hρ rhs hr).1]
  exact ⟨cv_eq C hρ hnew, hnew⟩

theorem leaf_sound {s : Stmt} (hl : Leaf s) (hc : certS true Γ s = true) (σ : St R)
    (hσ : RealStore C Γ σ) : SameRun (RealStore C Γ) (execG ρ x s σ) (exec x s σ) := by
  cases hl with
  | assign lhs rhs =>
    -- `execG` and `exec` on `=` unfold (by `rfl`) to `if safeE … then store … else .error …` with the
    -- update functions of `assign_sound` at `u := fun _ r => r`; on `+=` at `u := (· + ·)`
    exact .ite (assign_sound C x hx hρ (fun _ r => r) (fun _ _ _ h => h) hc hσ) (.error _)
  | addAssign lhs rhs =>
    exact .ite (assign_sound C x hx hρ (· + ·) (fun _ _ => C.isReal_add) hc hσ) (.error _)
  | vdecl n dt v =>
    simp only [certS, Bool.and_eq_true, Bool.not_true, Bool.false_or, beq_iff_eq] at hc
    obtain ⟨⟨hn, hv⟩, hle⟩ := hc
    have hval := fun ht => tyLe_real C x hx hσ hv hle ht
    have he := evalG_eq C x hx hσ hρ v hv
    refine .ite ?_ (.ite ?_ (.error _))
    · cases evalI σ.iv σ.ia v with
      | none => exact .error _
      | some k => exact .ok (hσ.setIV n k)
    · rw [he.1, he.2, cv_eq C hρ hval]
      exact .ok (hσ.setSV hn fun ht => ite_elim (fun _ => C.isReal_b2r _) fun _ => hval ht)
  | adecl n dt sizes c vals =>
    simp only [certS, Bool.and_eq_true, beq_iff_eq] at hc
    obtain ⟨⟨hn, hv⟩, hle⟩ := hc
    have hvals := fun ht => initLe_real C x hx hσ ht _ hv hle
    have hinit : initDataG ρ x σ dt (sizes.foldr (· * ·) 1) (vals.getD []) =
        initData x σ (sizes.foldr (· * ·) 1) (vals.getD []) := by
      unfold initDataG initData
      rw [evalLG_eq C x hx hσ hρ _ hv,
        map_fixes fun w hw => cv_eq C hρ fun ht => hvals ht w hw]
    refine .ite (.error _) ?_
    simp only [hinit]
    refine .ok (hσ.setSA hn fun ht =>
      getD_of_all C.IsReal (C.isReal_intCast 0) fun v hv => ?_)
    obtain ⟨i, rfl⟩ := Array.mem_ofFn.1 (Array.mem_toList_iff.1 hv)
    exact getD_of_all C.IsReal (C.isReal_intCast 0) (hvals ht) _

theorem dtype_sound_stmt (s : Stmt) (σ : St R) (hc : certS true Γ s = true) (hσ : RealStore C Γ σ) :
    SameRun (RealStore C Γ) (execG ρ x s σ) (exec x s σ) :=
  exec_same (interp_execG x) (interp_exec x) certS_closed
    (leaf_sound C x hx hρ) (fun _ _ v hσ => hσ.setIV _ v) s σ hc hσ

theorem dtype_sound_stmts (ss : List Stmt) (σ : St R) (hc : certSL true Γ ss = true)
    (hσ : RealStore C Γ σ) : SameRun (RealStore C Γ) (execLG ρ x ss σ) (execL x ss σ) := by
  simpa only [exec, execG] using
    dtype_sound_stmt C x hx hρ (.block ss) σ (by simpa only [certS] using hc) hσ

end Ffcx.LNodes
