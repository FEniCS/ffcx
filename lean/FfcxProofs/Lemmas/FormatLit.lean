/-
C16 — literals: `p + 1` significant digits read back exactly once `10^p > 2^53` (the classical argument,
`p = 16` for the 17 digits that are the last resort of the formatter's shortest-digits search):
`round64_near` is the binary side, including the power-of-two boundary and the lowest normal binade;
`literal_exact` compares the decimal grid with the binary one; `shortestFrom_spec`: the search ends
with a candidate that reads back or with the 17-digit rounding.
-/
import FfcxProofs.Lemmas.FormatNum
namespace Ffcx.LNodes.Fmt

theorem p2i_eq_mul (E : Int) : p2i E = p2 52 * p2i (E - 52) := by
  have := p2i_add (E - 52) 52
  rwa [Int.sub_add_cancel, Rat.mul_comm] at this

/-- the power of two `2^E` on the grid `u = 2^(E-52)` of its own binade and on the grid `u / 2` of the binade below -/
theorem p2_mul_grid (E : Int) : p2 52 * p2i (E - 52) = p2 53 * p2i (E - 1 - 52) := by
  have hg : p2i (E - 52) = 2 * p2i (E - 1 - 52) := by
    rw [← p2i_succ]; congr 1; omega
  rw [hg, p2_succ 52, ← Rat.mul_assoc, Rat.mul_comm (p2 52)]

theorem natCast_succ_mul (N : Nat) (u : Rat) : ((N + 1 : Nat) : Rat) * u = (N : Rat) * u + u := by
  rw [Rat.natCast_add, Rat.add_mul]
  exact congrArg _ (Rat.one_mul u)

theorem lt_add_of_sub_lt_half {a b c : Rat} (h : a - b < 1 / 2 * c) (hc : 0 < c) : a < b + c := by
  have h' := Std.lt_trans h (Rat.mul_lt_mul_of_pos_right (show (1 / 2 : Rat) < 1 by decide +kernel) hc)
  rw [Rat.one_mul] at h'
  exact Rat.add_comm b c ▸ Rat.sub_lt_iff.1 h'

theorem sub_lt_half_of_lt {a b c : Rat} (h : a < b) (hc : 0 < c) : a - b < 1 / 2 * c := by
  have h' := (Rat.add_lt_add_right (c := b)).2 (Rat.mul_pos (show (0 : Rat) < 1 / 2 by decide +kernel) hc)
  rw [Rat.zero_add] at h'
  exact Rat.sub_lt_iff.2 (Std.lt_trans h h')

/-- a value within half a unit `u = 2^(E-52)` of the binary64 number `x = M·u`, and within a quarter unit
    when `x` is a power of two (the binade below has the grid `u / 2`), rounds to `x` -/
theorem round64_near (M : Nat) (E : Int) (hM1 : 2 ^ 52 ≤ M) (hM2 : M < 2 ^ 53) (hE : -1022 ≤ E) (v : Rat)
    (h1 : v - (M : Rat) * p2i (E - 52) < 1 / 2 * p2i (E - 52))
    (h2 : (M : Rat) * p2i (E - 52) - v < 1 / 2 * p2i (E - 52))
    (h3 : M = 2 ^ 52 → (M : Rat) * p2i (E - 52) - v < 1 / 2 * p2i (E - 1 - 52)) :
    round64 v = (M : Rat) * p2i (E - 52) := by
  have hu := p2i_pos (E - 52)
  have hB := p2i_eq_mul E
  by_cases hc : p2i E ≤ v
  · refine round64_of_close v E hc ?_ E (if_neg (Int.not_lt.2 hE)) M h1 h2
    -- `v < x + u ≤ 2^(E+1)`
    have hT : ((M + 1 : Nat) : Rat) * p2i (E - 52) ≤ p2i (E + 1) := by
      rw [p2i_succ, hB, ← Rat.mul_assoc, ← p2_succ 52]
      exact Rat.mul_le_mul_of_nonneg_right (Rat.natCast_le_natCast.2 hM2) (Rat.le_of_lt hu)
    exact Std.lt_of_lt_of_le (lt_add_of_sub_lt_half h1 hu) (natCast_succ_mul M _ ▸ hT)
  · have hc := Rat.not_le.1 hc
    -- `x < v + u < 2^E + u`, so `M = 2^52` and `x = 2^E`
    have hM : M = 2 ^ 52 := by
      have hlt : (M : Rat) * p2i (E - 52) < ((2 ^ 52 + 1 : Nat) : Rat) * p2i (E - 52) := by
        rw [natCast_succ_mul]
        show _ < p2 52 * _ + _
        rw [← hB]
        exact Std.lt_trans (lt_add_of_sub_lt_half h2 hu) (Rat.add_lt_add_right.2 hc)
      exact Nat.le_antisymm (Nat.le_of_lt_succ (Rat.natCast_lt_natCast.1
        (Rat.lt_of_mul_lt_mul_right hlt (Rat.le_of_lt hu)))) hM1
    subst hM
    have h3 := h3 rfl
    have hx : ((2 ^ 52 : Nat) : Rat) * p2i (E - 52) = p2i E := hB.symm
    -- the binade below, with grid `g = u / 2`: `2^E < v + g ≤ v + 2^(E-1)`
    have hg0 := p2i_pos (E - 1 - 52)
    have hlo : p2i (E - 1) ≤ v := by
      have hgA := Rat.mul_le_mul_of_nonneg_right (one_le_p2 52) (Rat.le_of_lt hg0)
      rw [Rat.one_mul, ← p2i_eq_mul (E - 1)] at hgA
      have := Std.lt_of_lt_of_le (lt_add_of_sub_lt_half h3 hg0) (Rat.add_le_add_left.2 hgA)
      rw [hx, ← Int.sub_add_cancel E 1, p2i_double, Int.sub_add_cancel] at this
      exact Rat.le_of_lt (Rat.add_lt_add_right.1 this)
    have hhi : v < p2i (E - 1 + 1) := (Int.sub_add_cancel E 1).symm ▸ hc
    -- for `E = -1022` the binade below is subnormal and keeps the grid `u`: `h1`, `h2` suffice;
    -- otherwise its grid is `u / 2`, on which `x` is `2^53` steps, and `h3` is needed
    by_cases hs : E - 1 < -1022
    · exact round64_of_close v (E - 1) hlo hhi E (by rw [if_pos hs]; omega) (2 ^ 52 : Nat) h1 h2
    · have hx53 : (((2 ^ 53 : Nat) : Int) : Rat) * p2i (E - 1 - 52) = ((2 ^ 52 : Nat) : Rat) * p2i (E - 52) :=
        (p2_mul_grid E).symm
      rw [← hx53]
      refine round64_of_close v (E - 1) hlo hhi (E - 1) (if_neg hs) (2 ^ 53 : Nat) ?_ (hx53 ▸ h3)
      rw [hx53, hx]
      exact sub_lt_half_of_lt hc hg0

theorem litValue_pos (p : Nat) (x : Rat) (hx : 0 < x) : litValue p x = (roundSig p x).val := by
  rw [litValue, if_neg (Rat.ne_of_gt hx), if_neg (Rat.not_lt.2 (Rat.le_of_lt hx))]

/-- The decimal grid is finer than the binary one: with `P` the step of the decimal grid at `x`,
    `T = 10^p` (so that `P·T = 10^(decExp x) ≤ x`) and `x` being `N` steps of the binary grid `w`,
    `N < T` forces `P < w`. -/
theorem lt_of_mul_le_natCast_mul {P w : Rat} {N T : Nat} (hw : 0 < w) (h : P * (T : Rat) ≤ (N : Rat) * w)
    (hNT : N < T) : P < w := by
  have h1 := Std.lt_of_le_of_lt h (Rat.mul_lt_mul_of_pos_right (Rat.natCast_lt_natCast.2 hNT) hw)
  rw [Rat.mul_comm (T : Rat)] at h1
  exact Rat.lt_of_mul_lt_mul_right h1 Rat.natCast_nonneg

/-- if `x` is `N < 10^p` steps of a grid `w`, the decimal grid of `p + 1` digits at `x` is finer than `w`,
    so rounding to `p + 1` digits moves `x` by less than half a step -/
theorem roundSig_near_of_grid (p N : Nat) (hN : N < 10 ^ p) (x w : Rat) (hx : 0 < x) (hw : 0 < w)
    (hxw : x = (N : Rat) * w) :
    (roundSig (p + 1) x).val - x < 1 / 2 * w ∧ x - (roundSig (p + 1) x).val < 1 / 2 * w := by
  subst hxw
  obtain ⟨c2, c3⟩ := roundSig_close (p + 1) (Nat.le_add_left 1 p) _ hx
  rw [Int.natCast_succ, Int.add_sub_cancel] at c2 c3
  have hPT := p10i_add_nat (decExp ((N : Rat) * w) - p) p
  rw [Int.sub_add_cancel] at hPT
  have hh := Rat.mul_lt_mul_of_pos_left (lt_of_mul_le_natCast_mul hw (hPT ▸ (decExp_spec _ hx).1) hN)
    (show (0 : Rat) < 1 / 2 by decide +kernel)
  exact ⟨Std.lt_of_le_of_lt c2 hh, Std.lt_of_le_of_lt c3 hh⟩

/-- `p + 1` significant digits read back exactly as soon as `10^p > 2^53`: `x` is `M < 2^53` steps of its
    binade's grid, and a power of two is `2^53` steps of the grid of the binade below -/
theorem literal_exact (p : Nat) (hp : 2 ^ 53 < 10 ^ p) (M : Nat) (E : Int) (hM1 : 2 ^ 52 ≤ M) (hM2 : M < 2 ^ 53)
    (hE : -1022 ≤ E) :
    round64 (litValue (p + 1) ((M : Rat) * p2i (E - 52))) = (M : Rat) * p2i (E - 52) := by
  have hu := p2i_pos (E - 52)
  have hx : 0 < (M : Rat) * p2i (E - 52) :=
    Rat.mul_pos (Rat.natCast_pos.2 (Nat.lt_of_lt_of_le (Nat.two_pow_pos 52) hM1)) hu
  rw [litValue_pos _ _ hx]
  obtain ⟨a1, a2⟩ := roundSig_near_of_grid p M (Nat.lt_trans hM2 hp) _ _ hx hu rfl
  exact round64_near M E hM1 hM2 hE _ a1 a2 fun hM =>
    (roundSig_near_of_grid p (2 ^ 53) hp _ _ hx (p2i_pos _) (hM ▸ p2_mul_grid E)).2

theorem shortestFrom_spec (x : Rat) (e : Int) : ∀ fuel n,
    round64 (shortestFrom x e fuel n).1.val = x ∨ (shortestFrom x e fuel n).1 = roundSig 17 x := by
  intro fuel
  induction fuel with
  | zero => intro n; exact Or.inr rfl
  | succ f ih =>
    intro n
    unfold shortestFrom
    split
    · rename_i d tl heq
      have hm : d ∈ (candidates n x e).filter (fun d => d.m ≠ 0 ∧ round64 d.val = x) :=
        heq ▸ List.mem_cons_self
      exact .inl (of_decide_eq_true (List.mem_filter.1 hm).2).2
    · exact ih (n + 1)

theorem litValueR_pos (x : Rat) (hx : 0 < x) : litValueR x = (shortestFrom x (decExp x) 17 1).1.val := by
  rw [litValueR, if_neg (Rat.ne_of_gt hx), if_neg (Rat.not_lt.2 (Rat.le_of_lt hx))]

end Ffcx.LNodes.Fmt
