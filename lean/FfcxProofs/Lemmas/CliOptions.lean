/-
Lemmas for C20 about the Python `dict` model of FfcxModel/Cli/Options.lean: what `get` returns after `set` /
`update`, that both keep the keys duplicate free, and `rlookup` (the binding a dict keeps for a key).
-/
import FfcxModel.Cli.Options

namespace Ffcx.Cli

namespace Dict
variable {κ ν : Type} [DecidableEq κ]

theorem get_set (d : Dict κ ν) (x y : κ) (v : ν) :
    get (set d x v) y = if x = y then some v else get d y := by
  induction d with
  | nil => simp [set, get]
  | cons p m ih =>
    obtain ⟨k, w⟩ := p
    by_cases hk : k = x
    · subst hk
      by_cases hy : k = y <;> simp [set, get, hy]
    · by_cases hy : k = y
      · subst hy
        have : ¬ x = k := fun e => hk e.symm
        simp [set, get, hk, this]
      · simp [set, get, hk, hy, ih]

theorem rlookup_cons (k' : κ) (w : ν) (e : Dict κ ν) (k : κ) :
    rlookup ((k', w) :: e) k = (rlookup e k).or (if k' = k then some w else none) := by
  rw [rlookup]; cases rlookup e k <;> rfl

/-- After `d.update(e)`: the last binding of `k` in `e`, else what `d` had. -/
theorem get_update (d e : Dict κ ν) (k : κ) :
    get (update d e) k = (rlookup e k).or (get d k) := by
  induction e generalizing d with
  | nil => rfl
  | cons p e ih =>
    obtain ⟨k', v⟩ := p
    rw [show update d ((k', v) :: e) = update (set d k' v) e from rfl, ih, get_set, rlookup_cons]
    cases rlookup e k with
    | some w => rfl
    | none => by_cases h : k' = k <;> simp only [h, if_true, if_false, Option.none_or, Option.some_or]

/-- `d[x] = v` keeps the insertion order: an existing key stays where it is, a new one goes to the end. -/
theorem keys_set (d : Dict κ ν) (x : κ) (v : ν) :
    keys (set d x v) = if x ∈ keys d then keys d else keys d ++ [x] := by
  induction d with
  | nil => simp [set, keys]
  | cons p m ih =>
    obtain ⟨k, w⟩ := p
    by_cases hk : k = x
    · subst hk; simp [set, keys]
    · have hx : ¬ x = k := fun e => hk e.symm
      simp only [set, hk, ↓reduceIte, keys, List.map_cons, List.mem_cons, hx, false_or] at ih ⊢
      rw [ih]
      split <;> simp [*]

theorem nodup_set (d : Dict κ ν) (x : κ) (v : ν) (h : (keys d).Nodup) : (keys (set d x v)).Nodup := by
  rw [keys_set]
  split
  · exact h
  · rename_i hx
    exact List.nodup_append.mpr ⟨h, by simp, by
      intro a ha b hb
      simp only [List.mem_cons, List.not_mem_nil, or_false] at hb
      subst hb
      exact fun e => hx (e ▸ ha)⟩

theorem nodup_update (d e : Dict κ ν) (h : (keys d).Nodup) : (keys (update d e)).Nodup := by
  induction e generalizing d with
  | nil => exact h
  | cons p e ih => exact ih _ (nodup_set d p.1 p.2 h)

/-- In a dict (unique keys) membership of an item is `get`. -/
theorem mem_iff_get (d : Dict κ ν) (h : (keys d).Nodup) (k : κ) (v : ν) :
    (k, v) ∈ d ↔ get d k = some v := by
  induction d with
  | nil => simp [get]
  | cons p m ih =>
    obtain ⟨k', w⟩ := p
    simp only [keys, List.map_cons, List.nodup_cons, List.mem_map, not_exists, not_and] at h
    by_cases hk : k' = k
    · subst hk
      simp only [List.mem_cons, Prod.mk.injEq, true_and, get, ↓reduceIte, Option.some.injEq]
      constructor
      · rintro (h1 | h1)
        · exact h1.symm
        · exact absurd rfl (h.1 _ h1)
      · intro h1; exact Or.inl h1.symm
    · have hk' : ¬ k = k' := fun e => hk e.symm
      simp only [List.mem_cons, Prod.mk.injEq, hk', false_and, false_or, get, hk, ↓reduceIte]
      exact ih h.2

theorem rlookup_some_mem {e : Dict κ ν} {k : κ} {v : ν} (h : rlookup e k = some v) : (k, v) ∈ e := by
  induction e with
  | nil => cases h
  | cons p e ih =>
    obtain ⟨k', w⟩ := p
    rw [rlookup_cons, Option.or_eq_some_iff] at h
    rcases h with h | ⟨-, h⟩
    · exact List.mem_cons_of_mem _ (ih h)
    · by_cases hk : k' = k
      · rw [if_pos hk] at h; cases h; cases hk; exact List.mem_cons_self
      · rw [if_neg hk] at h; cases h

theorem rlookup_none_iff {e : Dict κ ν} {k : κ} : rlookup e k = none ↔ k ∉ keys e := by
  induction e with
  | nil => exact ⟨fun _ => List.not_mem_nil, fun _ => rfl⟩
  | cons p e ih =>
    obtain ⟨k', w⟩ := p
    rw [rlookup_cons, Option.or_eq_none_iff, ih]
    show _ ↔ k ∉ k' :: keys e
    rw [List.mem_cons, not_or, and_comm]
    refine and_congr_left' ?_
    by_cases hk : k' = k
    · rw [if_pos hk]; exact ⟨nofun, fun h => absurd hk.symm h⟩
    · rw [if_neg hk]; exact ⟨fun _ e => hk e.symm, fun _ => rfl⟩

end Dict
end Ffcx.Cli
