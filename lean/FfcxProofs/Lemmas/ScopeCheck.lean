/-
The block-scoping checker `scopedS` by itself (FfcxModel/LNodes/Scoped.lean): the use check `usesOkE` is a
search through the names of the expression (`usesOkE_eq_find`), induction over accepted statements
(`scoped_induction`), and what a successful check does to the scopes (`ScopeGrows`).
-/
import FfcxModel.LNodes.Scoped
import FfcxProofs.Lemmas.Threads

namespace Ffcx.LNodes

theorem declared_cons (f : List String) (rest : Scopes) (n : String) :
    declared (f :: rest) n = (f.contains n || declared rest n) := by
  simp [declared]

@[simp] theorem declared_nil_cons (rest : Scopes) (n : String) : declared ([] :: rest) n = declared rest n := by
  simp [declared]

theorem orElse_none {α} {a : Option α} {b : Unit → Option α} :
    a.orElse b = none ↔ a = none ∧ b () = none := by
  rw [Option.orElse_eq_or, Option.or_eq_none_iff]

mutual
theorem usesOkE_eq_find (sc : Scopes) : ∀ (e : Expr),
    usesOkE sc e = (namesE e).find? (fun n => !declared sc n)
  | .litF .. | .litI .. => rfl
  | .sym m dt => by
    simp only [usesOkE, namesE, List.find?_cons, List.find?_nil]
    cases declared sc m <;> rfl
  | .mi syms z gi => by
    simp only [usesOkE, namesE, List.find?_append, Option.orElse_eq_or, usesOkL_eq_find sc syms, usesOkE_eq_find sc gi]
  | .neg a | .not a => by simp only [usesOkE, namesE, usesOkE_eq_find sc a]
  | .bin op a b => by
    simp only [usesOkE, namesE, List.find?_append, Option.orElse_eq_or, usesOkE_eq_find sc a, usesOkE_eq_find sc b]
  | .sum args | .prod args | .call _ _ args => by simp only [usesOkE, namesE, usesOkL_eq_find sc args]
  | .idx arr dt ix => by
    simp only [usesOkE, namesE, List.find?_cons, usesOkL_eq_find sc ix]
    cases declared sc arr <;> rfl
  | .cond c t f => by
    simp only [usesOkE, namesE, List.find?_append, Option.orElse_eq_or, usesOkE_eq_find sc c, usesOkE_eq_find sc t,
      usesOkE_eq_find sc f, Option.or_assoc]
theorem usesOkL_eq_find (sc : Scopes) : ∀ (es : List Expr),
    usesOkL sc es = (namesEL es).find? (fun n => !declared sc n)
  | [] => rfl
  | e :: es => by
    simp only [usesOkL, namesEL, List.find?_append, Option.orElse_eq_or, usesOkE_eq_find sc e, usesOkL_eq_find sc es]
end

theorem usesOkE_none {sc : Scopes} {e : Expr} (h : usesOkE sc e = none) {n : String}
    (hm : mentionsE n e = true) : declared sc n = true := by
  rw [usesOkE_eq_find, List.find?_eq_none] at h
  simpa using h n ((mentionsE_iff e).1 hm)

theorem usesOkL_none {sc : Scopes} {es : List Expr} (h : usesOkL sc es = none) {n : String}
    (hm : mentionsL n es = true) : declared sc n = true := by
  rw [usesOkL_eq_find, List.find?_eq_none] at h
  simpa using h n ((mentionsL_iff es).1 hm)

theorem usesOkL_some {sc : Scopes} : ∀ (es : List Expr) (n : String), usesOkL sc es = some n →
    mentionsL n es = true ∧ declared sc n = false := by
  intro es n h
  rw [usesOkL_eq_find] at h
  exact ⟨(mentionsL_iff es).2 (List.mem_of_find?_eq_some h), by simpa using List.find?_some h⟩

theorem checkUse_ok {sc : Scopes} {r : Option String} {u : Unit} (h : checkUse sc r = .ok u) :
    r = none := by
  cases r
  · rfl
  · cases h

/-- Induction over accepted statements: one case per clause of `scopedS`, with what the clause checked
    as hypotheses.  A statement list is the `.block` of it (`scopedS`, `execB`, `exec`, `clobS` and
    `kindsS` all treat `.block ss` as they treat `ss`).  The checkers `scopedS` and `clobS` have one clause
    for `=` and `+=` (`kindsS` its catch-all), so the two share the case `assign`: `s` is either of them,
    and the lemmas about assignments (`execB_assign`, `exec_assign_overwrite`, `clob_leaf`, …) take `s`
    with the same disjunction. -/
@[elab_as_elim]
theorem scoped_induction {motive : Stmt → Scopes → Scopes → Prop}
    (assign : ∀ s l r sc, s = .assign l r ∨ s = .addAssign l r → usesOkE sc l = none →
      usesOkE sc r = none → motive s sc sc)
    (vdecl : ∀ n dt v sc sc', usesOkE sc v = none → declare sc n = .ok sc' →
      motive (.vdecl n dt v) sc sc')
    (adecl : ∀ n dt sizes c vals sc sc', usesOkL sc (vals.getD []) = none → declare sc n = .ok sc' →
      motive (.adecl n dt sizes c vals) sc sc')
    (forRange : ∀ i lo hi body sc scb, usesOkE sc lo = none → usesOkE sc hi = none →
      scopedL ([] :: [i] :: sc) body = .ok scb → motive (.block body) ([] :: [i] :: sc) scb →
      motive (.forRange i lo hi body) sc sc)
    (comment : ∀ t sc, motive (.comment t) sc sc)
    (sect : ∀ nm decls stmts inp out an sc sc1 sc2, scopedL sc decls = .ok sc1 →
      scopedL ([] :: sc1) stmts = .ok sc2 → motive (.block decls) sc sc1 →
      motive (.block stmts) ([] :: sc1) sc2 → motive (.sect nm decls stmts inp out an) sc sc1)
    (nil : ∀ sc, motive (.block []) sc sc)
    (cons : ∀ s ss sc sc1 sc', scopedS sc s = .ok sc1 → scopedL sc1 ss = .ok sc' → motive s sc sc1 →
      motive (.block ss) sc1 sc' → motive (.block (s :: ss)) sc sc') :
    ∀ (s : Stmt) (sc sc' : Scopes), scopedS sc s = .ok sc' → motive s sc sc'
  | .assign l r, sc, _, h | .addAssign l r, sc, _, h => by
    simp only [scopedS] at h
    split at h <;> cases h
    rename_i hu
    have hu := orElse_none.mp (checkUse_ok hu)
    exact assign _ l r sc (by simp) hu.1 hu.2
  | .vdecl n dt v, sc, sc', h => by
    simp only [scopedS] at h
    split at h
    · cases h
    · rename_i hu
      exact vdecl n dt v sc sc' (checkUse_ok hu) h
  | .adecl n dt sizes c vals, sc, sc', h => by
    simp only [scopedS] at h
    split at h
    · cases h
    · rename_i hu
      exact adecl n dt sizes c vals sc sc' (checkUse_ok hu) h
  | .forRange i lo hi body, sc, _, h => by
    simp only [scopedS] at h
    split at h
    · cases h
    · rename_i hu
      have hu := orElse_none.mp (checkUse_ok hu)
      split at h <;> cases h
      rename_i hb
      exact forRange i lo hi body sc _ hu.1 hu.2 hb (list body _ _ hb)
  | .comment t, sc, _, h => by cases h; exact comment t sc
  | .block ss, sc, sc', h => list ss sc sc' h
  | .sect nm decls stmts inp out an, sc, _, h => by
    simp only [scopedS] at h
    split at h
    · cases h
    · rename_i h1
      split at h <;> cases h
      rename_i h2
      exact sect nm decls stmts inp out an sc _ _ h1 h2 (list decls _ _ h1) (list stmts _ _ h2)
where
  list : ∀ (ss : List Stmt) (sc sc' : Scopes), scopedL sc ss = .ok sc' → motive (.block ss) sc sc'
  | [], sc, _, h => by cases h; exact nil sc
  | s :: ss, sc, sc', h => by
    simp only [scopedL] at h
    split at h
    · cases h
    · rename_i h1
      exact cons s ss sc _ sc' h1 h
        (scoped_induction assign vdecl adecl forRange comment sect nil cons s _ _ h1)
        (list ss _ _ h)

/-- What a successful check does to the scope stack: the enclosing scopes are untouched and the
    innermost one keeps its names.  Holds vacuously of the empty stack (there `declare` opens a first
    scope), which is why `ScopeGrows.inv` asks for `sc ≠ []`. -/
def ScopeGrows (sc sc' : Scopes) : Prop :=
  ∀ f rest, sc = f :: rest → ∃ f', sc' = f' :: rest ∧ ∀ m, m ∈ f → m ∈ f'

theorem ScopeGrows.refl (sc : Scopes) : ScopeGrows sc sc := fun f _ e => ⟨f, e, fun _ hm => hm⟩

theorem ScopeGrows.trans {a b c : Scopes} (h1 : ScopeGrows a b) (h2 : ScopeGrows b c) : ScopeGrows a c := by
  intro f rest e
  obtain ⟨f1, e1, hm1⟩ := h1 f rest e
  obtain ⟨f2, e2, hm2⟩ := h2 f1 rest e1
  exact ⟨f2, e2, fun m hm => hm2 m (hm1 m hm)⟩

theorem declare_shape {sc sc' : Scopes} {n : String} (h : declare sc n = .ok sc') :
    n ∉ sc.headD [] ∧ sc' = (n :: sc.headD []) :: sc.tail := by
  cases sc with
  | nil => cases h; exact ⟨List.not_mem_nil, rfl⟩
  | cons s rest =>
    simp only [declare] at h
    split at h <;> cases h
    rename_i hc
    exact ⟨by simpa using hc, rfl⟩

theorem declare_declared {sc sc' : Scopes} {n : String} (h : declare sc n = .ok sc') (m : String) :
    declared sc' m = true ↔ (m = n ∨ declared sc m = true) := by
  rw [(declare_shape h).2]
  cases sc <;> simp [declared, or_assoc]

theorem declare_grows {sc sc' : Scopes} {n : String} (h : declare sc n = .ok sc') : ScopeGrows sc sc' := by
  rintro f rest rfl
  exact ⟨n :: f, (declare_shape h).2, fun _ => List.mem_cons_of_mem _⟩

theorem scopedS_grows {s : Stmt} {sc sc' : Scopes} : scopedS sc s = .ok sc' → ScopeGrows sc sc' :=
  scoped_induction
    (fun _ _ _ sc _ _ _ => .refl sc) (fun _ _ _ _ _ _ => declare_grows)
    (fun _ _ _ _ _ _ _ _ => declare_grows) (fun _ _ _ _ sc _ _ _ _ _ => .refl sc) (fun _ sc => .refl sc)
    (fun _ _ _ _ _ _ _ _ _ _ _ ih _ => ih) .refl (fun _ _ _ _ _ _ _ => .trans) s sc sc'

theorem ScopeGrows.inv {sc sc' : Scopes} (h : ScopeGrows sc sc') (hne : sc ≠ []) :
    sc'.length = sc.length ∧ ∀ m, declared sc m = true → declared sc' m = true := by
  cases sc with
  | nil => exact absurd rfl hne
  | cons f rest =>
    obtain ⟨f', rfl, hf⟩ := h f rest rfl
    refine ⟨rfl, fun m hm => ?_⟩
    rw [declared_cons, Bool.or_eq_true, List.contains_iff_mem] at hm ⊢
    exact hm.imp_left (hf m)

end Ffcx.LNodes
