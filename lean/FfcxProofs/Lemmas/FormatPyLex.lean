/-
C16 — the Python lexer on rendered pieces. A piece list may hold line breaks (`pySepNL`: a
white-space piece is blank or the single line break `nlp`): if every token piece is well-shaped and
no two adjacent token pieces fuse, the flat lexer reads the rendered text back as the token pieces,
with a NEWLINE for every line break (`toksN`, `lex_render_nl`). Expression texts have no line
break (`pySeparated`) and are read back as exactly the token pieces (`lex_render_py`). Mirrors
FormatLex.lean up to `lex_render_nl`.
-/
import FfcxProofs.Lemmas.FormatLex
import FfcxProofs.Lemmas.FormatPyShape

namespace Ffcx.LNodes.Fmt

/-- blanks inside a Python expression text -/
def isPySpace (c : Char) : Bool := c == ' ' || c == '\t' || c == '\r'

theorem pySpace_isSpace {c : Char} (h : isPySpace c = true) : isSpace c = true := by
  simp only [isPySpace, Bool.or_eq_true] at h
  simp only [isSpace, Bool.or_eq_true]
  rcases h with (h | h) | h
  · exact Or.inl (Or.inl (Or.inl h))
  · exact Or.inl (Or.inr h)
  · exact Or.inr h

/-- blanks, the newline and `#` lie below the digits, letters and `_` -/
theorem py_not_blank {c : Char} (h : 48 ≤ c.toNat) :
    (c == ' ' || c == '\t' || c == '\r') = false ∧ (c == '\n') = false ∧ (c == '#') = false := by
  have hs := not_space h
  simp only [isSpace, Bool.or_eq_false_iff] at hs
  simp only [hs.1.1.1, hs.1.1.2, hs.1.2, hs.2, Bool.or_false, true_and]
  exact beq_of_toNat_ne (Nat.ne_of_gt (Nat.lt_of_lt_of_le (by decide) h))

theorem pyTransStart_idStart {c : Char} (h : isIdStart c = true) : pyTransStart c = ([], .ident [c]) := by
  obtain ⟨h1, h2, h3⟩ := py_not_blank (Nat.le_trans (by decide) (idStart_toNat h))
  simp only [pyTransStart, h1, h2, h3, h, Bool.false_eq_true, if_false, if_true]

theorem pyTransStart_digit {c : Char} (h : c.isDigit = true) : pyTransStart c = ([], .num [c]) := by
  obtain ⟨h1, h2, h3⟩ := py_not_blank (Char.isDigit_iff_toNat.1 h).1
  simp only [pyTransStart, h1, h2, h3, digit_not_idStart h, h, Bool.false_eq_true, if_false, if_true]

theorem pyTransStart_space {c : Char} (h : isPySpace c = true) : pyTransStart c = ([], .start) := by
  simp only [isPySpace] at h
  simp only [pyTransStart, h, if_true]

/-- the flat Python lexer as a `Lexer`. `pyFeed_eq` and `lexPyFlat_eq` lead from the model's own
    `pyFeed` and `lexPyFlat` to it; the lemmas of this file are stated through it. -/
def pyLexer : Lexer PLS := ⟨.start, pyTrans, pyFlush⟩

theorem pyLexer_step : pyLexer.step = pyTrans := rfl

theorem pyFeed_eq (st : PLS) (cs : List Char) : pyFeed st cs = pyLexer.feed st cs := by
  induction cs generalizing st with
  | nil => rfl
  | cons c cs ih =>
    show ((pyTrans st c).1 ++ (pyFeed (pyTrans st c).2 cs).1, (pyFeed (pyTrans st c).2 cs).2) = _
    rw [ih]; rfl

theorem lexPyFlat_eq (cs : List Char) : lexPyFlat cs = pyLexer.run .start cs := by
  rw [Lexer.run, ← pyFeed_eq]; rfl

/-- `pyLexer.after` as the model's `pyFeed` gives it (`pyStTok_eq`); `pySepTok` is written with it -/
def pyStTok (t : Tok) : PLS := (pyFeed .start t.text).2

theorem pyStTok_eq (t : Tok) : pyStTok t = pyLexer.after t := congrArg Prod.snd (pyFeed_eq _ _)

/-- the next character `c` does not extend the token pending in state `st`. (The `//` conjunct is
    stricter than `pyTrans` needs: the model lexer has no `//` operator, CPython has.) -/
def pySepChar : PLS → Char → Bool
  | .start, _ => true
  | .ident _, c => !isIdChar c
  | .num acc, c => !pyNumCont (acc.headD '0') c
  | .pend p, c => !(p == '/' && c == '/') && !(p == '.' && c.isDigit) && (pyPend2 p c).isNone
  | .comment, _ => false

theorem pyTrans_sep {st : PLS} {c : Char} (h : pySepChar st c = true) : pyLexer.Ends st c := by
  show pyTrans st c = (pyFlush st ++ (pyTransStart c).1, (pyTransStart c).2)
  cases st with
  | start => rfl
  | ident acc | num acc =>
    simp only [pySepChar, Bool.not_eq_true'] at h
    simp only [pyTrans, pyFlush, h, Bool.false_eq_true, if_false, List.singleton_append]
  | pend p =>
    simp only [pySepChar, Bool.and_eq_true, Bool.not_eq_true', Option.isNone_iff_eq_none] at h
    simp only [pyTrans, pyFlush, h.1.2, h.2, Bool.false_eq_true, if_false, List.singleton_append]
  | comment => cases h

/-- characters below `&` (blanks in particular) continue no token -/
theorem pySepChar_low {st : PLS} (hst : st ≠ .comment) {c : Char} (h : c.toNat < 38) :
    pySepChar st c = true := by
  obtain ⟨hdig, hal, ne⟩ := low_char h
  cases st with
  | start => rfl
  | ident acc => simp only [pySepChar, isIdChar, hal, ne '_' (by decide), Bool.or_false, Bool.not_false]
  | num acc =>
    simp only [pySepChar, pyNumCont, hdig, ne '_' (by decide), ne '.' (by decide), ne '+' (by decide),
      ne '-' (by decide), ne 'e' (by decide), ne 'E' (by decide), ne 'j' (by decide),
      ne 'J' (by decide), Bool.or_false, Bool.false_and, Bool.not_false]
  | pend p =>
    simp only [pySepChar, pyPend2, hdig, ne '/' (by decide), ne '=' (by decide), ne '>' (by decide),
      Bool.and_false, Bool.false_eq_true, if_false, Bool.not_false, Option.isNone_none, Bool.and_self]
  | comment => exact absurd rfl hst

theorem pyFeed_spaces {s : List Char} (hs : s.all isPySpace = true) : pyLexer.feed .start s = ([], .start) := by
  induction s with
  | nil => rfl
  | cons c s ih =>
    simp only [List.all_cons, Bool.and_eq_true] at hs
    rw [Lexer.feed_cons, pyLexer_step]
    simp only [pyTrans, pyTransStart_space hs.1, ih hs.2, List.nil_append]

theorem pyFeed_ident (cs acc : List Char) (h : cs.all isIdChar = true) :
    pyLexer.feed (.ident acc) cs = ([], .ident (cs.reverse ++ acc)) := by
  induction cs generalizing acc with
  | nil => rfl
  | cons c cs ih =>
    simp only [List.all_cons, Bool.and_eq_true] at h
    simp only [Lexer.feed_cons, pyLexer_step, pyTrans, h.1, if_true, ih _ h.2, List.nil_append,
      List.reverse_cons, List.append_assoc, List.singleton_append]

theorem pyFeed_num (cs acc : List Char) (h : pyNumContAll (acc.headD '0') cs = true) :
    pyLexer.feed (.num acc) cs = ([], .num (cs.reverse ++ acc)) := by
  induction cs generalizing acc with
  | nil => rfl
  | cons c cs ih =>
    simp only [pyNumContAll, Bool.and_eq_true] at h
    simp only [Lexer.feed_cons, pyLexer_step, pyTrans, h.1, if_true, ih (c :: acc) h.2, List.nil_append,
      List.reverse_cons, List.append_assoc, List.singleton_append]

/-- punctuators that are Python tokens -/
def pyPunctOK : P → Bool
  | .quest | .andand | .oror | .bang | .incr | .decr | .amp | .bar => false
  | _ => true

/-- a token piece is well-shaped: an identifier is an identifier, a number text is one NUMBER
    ending in a digit or `j`, a punctuator is a Python punctuator (no `bad`, no line structure) -/
def pyTokOK : Tok → Bool
  | .id s => match s.toList with
    | [] => false
    | c :: cs => isIdStart c && cs.all isIdChar
  | .num s => pyNumShape s.toList
  | .p q => pyPunctOK q
  | _ => false

theorem pyFeed_id {s : String} (h : pyTokOK (.id s) = true) :
    pyLexer.feed .start s.toList = ([], .ident s.toList.reverse) := by
  -- `h` is a `tokOK (.id s) = true` too: the two definitions have the same `.id` branch
  obtain ⟨c, cs, e, hc, hcs⟩ := tokOK_id h
  simp only [e, Lexer.feed_cons, pyLexer_step, pyTrans, pyTransStart_idStart hc, pyFeed_ident cs [c] hcs,
    List.nil_append, List.reverse_cons]

theorem pyTokOK_num {s : String} (h : pyTokOK (.num s) = true) :
    ∃ c cs, s.toList = c :: cs ∧ c.isDigit = true ∧ pyNumContAll c cs = true
      ∧ ((lastOf c cs).isDigit || lastOf c cs == 'j') = true := by
  simp only [pyTokOK] at h
  cases e : s.toList with
  | nil => rw [e] at h; cases h
  | cons c cs =>
    rw [e, pyNumShape_cons, Bool.and_eq_true, Bool.and_eq_true] at h
    exact ⟨c, cs, rfl, h.1.1, h.1.2, h.2⟩

theorem pyFeed_numTok {s : String} (h : pyTokOK (.num s) = true) :
    pyLexer.feed .start s.toList = ([], .num s.toList.reverse) := by
  obtain ⟨c, cs, e, hc, hcs, _⟩ := pyTokOK_num h
  simp only [e, Lexer.feed_cons, pyLexer_step, pyTrans, pyTransStart_digit hc, pyFeed_num cs [c] hcs,
    List.nil_append, List.reverse_cons]

theorem pyRun_tok (t : Tok) (h : pyTokOK t = true) :
    pyLexer.run .start t.text = [t] ∧ pyLexer.after t ≠ .comment := by
  cases t with
  | id s =>
    have e : pyLexer.feed .start (Tok.id s).text = _ := pyFeed_id h
    refine ⟨?_, fun hc => nomatch (congrArg Prod.snd e).symm.trans hc⟩
    rw [Lexer.run, e]
    simp only [pyLexer, pyFlush, mkStr, List.reverse_reverse, String.ofList_toList, List.nil_append]
  | num s =>
    have e : pyLexer.feed .start (Tok.num s).text = _ := pyFeed_numTok h
    refine ⟨?_, fun hc => nomatch (congrArg Prod.snd e).symm.trans hc⟩
    rw [Lexer.run, e]
    simp only [pyLexer, pyFlush, mkStr, List.reverse_reverse, String.ofList_toList, List.nil_append]
  | p q =>
    revert h
    cases q <;> decide +kernel
  | bad c | newline | indent | dedent => cases h

/-- the text of `t2` may follow the text of `t1` directly: its first character does not extend `t1` -/
def pySepTok (t1 t2 : Tok) : Bool :=
  match t2.text with
  | [] => false
  | c :: _ => pySepChar (pyStTok t1) c

def nlp : Piece := .ws ['\n']

/-- white space of a statement text: blanks, or the single line break. The line break is a piece
    of its own because it is read as a NEWLINE token (`nlTok`); the one place where the numba
    formatter breaks a line inside a statement is the `",\n"` between the rows of an initialiser
    (`build_initializer_lists`), which is the pieces `,` and `nlp`. (C joins with `",\n  "` and its
    lexer drops the line break, so `separated` needs no such case.) -/
def pyBlank (s : List Char) : Bool := decide (s = ['\n']) || (!s.isEmpty && s.all isPySpace)

def nlTok (s : List Char) : List Tok := if s = ['\n'] then [.newline] else []

abbrev toksN : List Piece → List Tok := toksW nlTok

def pySepNL : List Piece → Bool
  | [] => true
  | .ws s :: ps => (decide (s = ['\n']) || (!s.isEmpty && s.all isPySpace)) && pySepNL ps
  | .t a :: ps =>
    pyTokOK a && (match ps with | .t b :: _ => pySepTok a b | _ => true) && pySepNL ps

theorem nlEqs : SepEqs pySepNL pyBlank pyTokOK pySepTok := ⟨rfl, fun _ _ => rfl, fun _ _ => rfl⟩

theorem pyBlank_feed {s : List Char} (h : pyBlank s = true) : pyLexer.feed .start s = (nlTok s, .start) := by
  rw [pyBlank, Bool.or_eq_true, decide_eq_true_eq, Bool.and_eq_true] at h
  rcases h with rfl | h
  · rfl
  · have hne : nlTok s = [] := if_neg fun e => by subst e; cases h.2
    exact hne ▸ pyFeed_spaces h.2

/-- the line break and the blanks lie below `&` -/
theorem pyBlank_low {c : Char} {s : List Char} (h : pyBlank (c :: s) = true) : c.toNat < 38 := by
  rw [pyBlank, Bool.or_eq_true, decide_eq_true_eq, Bool.and_eq_true, List.all_cons, Bool.and_eq_true] at h
  rcases h with h | h
  · cases h; decide
  · exact Nat.lt_of_le_of_lt (space_toNat (pySpace_isSpace h.2.1)) (by decide)

theorem pyReads : pyLexer.Reads pyBlank pyTokOK pySepTok nlTok where
  idle := rfl
  blank_ne h := by rintro rfl; cases h
  blank := pyBlank_feed
  blank_ends h ht := pyTrans_sep (pySepChar_low (pyRun_tok _ ht).2 (pyBlank_low h))
  tok ht := (pyRun_tok _ ht).1
  touch h := Lexer.touch_of_sep pyTrans_sep (pyStTok_eq _) h

theorem lex_render_nl (ps : List Piece) (hps : pySepNL ps = true) : lexPyFlat (render ps) = toksN ps := by
  rw [lexPyFlat_eq]
  exact Lexer.run_render_start nlEqs pyReads ps hps

/-- the white-space test that `pySeparated` spells out -/
def pyExprBlank (s : List Char) : Bool := !s.isEmpty && s.all isPySpace

/-- expression texts: no line break -/
def pySeparated : List Piece → Bool
  | [] => true
  | .ws s :: ps => !s.isEmpty && s.all isPySpace && pySeparated ps
  | .t a :: ps =>
    pyTokOK a && (match ps with | .t b :: _ => pySepTok a b | _ => true) && pySeparated ps

theorem pyEqs : SepEqs pySeparated pyExprBlank pyTokOK pySepTok :=
  ⟨rfl, fun _ _ => rfl, fun _ _ => rfl⟩

/-- Expression texts reach `Lexer.run_render_start` through this embedding into the `pySepNL` lists,
    not through a `Reads` instance of their own as `separated` has (`cReads`). -/
theorem pySepNL_of_sep : ∀ ps : List Piece, pySeparated ps = true → pySepNL ps = true ∧ toksN ps = toks ps := by
  intro ps
  induction ps with
  | nil => exact fun _ => ⟨rfl, rfl⟩
  | cons pc ps ih =>
    intro h
    cases pc with
    | ws s =>
      simp only [pySeparated, Bool.and_eq_true] at h
      have hnl : s ≠ ['\n'] := fun e => by subst e; cases h.1.2
      simp only [pySepNL, toksW, nlTok, toks, hnl, if_false, List.nil_append, h.1.1, h.1.2, ih h.2, Bool.and_self,
        Bool.or_true]
      trivial
    | t a =>
      simp only [pySeparated, Bool.and_eq_true] at h
      simp only [pySepNL, toksW, toks, h.1.1, h.1.2, ih h.2, Bool.and_self]
      trivial

theorem lex_render_py (ps : List Piece) (hps : pySeparated ps = true) : lexPyFlat (render ps) = toks ps :=
  (lex_render_nl ps (pySepNL_of_sep ps hps).1).trans (pySepNL_of_sep ps hps).2

end Ffcx.LNodes.Fmt
