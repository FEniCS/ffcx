/-
C16 — numba: the productions of the Python expression parser as rules, and what one induction
over the fuel gives of every successful run (`FuelPy`): the same result at every larger fuel, and
at every fuel above a bound that depends on the input alone (`fuelFor` is above it).
-/
import FfcxModel.LNodes.ParsePy
import FfcxProofs.Lemmas.Fuel
namespace Ffcx.LNodes.Fmt

/-! The productions as rules, one lemma each, with the convention stated at the head of FormatParse
(sub-results at fuel `k` give the result at fuel `k + 1`). The last nine are the ways in which the four
loops end (`pyLoop`, `pyChain`, the item list, `pyTrailers`). -/

theorem pyAtomOf_ne_p {t b} (h : pyAtomOf t = some b) (q : P) : t ≠ .p q := by
  rintro rfl; cases h

theorem pyAtomOf_ne_not {t b} (h : pyAtomOf t = some b) : t ≠ .id "not" := by
  rintro rfl; cases h

theorem pyOperand_atom {k m t b r res} (h : pyAtomOf t = some b)
    (hp : pyTrailers k b r = some res) : pyOperand (k + 1) m (t :: r) = some res := by
  rw [pyOperand, if_neg (pyAtomOf_ne_not h), if_neg (pyAtomOf_ne_p h _), if_neg (pyAtomOf_ne_p h _),
    if_neg (pyAtomOf_ne_p h _), h]
  exact hp

theorem pyOperand_neg {k m r a r'} (h : pyOperand k 7 r = some (a, r')) :
    pyOperand (k + 1) m (.p .minus :: r) = some (.un .neg a, r') := by
  rw [pyOperand, if_neg (by decide), if_pos rfl, h]

theorem pyOperand_not {k m r a r'} (hm : m ≤ 3) (h : pyLvl k 3 r = some (a, r')) :
    pyOperand (k + 1) m (.id "not" :: r) = some (.un .not a, r') := by
  rw [pyOperand, if_pos rfl, if_pos hm, h]

theorem pyOperand_paren {k m r e r3 res} (hne : r.head? ≠ some (.p .rpar))
    (h : pyTest k r = some (e, .p .rpar :: r3)) (hp : pyTrailers k e r3 = some res) :
    pyOperand (k + 1) m (.p .lpar :: r) = some res := by
  rw [pyOperand, if_neg (by decide), if_neg (by decide), if_pos rfl, if_neg hne, h]
  dsimp only
  rw [if_pos rfl, hp]

theorem pyOperand_unit {k m r res} (hh : r.head? = some (.p .rpar))
    (hp : pyTrailers k (.tuple []) r.tail = some res) :
    pyOperand (k + 1) m (.p .lpar :: r) = some res := by
  rw [pyOperand, if_neg (by decide), if_neg (by decide), if_pos rfl, if_pos hh]
  exact hp

theorem pyOperand_tuple {k m r e r3 es r4 res} (hne : r.head? ≠ some (.p .rpar))
    (h : pyTest k r = some (e, .p .comma :: r3)) (hi : pyItems k .rpar r3 = some (es, r4))
    (hp : pyTrailers k (.tuple (e :: es)) r4 = some res) :
    pyOperand (k + 1) m (.p .lpar :: r) = some res := by
  rw [pyOperand, if_neg (by decide), if_neg (by decide), if_pos rfl, if_neg hne, h]
  dsimp only
  rw [if_neg (by decide), if_pos rfl, hi]
  exact hp

theorem pyOperand_list {k m r es r' res} (hi : pyItems k .rbrack r = some (es, r'))
    (hp : pyTrailers k (.list es) r' = some res) :
    pyOperand (k + 1) m (.p .lbrack :: r) = some res := by
  rw [pyOperand, if_neg (by decide), if_neg (by decide), if_neg (by decide), if_pos rfl, hi]
  exact hp

theorem pyLvl_of {k m ts l r res} (hu : pyOperand k m ts = some (l, r))
    (hl : pyLoop k m l r = some res) : pyLvl (k + 1) m ts = some res := by
  rw [pyLvl, hu]
  exact hl

theorem pyLoop_op {k m l t r op lv rhs r' res} (hb : pyBinLevel t = some (op, lv)) (hm : m ≤ lv)
    (h4 : lv ≠ 4) (hr : pyLvl k (lv + 1) r = some (rhs, r'))
    (hl : pyLoop k m (.bin op l rhs) r' = some res) : pyLoop (k + 1) m l (t :: r) = some res := by
  rw [pyLoop, hb]
  dsimp only
  rw [if_pos hm, if_neg h4, hr]
  exact hl

theorem pyLoop_cmp {k m l t r op rhs r' more r'' res} (hb : pyBinLevel t = some (op, 4)) (hm : m ≤ 4)
    (hr : pyLvl k 5 r = some (rhs, r')) (hc : pyChain k r' = some (more, r''))
    (hl : pyLoop k m (mkCmp l ((op, rhs) :: more)) r'' = some res) :
    pyLoop (k + 1) m l (t :: r) = some res := by
  rw [pyLoop, hb]
  dsimp only
  rw [if_pos hm, if_pos rfl, hr]
  dsimp only
  rw [hc]
  exact hl

theorem pyChain_cons {k t r op rhs r' more r''} (hb : pyBinLevel t = some (op, 4))
    (hr : pyLvl k 5 r = some (rhs, r')) (hc : pyChain k r' = some (more, r'')) :
    pyChain (k + 1) (t :: r) = some ((op, rhs) :: more, r'') := by
  rw [pyChain, hb]
  dsimp only
  rw [if_pos rfl, hr]
  dsimp only
  rw [hc]

theorem pyTest_plain {k ts a r} (hb : pyLvl k 1 ts = some (a, r))
    (hq : r.head? ≠ some (.id "if")) : pyTest (k + 1) ts = some (a, r) := by
  rw [pyTest, hb]
  cases r with
  | nil => rfl
  | cons t r1 =>
    dsimp only
    rw [if_neg (fun h => hq (congrArg some h))]

theorem pyTest_tern {k ts a r1 c r3 e r4} (hb : pyLvl k 1 ts = some (a, .id "if" :: r1))
    (hc : pyLvl k 1 r1 = some (c, .id "else" :: r3)) (he : pyTest k r3 = some (e, r4)) :
    pyTest (k + 1) ts = some (.cond c a e, r4) := by
  rw [pyTest, hb]
  dsimp only
  rw [if_pos rfl, hc]
  dsimp only
  rw [if_pos rfl, he]

theorem pyItems_item {k close ts res} (ht : ∃ t r, ts = t :: r ∧ t ≠ .p close)
    (h : pyItem k close ts = some res) : pyItems (k + 1) close ts = some res := by
  obtain ⟨t, r, rfl, ht⟩ := ht
  rw [pyItems, if_neg ht]
  exact h

theorem pyItem_last {k close ts e r1} (h1 : close ≠ .assign) (h2 : close ≠ .comma)
    (h : pyTest k ts = some (e, .p close :: r1)) : pyItem (k + 1) close ts = some ([e], r1) := by
  rw [pyItem, h]
  dsimp only
  rw [if_neg (fun e => h1 (Tok.p.inj e)), if_neg (fun e => h2 (Tok.p.inj e)), if_pos rfl]

theorem pyItem_cons {k close ts e r1 es r'} (h : pyTest k ts = some (e, .p .comma :: r1))
    (hi : pyItems k close r1 = some (es, r')) : pyItem (k + 1) close ts = some (e :: es, r') := by
  rw [pyItem, h]
  dsimp only
  rw [if_neg (by decide), if_pos rfl, hi]

/-- keyword argument `NAME = test` followed by `,` -/
theorem pyItem_kw_cons {k close ts n r1 v r3 es r'} (h : pyTest k ts = some (.id n, .p .assign :: r1))
    (hv : pyTest k r1 = some (v, .p .comma :: r3)) (hi : pyItems k close r3 = some (es, r')) :
    pyItem (k + 1) close ts = some (.kw n v :: es, r') := by
  rw [pyItem, h]
  dsimp only [nameOf]
  rw [if_pos rfl, hv]
  dsimp only
  rw [if_pos rfl, hi]

/-- keyword argument `NAME = test` followed by the closing token -/
theorem pyItem_kw_last {k close ts n r1 v r3} (hc : close ≠ .comma)
    (h : pyTest k ts = some (.id n, .p .assign :: r1))
    (hv : pyTest k r1 = some (v, .p close :: r3)) :
    pyItem (k + 1) close ts = some ([.kw n v], r3) := by
  rw [pyItem, h]
  dsimp only [nameOf]
  rw [if_pos rfl, hv]
  dsimp only
  rw [if_neg (fun e => hc (Tok.p.inj e)), if_pos rfl]

theorem pyTrailers_dot {k b s r2 res} (h : pyTrailers k (.id (b ++ "." ++ s)) r2 = some res) :
    pyTrailers (k + 1) (.id b) (.p .dot :: .id s :: r2) = some res := by
  rw [pyTrailers, if_pos rfl]
  exact h

theorem pyTrailers_call {k name r args r' res} (h : pyItems k .rpar r = some (args, r'))
    (hp : pyTrailers k (.call name args) r' = some res) :
    pyTrailers (k + 1) (.id name) (.p .lpar :: r) = some res := by
  rw [pyTrailers, if_neg (by decide), if_pos rfl]
  dsimp only [nameOf]
  rw [h]
  exact hp

theorem pyTrailers_idx {k base r ix r' res} (h : pyItems k .rbrack r = some (ix, r'))
    (hne : ix.isEmpty = false) (hp : pyTrailers k (.idx base ix) r' = some res) :
    pyTrailers (k + 1) base (.p .lbrack :: r) = some res := by
  rw [pyTrailers, if_neg (by decide), if_neg (by decide), if_pos rfl, h]
  dsimp only
  rw [hne]
  exact hp

theorem pyLoop_nil {k m l} : pyLoop (k + 1) m l [] = some (l, []) := by rw [pyLoop]

theorem pyLoop_noop {k m l t r} (hb : pyBinLevel t = none) : pyLoop (k + 1) m l (t :: r) = some (l, t :: r) := by
  rw [pyLoop, hb]

theorem pyLoop_low {k m l t r op lv} (hb : pyBinLevel t = some (op, lv)) (hm : ¬ m ≤ lv) :
    pyLoop (k + 1) m l (t :: r) = some (l, t :: r) := by
  rw [pyLoop, hb]; exact if_neg hm

theorem pyChain_nil {k} : pyChain (k + 1) [] = some ([], []) := by rw [pyChain]

theorem pyChain_noop {k t r} (hb : pyBinLevel t = none) : pyChain (k + 1) (t :: r) = some ([], t :: r) := by
  rw [pyChain, hb]

theorem pyChain_other {k t r op lv} (hb : pyBinLevel t = some (op, lv)) (h4 : lv ≠ 4) :
    pyChain (k + 1) (t :: r) = some ([], t :: r) := by
  rw [pyChain, hb]; exact if_neg h4

theorem pyItems_close {k close r} : pyItems (k + 1) close (.p close :: r) = some ([], r) := by
  rw [pyItems, if_pos rfl]

theorem pyTrailers_nil {k b} : pyTrailers (k + 1) b [] = some (b, []) := by rw [pyTrailers]

theorem pyTrailers_other {k b t r} (h1 : t ≠ .p .dot) (h2 : t ≠ .p .lpar) (h3 : t ≠ .p .lbrack) :
    pyTrailers (k + 1) b (t :: r) = some (b, t :: r) := by
  rw [pyTrailers, if_neg h1, if_neg h2, if_neg h3]

/-- A successful run consumes input (`<`; the loops may consume none, `≤`) and is `Settled` from its
    own fuel on and from `5 * ts.length + c` on (the recipe is at `Settled`). The offsets `c` follow the
    one chain of calls that hands the input on unread, items → item → test → lvl → operand
    (5, 4, 3, 2, 1), and five is its length. `pyLoop`, `pyChain`, `pyTrailers` are called only after a
    token has been read, and read one before they call: any offset from 1 to 5 serves them (2). -/
structure FuelPy (f : Nat) : Prop where
  test : ∀ ts r, pyTest f ts = some r →
    r.2.length < ts.length ∧ Settled (pyTest · ts) f (5 * ts.length + 3) r
  lvl : ∀ m ts r, pyLvl f m ts = some r →
    r.2.length < ts.length ∧ Settled (pyLvl · m ts) f (5 * ts.length + 2) r
  loop : ∀ m l ts r, pyLoop f m l ts = some r →
    r.2.length ≤ ts.length ∧ Settled (pyLoop · m l ts) f (5 * ts.length + 2) r
  chain : ∀ ts r, pyChain f ts = some r →
    r.2.length ≤ ts.length ∧ Settled (pyChain · ts) f (5 * ts.length + 2) r
  operand : ∀ m ts r, pyOperand f m ts = some r →
    r.2.length < ts.length ∧ Settled (pyOperand · m ts) f (5 * ts.length + 1) r
  items : ∀ c ts r, pyItems f c ts = some r →
    r.2.length < ts.length ∧ Settled (pyItems · c ts) f (5 * ts.length + 5) r
  item : ∀ c ts r, pyItem f c ts = some r →
    r.2.length < ts.length ∧ Settled (pyItem · c ts) f (5 * ts.length + 4) r
  trailers : ∀ b ts r, pyTrailers f b ts = some r →
    r.2.length ≤ ts.length ∧ Settled (pyTrailers · b ts) f (5 * ts.length + 2) r

theorem fuelPy_step (f : Nat) (ih : FuelPy f) : FuelPy (f + 1) := by
  refine ⟨?_, ?_, ?_, ?_, ?_, ?_, ?_, ?_⟩
  · intro ts r h
    rw [pyTest] at h
    split at h
    · cases h
    · rename_i a r0 hb
      obtain ⟨lb, sb⟩ := ih.lvl _ _ _ hb
      split at h
      · cases h
        exact ⟨lb, .succ fun k hk => pyTest_plain (sb.le hk (Nat.le_refl _)) nofun⟩
      · rename_i t r1
        by_cases hif : t = .id "if"
        · subst hif
          rw [if_pos rfl] at h
          split at h
          · cases h
          · rename_i c r2 hc
            obtain ⟨lc, sc⟩ := ih.lvl _ _ _ hc
            split at h
            · cases h
            · rename_i t2 r3
              by_cases helse : t2 = .id "else"
              · subst helse
                rw [if_pos rfl] at h
                split at h
                · cases h
                · rename_i e r4 he
                  obtain ⟨le, se⟩ := ih.test _ _ he
                  cases h
                  have l1 : r1.length < ts.length := Nat.lt_of_succ_lt lb
                  have l3 : r3.length < ts.length := Nat.lt_trans (Nat.lt_of_succ_lt lc) l1
                  exact ⟨Nat.lt_trans le l3, .succ fun k hk => pyTest_tern (sb.le hk (Nat.le_refl _))
                    (sc.le hk (bound_lt l1 (by decide))) (se.le hk (bound_lt l3 (by decide)))⟩
              · rw [if_neg helse] at h
                cases h
        · rw [if_neg hif] at h
          cases h
          exact ⟨lb, .succ fun k hk =>
            pyTest_plain (sb.le hk (Nat.le_refl _)) (fun e => hif (Option.some.inj e))⟩
  · intro m ts r h
    rw [pyLvl] at h
    split at h
    · cases h
    · rename_i l r0 hu
      obtain ⟨lu, su⟩ := ih.operand _ _ _ hu
      obtain ⟨ll, sl⟩ := ih.loop _ _ _ _ h
      exact ⟨Nat.lt_of_le_of_lt ll lu, .succ fun k hk =>
        pyLvl_of (su.le hk (Nat.le_refl _)) (sl.le hk (bound_lt lu (by decide)))⟩
  · intro m l ts r h
    cases ts with
    | nil =>
      rw [pyLoop] at h
      cases h
      exact ⟨Nat.le_refl _, .succ fun k _ => pyLoop_nil⟩
    | cons t r0 =>
      rw [pyLoop] at h
      split at h
      · rename_i hb
        cases h
        exact ⟨Nat.le_refl _, .succ fun k _ => pyLoop_noop hb⟩
      · rename_i op lv hb
        by_cases hm : m ≤ lv
        · rw [if_pos hm] at h
          by_cases h4 : lv = 4
          · subst h4
            rw [if_pos rfl] at h
            split at h
            · cases h
            · rename_i rhs r' hp
              obtain ⟨lp, sp⟩ := ih.lvl _ _ _ hp
              split at h
              · cases h
              · rename_i more r'' hc
                obtain ⟨lc, sc⟩ := ih.chain _ _ hc
                obtain ⟨ll, sl⟩ := ih.loop _ _ _ _ h
                have l' : r'.length < (t :: r0).length := Nat.lt_succ_of_lt lp
                have l'' : r''.length < (t :: r0).length := Nat.lt_of_le_of_lt lc l'
                exact ⟨Nat.le_of_lt (Nat.lt_of_le_of_lt ll l''), .succ fun k hk =>
                  pyLoop_cmp hb hm (sp.le hk (bound_lt (Nat.lt_succ_self _) (by decide)))
                    (sc.le hk (bound_lt l' (by decide))) (sl.le hk (bound_lt l'' (by decide)))⟩
          · rw [if_neg h4] at h
            split at h
            · cases h
            · rename_i rhs r' hp
              obtain ⟨lp, sp⟩ := ih.lvl _ _ _ hp
              obtain ⟨ll, sl⟩ := ih.loop _ _ _ _ h
              exact ⟨Nat.le_succ_of_le (Nat.le_of_lt (Nat.lt_of_le_of_lt ll lp)), .succ fun k hk =>
                pyLoop_op hb hm h4 (sp.le hk (bound_lt (Nat.lt_succ_self _) (by decide)))
                  (sl.le hk (bound_lt (Nat.lt_succ_of_lt lp) (by decide)))⟩
        · rw [if_neg hm] at h
          cases h
          exact ⟨Nat.le_refl _, .succ fun k _ => pyLoop_low hb hm⟩
  · intro ts r h
    cases ts with
    | nil =>
      rw [pyChain] at h
      cases h
      exact ⟨Nat.le_refl _, .succ fun k _ => pyChain_nil⟩
    | cons t r0 =>
      rw [pyChain] at h
      split at h
      · rename_i hb
        cases h
        exact ⟨Nat.le_refl _, .succ fun k _ => pyChain_noop hb⟩
      · rename_i op lv hb
        by_cases h4 : lv = 4
        · subst h4
          rw [if_pos rfl] at h
          split at h
          · cases h
          · rename_i rhs r' hp
            obtain ⟨lp, sp⟩ := ih.lvl _ _ _ hp
            split at h
            · cases h
            · rename_i more r'' hc
              obtain ⟨lc, sc⟩ := ih.chain _ _ hc
              cases h
              exact ⟨Nat.le_succ_of_le (Nat.le_of_lt (Nat.lt_of_le_of_lt lc lp)), .succ fun k hk =>
                pyChain_cons hb (sp.le hk (bound_lt (Nat.lt_succ_self _) (by decide)))
                  (sc.le hk (bound_lt (Nat.lt_succ_of_lt lp) (by decide)))⟩
        · rw [if_neg h4] at h
          cases h
          exact ⟨Nat.le_refl _, .succ fun k _ => pyChain_other hb h4⟩
  · intro m ts r h
    cases ts with
    | nil => rw [pyOperand] at h; cases h
    | cons t r0 =>
      rw [pyOperand] at h
      by_cases hnot : t = .id "not"
      · subst hnot
        rw [if_pos rfl] at h
        split at h
        · rename_i hm
          split at h
          · cases h
          · rename_i a r' hu
            obtain ⟨lu, su⟩ := ih.lvl _ _ _ hu
            cases h
            -- `pyOperand` has offset 1, hence `(c := 0)` here and below (see `bound_lt`)
            exact ⟨Nat.lt_succ_of_lt lu, .succ fun k hk =>
              pyOperand_not hm (su.le hk (bound_lt (c := 0) (Nat.lt_succ_self _) (by decide)))⟩
        · cases h
      rw [if_neg hnot] at h
      by_cases hminus : t = .p .minus
      · subst hminus
        rw [if_pos rfl] at h
        split at h
        · cases h
        · rename_i a r' hu
          obtain ⟨lu, su⟩ := ih.operand _ _ _ hu
          cases h
          exact ⟨Nat.lt_succ_of_lt lu, .succ fun k hk =>
            pyOperand_neg (su.le hk (bound_lt (c := 0) (Nat.lt_succ_self _) (by decide)))⟩
      rw [if_neg hminus] at h
      by_cases hlpar : t = .p .lpar
      · subst hlpar
        rw [if_pos rfl] at h
        split at h
        · rename_i hh
          obtain ⟨lp, sp⟩ := ih.trailers _ _ _ h
          cases r0 with
          | nil => cases hh
          | cons t1 r1 =>
            exact ⟨Nat.lt_succ_of_le (Nat.le_succ_of_le lp), .succ fun k hk => pyOperand_unit hh
              (sp.le hk (bound_lt (c := 0) (Nat.lt_succ_of_lt (Nat.lt_succ_self _)) (by decide)))⟩
        · rename_i hh
          split at h
          · cases h
          · rename_i e r2 hc
            obtain ⟨lc, sc⟩ := ih.test _ _ hc
            split at h
            · cases h
            · rename_i t2 r3
              split at h
              · rename_i ht
                subst ht
                obtain ⟨lp, sp⟩ := ih.trailers _ _ _ h
                have l3 : r3.length < r0.length := Nat.lt_of_succ_lt lc
                exact ⟨Nat.lt_succ_of_lt (Nat.lt_of_le_of_lt lp l3), .succ fun k hk =>
                  pyOperand_paren hh (sc.le hk (bound_lt (c := 0) (Nat.lt_succ_self _) (by decide)))
                    (sp.le hk (bound_lt (c := 0) (Nat.lt_succ_of_lt l3) (by decide)))⟩
              · split at h
                · rename_i ht
                  subst ht
                  split at h
                  · cases h
                  · rename_i es r4 hi
                    obtain ⟨li, si⟩ := ih.items _ _ _ hi
                    obtain ⟨lp, sp⟩ := ih.trailers _ _ _ h
                    have l3 : r3.length < r0.length := Nat.lt_of_succ_lt lc
                    have l4 : r4.length < r0.length := Nat.lt_trans li l3
                    exact ⟨Nat.lt_succ_of_lt (Nat.lt_of_le_of_lt lp l4), .succ fun k hk =>
                      pyOperand_tuple hh (sc.le hk (bound_lt (c := 0) (Nat.lt_succ_self _) (by decide)))
                        (si.le hk (bound_lt (c := 0) (Nat.lt_succ_of_lt l3) (by decide)))
                        (sp.le hk (bound_lt (c := 0) (Nat.lt_succ_of_lt l4) (by decide)))⟩
                · cases h
      rw [if_neg hlpar] at h
      by_cases hlbrack : t = .p .lbrack
      · subst hlbrack
        rw [if_pos rfl] at h
        split at h
        · cases h
        · rename_i es r' hi
          obtain ⟨li, si⟩ := ih.items _ _ _ hi
          obtain ⟨lp, sp⟩ := ih.trailers _ _ _ h
          exact ⟨Nat.lt_succ_of_lt (Nat.lt_of_le_of_lt lp li), .succ fun k hk =>
            pyOperand_list (si.le hk (bound_lt (c := 0) (Nat.lt_succ_self _) (by decide)))
              (sp.le hk (bound_lt (c := 0) (Nat.lt_succ_of_lt li) (by decide)))⟩
      rw [if_neg hlbrack] at h
      split at h
      · cases h
      · rename_i b hb
        obtain ⟨lp, sp⟩ := ih.trailers _ _ _ h
        exact ⟨Nat.lt_succ_of_le lp, .succ fun k hk =>
          pyOperand_atom hb (sp.le hk (bound_lt (c := 0) (Nat.lt_succ_self _) (by decide)))⟩
  · intro c ts r h
    cases ts with
    | nil => rw [pyItems] at h; cases h
    | cons t r0 =>
      rw [pyItems] at h
      split at h
      · rename_i ht
        subst ht
        cases h
        exact ⟨Nat.lt_succ_self _, .succ fun k _ => pyItems_close⟩
      · rename_i ht
        obtain ⟨li, si⟩ := ih.item _ _ _ h
        exact ⟨li, .succ fun k hk => pyItems_item ⟨t, r0, rfl, ht⟩ (si.le hk (Nat.le_refl _))⟩
  · intro c ts r h
    rw [pyItem] at h
    split at h
    · cases h
    · rename_i e r0 hc
      obtain ⟨lc, sc⟩ := ih.test _ _ hc
      split at h
      · cases h
      · rename_i t r1
        by_cases hassign : t = .p .assign
        · subst hassign
          rw [if_pos rfl] at h
          split at h
          · cases h
          · rename_i n hn
            cases e <;> cases hn
            split at h
            · cases h
            · rename_i v r2 hv
              obtain ⟨lv, sv⟩ := ih.test _ _ hv
              split at h
              · cases h
              · rename_i t2 r3
                by_cases hcomma : t2 = .p .comma
                · subst hcomma
                  rw [if_pos rfl] at h
                  split at h
                  · cases h
                  · rename_i es r' hi
                    obtain ⟨li, si⟩ := ih.items _ _ _ hi
                    cases h
                    have l1 : r1.length < ts.length := Nat.lt_of_succ_lt lc
                    have l3 : r3.length < ts.length := Nat.lt_trans (Nat.lt_of_succ_lt lv) l1
                    exact ⟨Nat.lt_trans li l3, .succ fun k hk => pyItem_kw_cons (sc.le hk (Nat.le_refl _))
                      (sv.le hk (bound_lt l1 (by decide))) (si.le hk (bound_lt l3 (by decide)))⟩
                rw [if_neg hcomma] at h
                split at h
                · rename_i ht
                  subst ht
                  cases h
                  have l1 : r1.length < ts.length := Nat.lt_of_succ_lt lc
                  exact ⟨Nat.lt_trans (Nat.lt_of_succ_lt lv) l1, .succ fun k hk =>
                    pyItem_kw_last (fun e => hcomma (congrArg Tok.p e)) (sc.le hk (Nat.le_refl _))
                      (sv.le hk (bound_lt l1 (by decide)))⟩
                · cases h
        rw [if_neg hassign] at h
        by_cases hcomma : t = .p .comma
        · subst hcomma
          rw [if_pos rfl] at h
          split at h
          · cases h
          · rename_i es r' hi
            obtain ⟨li, si⟩ := ih.items _ _ _ hi
            cases h
            have l1 : r1.length < ts.length := Nat.lt_of_succ_lt lc
            exact ⟨Nat.lt_trans li l1, .succ fun k hk =>
              pyItem_cons (sc.le hk (Nat.le_refl _)) (si.le hk (bound_lt l1 (by decide)))⟩
        rw [if_neg hcomma] at h
        split at h
        · rename_i ht
          subst ht
          cases h
          exact ⟨Nat.lt_of_succ_lt lc, .succ fun k hk =>
            pyItem_last (fun e => hassign (congrArg Tok.p e)) (fun e => hcomma (congrArg Tok.p e))
              (sc.le hk (Nat.le_refl _))⟩
        · cases h
  · intro b ts r h
    cases ts with
    | nil =>
      rw [pyTrailers] at h
      cases h
      exact ⟨Nat.le_refl _, .succ fun k _ => pyTrailers_nil⟩
    | cons t r0 =>
      rw [pyTrailers] at h
      by_cases hdot : t = .p .dot
      · subst hdot
        rw [if_pos rfl] at h
        split at h
        · cases h
        · rename_i s r2 hs
          split at h
          · cases h
          · rename_i bn hb
            cases b <;> cases hb
            cases r0 with
            | nil => cases hs
            | cons t1 r1 =>
              cases t1 <;> cases hs
              obtain ⟨lp, sp⟩ := ih.trailers _ _ _ h
              exact ⟨Nat.le_succ_of_le (Nat.le_succ_of_le lp), .succ fun k hk => pyTrailers_dot
                (sp.le hk (bound_lt (Nat.lt_succ_of_lt (Nat.lt_succ_self _)) (by decide)))⟩
      rw [if_neg hdot] at h
      by_cases hlpar : t = .p .lpar
      · subst hlpar
        rw [if_pos rfl] at h
        split at h
        · cases h
        · rename_i name hn
          cases b <;> cases hn
          split at h
          · cases h
          · rename_i args r' hi
            obtain ⟨li, si⟩ := ih.items _ _ _ hi
            obtain ⟨lp, sp⟩ := ih.trailers _ _ _ h
            exact ⟨Nat.le_succ_of_le (Nat.le_of_lt (Nat.lt_of_le_of_lt lp li)), .succ fun k hk =>
              pyTrailers_call (si.le hk (bound_lt (Nat.lt_succ_self _) (by decide)))
                (sp.le hk (bound_lt (Nat.lt_succ_of_lt li) (by decide)))⟩
      rw [if_neg hlpar] at h
      by_cases hlbrack : t = .p .lbrack
      · subst hlbrack
        rw [if_pos rfl] at h
        split at h
        · cases h
        · rename_i ix r' hi
          obtain ⟨li, si⟩ := ih.items _ _ _ hi
          split at h
          · cases h
          · rename_i hne
            obtain ⟨lp, sp⟩ := ih.trailers _ _ _ h
            exact ⟨Nat.le_succ_of_le (Nat.le_of_lt (Nat.lt_of_le_of_lt lp li)), .succ fun k hk =>
              pyTrailers_idx (si.le hk (bound_lt (Nat.lt_succ_self _) (by decide))) (Bool.eq_false_iff.mpr hne)
                (sp.le hk (bound_lt (Nat.lt_succ_of_lt li) (by decide)))⟩
      rw [if_neg hlbrack] at h
      cases h
      exact ⟨Nat.le_refl _, .succ fun k _ => pyTrailers_other hdot hlpar hlbrack⟩

theorem fuelPy_all : ∀ f, FuelPy f
  | 0 => by constructor <;> intros <;> contradiction
  | f + 1 => fuelPy_step f (fuelPy_all f)

/-! Monotonicity in the fuel is `Settled.mono`: all functions for one step of fuel
(`PyMono`, `pyMono_all`), then for five of its functions. The round trip does not use it: it goes through
`pyTest_fuelFor` / `pyOperand_fuelFor`, which are `Settled.above`. -/

structure PyMono (f : Nat) : Prop where
  test : ∀ ts r, pyTest f ts = some r → pyTest (f + 1) ts = some r
  lvl : ∀ m ts r, pyLvl f m ts = some r → pyLvl (f + 1) m ts = some r
  loop : ∀ m l ts r, pyLoop f m l ts = some r → pyLoop (f + 1) m l ts = some r
  chain : ∀ ts r, pyChain f ts = some r → pyChain (f + 1) ts = some r
  operand : ∀ m ts r, pyOperand f m ts = some r → pyOperand (f + 1) m ts = some r
  items : ∀ c ts r, pyItems f c ts = some r → pyItems (f + 1) c ts = some r
  item : ∀ c ts r, pyItem f c ts = some r → pyItem (f + 1) c ts = some r
  trailers : ∀ b ts r, pyTrailers f b ts = some r → pyTrailers (f + 1) b ts = some r

theorem pyMono_all : ∀ f, PyMono f := fun f => {
  test ts r h := ((fuelPy_all f).test ts r h).2.mono (Nat.le_succ f)
  lvl m ts r h := ((fuelPy_all f).lvl m ts r h).2.mono (Nat.le_succ f)
  loop m l ts r h := ((fuelPy_all f).loop m l ts r h).2.mono (Nat.le_succ f)
  chain ts r h := ((fuelPy_all f).chain ts r h).2.mono (Nat.le_succ f)
  operand m ts r h := ((fuelPy_all f).operand m ts r h).2.mono (Nat.le_succ f)
  items c ts r h := ((fuelPy_all f).items c ts r h).2.mono (Nat.le_succ f)
  item c ts r h := ((fuelPy_all f).item c ts r h).2.mono (Nat.le_succ f)
  trailers b ts r h := ((fuelPy_all f).trailers b ts r h).2.mono (Nat.le_succ f) }

theorem pyTest_mono {f f' ts r} (h : pyTest f ts = some r) (hle : f ≤ f') : pyTest f' ts = some r :=
  ((fuelPy_all f).test ts r h).2.mono hle
theorem pyLvl_mono {f f' m ts r} (h : pyLvl f m ts = some r) (hle : f ≤ f') : pyLvl f' m ts = some r :=
  ((fuelPy_all f).lvl m ts r h).2.mono hle
theorem pyChain_mono {f f' ts r} (h : pyChain f ts = some r) (hle : f ≤ f') : pyChain f' ts = some r :=
  ((fuelPy_all f).chain ts r h).2.mono hle
theorem pyItems_mono {f f' c ts r} (h : pyItems f c ts = some r) (hle : f ≤ f') : pyItems f' c ts = some r :=
  ((fuelPy_all f).items c ts r h).2.mono hle
theorem pyTrailers_mono {f f' b ts r} (h : pyTrailers f b ts = some r) (hle : f ≤ f') : pyTrailers f' b ts = some r :=
  ((fuelPy_all f).trailers b ts r h).2.mono hle

theorem pyTest_fuelFor {f ts r} (h : pyTest f ts = some r) : pyTest (fuelFor ts) ts = some r :=
  ((fuelPy_all f).test ts r h).2.above (by simp only [fuelFor]; omega)

theorem pyOperand_fuelFor {f m ts r} (h : pyOperand f m ts = some r) : pyOperand (fuelFor ts) m ts = some r :=
  ((fuelPy_all f).operand m ts r h).2.above (by simp only [fuelFor]; omega)

end Ffcx.LNodes.Fmt
