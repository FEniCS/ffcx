/-
All terms of a block group at one index tuple, and the ONE route from the loop nest to every closed form.
`section_boxSum`: a generated section adds `Σ_vs F vs k` over the box of its loop values if at every tuple `vs` its
innermost statement list is `LeafAdds … (F vs)`: the terms are executable and together add `F vs` (the regrouping of
the terms by `tuple(A_indices)` is a permutation, `emittedTerms_perm`, and drops out).  `LeafAdds` is built one block
at a time (`LeafAdds.cons`, from a `TermAdds` per term) along a closed form that is a recursion over blocks and `fw`
expressions in step (`LeafAdds.of_zip`); for a full-tensor group that is `blockLeafL`,
`Σ_b [flat_b(ds) = k] · fw_b · Π_r table_{b,r}[…][q][d_r]` (`block_leaf`).
`F` is indexed by the loop values, outermost loop first, the closed forms by the index values in argument order:
every user of `section_boxSum` supplies the reordering (`DofLoops` in C01Codegen; `headD` and `dv` in C10Codegen).
Off the route, for comparing closed forms with each other: such a recursion is the list sum over the zip
(`lsum_zip_of_rec`), and Fubini between a range and a list (`isum_lsum`).
-/
import FfcxProofs.Lemmas.CodegenBlock
import FfcxProofs.Lemmas.Lsum

namespace Ffcx.Codegen
open Ffcx.LNodes Lean.Grind
attribute [local instance] Lean.Grind.Ring.intCast
variable {R : Type} [Field R] (x : Extra R)

theorem groupTerms_perm : ∀ (fuel : Nat) (ts : List Term), (groupTerms fuel ts).Perm ts
  | 0, ts => by simp [groupTerms]
  | _ + 1, [] => by simp [groupTerms]
  | fuel + 1, t :: ts => by
    simp only [groupTerms]
    refine List.Perm.cons t ?_
    have h1 := groupTerms_perm fuel (ts.filter (fun u => !keyEq u.aIdx t.aIdx))
    exact (List.Perm.append_left _ h1).trans (List.filter_append_perm _ ts)

theorem emittedTerms_perm (outs : List BlockOut) : (emittedTerms outs).Perm (outs.map (·.term)) :=
  groupTerms_perm _ _

theorem leafSum_perm (τ : St R) (k : Nat) {l₁ l₂ : List ATerm} (h : l₁.Perm l₂) :
    leafSum x l₁ τ k = leafSum x l₂ τ k := by
  induction h with
  | nil => rfl
  | cons a _ ih => simp [leafSum, ih]
  | swap a b l => simp only [leafSum]; grind
  | trans _ _ ih1 ih2 => rw [ih1, ih2]

/-- The terms of an innermost statement list can be executed in `τ` (none mentions `A`, right sides
    safe, subscripts below `N`) and together add `S k` to entry `k`. -/
structure LeafAdds (A : String) (N : Nat) (ts : List ATerm) (τ : St R) (S : Nat → R) : Prop where
  ok : ∀ u ∈ ts, u.noA A = true ∧ safeE τ u.2 = true ∧
    ∃ k : Nat, evalI τ.iv τ.ia u.1 = some (k : Int) ∧ k < N
  sum : ∀ k, leafSum x ts τ k = S k

theorem LeafAdds.cons {A : String} {τ : St R} {N : Nat} {ts : List ATerm} {S : Nat → R}
    (ih : LeafAdds x A N ts τ S) {t : ATerm} {c : Option Nat} {v : R} (ht : TermAdds x A N τ t c v) :
    LeafAdds x A N (t :: ts) τ (fun k' => (if c = some k' then v else 0) + S k') := by
  obtain ⟨k, hk, hkN, hc⟩ := ht.entry
  refine ⟨fun u hu => ?_, fun k' => ?_⟩
  · rcases List.mem_cons.mp hu with rfl | hu
    · exact ⟨ht.noA, ht.safe, k, hk, hkN⟩
    · exact ih.ok u hu
  · simp only [leafSum, hk, ht.val, ih.sum k', hc, Option.some.injEq, Int.natCast_inj]

/-- **The innermost statement list of a group adds its closed form.**  `L` is the closed form (a recursion over
    blocks and `fw` expressions with summand `T`; for the closed forms in use both equations hold by `rfl`); if
    the term of every output `o` of block `b` is executable in `τ` with entry `c` and value `v` (`TermAdds`), where
    `T k b o.fw = [c = k]·v`, the terms together add `L k blocks fws`.  The lists have equal length, so the
    recursion is followed here with the equations for cons/cons and nil/nil alone (`LeafAdds.cons` per block). -/
theorem LeafAdds.of_zip {A : String} {N : Nat} {τ : St R} (aShape : List Nat)
    (L : Nat → List BlockData → List Expr → R) (T : Nat → BlockData → Expr → R)
    (hc : ∀ k b bs c cs, L k (b :: bs) (c :: cs) = T k b c + L k bs cs) (hn : ∀ k, L k [] [] = 0)
    (bs : List BlockData) (os : List BlockOut) (hl : os.length = bs.length)
    (h : ∀ p ∈ bs.zip os, ∃ (c : Option Nat) (v : R), (∀ k', T k' p.1 p.2.fw = if c = some k' then v else 0) ∧
      TermAdds x A N τ (p.2.term.aterm aShape) c v) :
    LeafAdds x A N (os.map (fun o => o.term.aterm aShape)) τ (fun k => L k bs (os.map (·.fw))) := by
  induction bs generalizing os with
  | nil =>
    obtain rfl := List.length_eq_zero_iff.mp hl
    exact ⟨fun _ hu => absurd hu List.not_mem_nil, fun k => (hn k).symm⟩
  | cons b bs ih =>
    obtain _ | ⟨o, os⟩ := os
    · cases hl
    obtain ⟨c, v, hT, ht⟩ := h (b, o) List.mem_cons_self
    have := (ih os (Nat.succ.inj hl) fun p hp => h p (List.mem_cons_of_mem _ hp)).cons x ht
    exact ⟨this.ok, fun k' => (this.sum k').trans (by rw [List.map_cons, hc, hT])⟩

theorem fw_frame {A : String} {L : List String} {σ τ : St R}
    (hag : Agree A (fun n => n ∉ L) (fun _ => True) σ τ) (fw : Expr)
    (hA : mentionsE A fw = false) (hL : ∀ n, mentionsE n fw = true → n ∉ L) :
    eval x σ fw = eval x τ fw ∧ safeE σ fw = safeE τ fw := by
  have hP : ∀ n, mentionsE n fw = true → n ≠ A ∧ n ∉ L ∧ True := fun n hn =>
    ⟨ne_of_mentions hA hn, hL n hn, trivial⟩
  exact ⟨eval_agreeOn x hag.agreeOn fw hP, safeE_agreeOn hag.agreeOn fw hP⟩

/-- `Σ_b [flat_b(ds) = k] · fw_b · Π_r table_{b,r}(q, d_r)` over the blocks of a group -/
def blockLeafL (σ : St R) (et : String) (aShape lens : List Nat) (q : Int) (ds : List Int) (k : Nat) :
    List BlockData → List Expr → R
  | b :: bs, fw :: fws =>
    (if flatIdx aShape (aCoords b.args lens ds) = some k
      then eval x σ fw * prodR (argVals σ et q b.args ds) else 0) +
    blockLeafL σ et aShape lens q ds k bs fws
  | _, _ => 0

/-- what is assumed of every block of the group (from the decidable side conditions) and of its
    output (from `genOneBlock_inv`); `tab` and `fwS` are about the state `σ` in which the section starts -/
structure PairOk (g : GroupDesc) (σ : St R) (q : Int) (b : BlockData) (o : BlockOut) : Prop where
  inv : BlockInv g b o
  nf : ∀ a ∈ b.args, a.table.factors = none
  cov : coversB b.args g.bmLens g.aShape = true
  names : ∀ a ∈ b.args, a.table.name ≠ aName
  fwA : mentionsE aName o.fw = false
  fwD : ∀ n ∈ dofNames, mentionsE n o.fw = false
  tab : ∀ a ∈ b.args, ArgOk σ g.entityType q a
  fwS : safeE σ o.fw = true

/-- **The innermost statement list, block by block** (before the regrouping by subscript): at an index
    tuple in range every term is well defined and together they add the closed form.  Two states: the tables and
    `fw` expressions are assumed, and the closed form is read, in `σ` (where the section starts); the terms run
    in `τ`, which is `σ` with the dof loop indices set to `ds`. -/
theorem block_leaf (hlaw : LawfulExtra x) (g : GroupDesc) (hrule : g.rule.factors = none)
    (σ τ : St R) (q : Int) (ds : List Int)
    (hag : Agree aName (fun n => n ∉ dofNames) (fun _ => True) σ τ)
    (hq : τ.iv.get "iq" = some q) (hb : Bound τ dofNames ds)
    (bs : List BlockData) (os : List BlockOut) (hl : os.length = bs.length)
    (hp : ∀ p ∈ bs.zip os, PairOk g σ q p.1 p.2)
    (hr : ∀ b ∈ bs, InBox (b.args.map (·.table.ndofs)) ds) :
    LeafAdds x aName (sizeProd g.aShape) (os.map (fun o => o.term.aterm g.aShape)) τ
      (fun k => blockLeafL x σ g.entityType g.aShape g.bmLens q ds k bs (os.map (·.fw))) := by
  refine LeafAdds.of_zip x g.aShape (fun k => blockLeafL x σ g.entityType g.aShape g.bmLens q ds k) _
    (fun _ _ _ _ _ => rfl) (fun _ => rfl) bs os hl fun p hp' => ⟨_, _, fun _ => rfl, ?_⟩
  have hpo := hp p hp'
  have hb' := hr p.1 (List.of_mem_zip hp').1
  obtain ⟨efw, sfw⟩ := fw_frame x hag p.2.fw hpo.fwA (fun n hn => not_mem_of_mentions hpo.fwD hn)
  have ht := block_term_sem x hlaw g p.1 p.2 hpo.inv hrule hpo.nf hpo.cov
    hpo.names hpo.fwA τ q ds hq hb hb'
    (fun a ha => ArgOk_agree hag g.entityType q a (hpo.names a ha) (hpo.tab a ha))
    (sfw.symm.trans hpo.fwS)
  rwa [argVals_agree hag g.entityType q p.1.args ds hpo.names, ← efw] at ht

theorem execL_sect_singleton (nm : String) (s : Stmt) (inp out ann : List String) (σ : St R) :
    execL x [.sect nm [] [s] inp out ann] σ = exec x s σ := by
  rw [execL_singleton, exec_sect_eq_bind]
  exact execL_singleton x s σ

/-- **The generated section as a sum over the box of its loop values.**  `hpos` (a non-empty box) has one purpose:
    `nest_accumulate` wants `noA` of the terms once, outside any state, while `LeafAdds.ok` stores it per index
    tuple, so it is fetched at the all-zero tuple (`inBox_zeros`); `coversB_pos` supplies `hpos` to the callers. -/
theorem section_boxSum (aShape : List Nat) (outs : List BlockOut) (ls : List (String × Nat))
    (inp out ann : List String) (F : List Int → Nat → R) (σ : St R)
    (hpos : ∀ d ∈ ls.map (·.2), 1 ≤ d) (hA : AOk aName (sizeProd aShape) σ)
    (hleaf : ∀ vs, InBox (ls.map (·.2)) vs → LeafAdds x aName (sizeProd aShape)
      (outs.map (fun o => o.term.aterm aShape)) (setIVs σ (loopNames ls) vs) (F vs)) :
    ∃ σ', execL x [.sect "Tensor Computation" []
        [nestStmt ls (asStmt ((emittedTerms outs).map (termStmt aShape)))] inp out ann] σ = .ok σ' ∧
      Acc aName (fun n => n ∈ loopNames ls) (fun _ => False)
        (fun k => boxSum (ls.map (·.2)) (fun vs => F vs k)) σ σ' := by
  have hperm : ((emittedTerms outs).map (Term.aterm aShape)).Perm
      (outs.map (fun o => o.term.aterm aShape)) := by
    have := (emittedTerms_perm outs).map (Term.aterm aShape)
    simpa [List.map_map, Function.comp_def] using this
  have hnoA : ∀ u ∈ (emittedTerms outs).map (Term.aterm aShape), ATerm.noA aName u = true :=
    fun u hu => ((hleaf _ (inBox_zeros _ hpos)).ok u (hperm.mem_iff.mp hu)).1
  have hpre : nestPre (sizeProd aShape) ((emittedTerms outs).map (Term.aterm aShape)) ls σ := by
    refine nestPre_of_box _ _ _ σ (fun vs hvs => ?_)
    rw [leafPre_iff]
    exact fun u hu => ((hleaf vs hvs).ok u (hperm.mem_iff.mp hu)).2
  rw [execL_sect_singleton, map_termStmt]
  obtain ⟨σ', he, hacc⟩ := nest_accumulate x _ hnoA (sizeProd aShape) ls σ hA hpre
  refine ⟨σ', he, hacc.congr (fun k => ?_)⟩
  rw [nestSum_eq_boxSum]
  exact boxSum_congr _ _ _ (fun vs hvs => (leafSum_perm x _ k hperm).trans ((hleaf vs hvs).sum k))

theorem lsum_zip_of_rec {β γ : Type} (L : List β → List γ → R) (T : β → γ → R)
    (hc : ∀ b bs c cs, L (b :: bs) (c :: cs) = T b c + L bs cs) (hn : ∀ cs, L [] cs = 0)
    (hn' : ∀ b bs, L (b :: bs) [] = 0) :
    ∀ bs cs, L bs cs = IR.lsum (fun p => T p.1 p.2) (bs.zip cs)
  | [], cs => hn cs
  | b :: bs, [] => hn' b bs
  | b :: bs, c :: cs => by rw [hc, lsum_zip_of_rec L T hc hn hn' bs cs]; rfl

theorem blockLeafL_eq_lsum (σ : St R) (et : String) (aShape lens : List Nat) (q : Int) (ds : List Int) (k : Nat)
    (bs : List BlockData) (fws : List Expr) :
    blockLeafL x σ et aShape lens q ds k bs fws =
      IR.lsum (fun p : BlockData × Expr => if flatIdx aShape (aCoords p.1.args lens ds) = some k
        then eval x σ p.2 * prodR (argVals σ et q p.1.args ds) else 0) (bs.zip fws) :=
  lsum_zip_of_rec (blockLeafL x σ et aShape lens q ds k) _ (fun _ _ _ _ => rfl) (fun _ => rfl) (fun _ _ => rfl)
    bs fws

/-- Fubini between a range and a list -/
theorem isum_lsum {β : Type} (F : Int → β → R) (n : Nat) (lo : Int) : ∀ l : List β,
    isum lo n (fun d => IR.lsum (F d) l) = IR.lsum (fun p => isum lo n (fun d => F d p)) l
  | [] => isum_zero n lo
  | p :: l => by
    simp only [IR.lsum_cons]
    rw [isum_add, isum_lsum F n lo l]

end Ffcx.Codegen
