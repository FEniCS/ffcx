/-
The scope-aware semantics really is block structured: if every name bound in the store is visible in the
block stack before an accepted statement runs, the same holds afterwards — the variables of a block that
was left are gone from the store (erased by `leave`).  `Tight` says "bound ⇒ visible" of the store and of
the bindings the frames have saved; it says nothing of values (that a shadowed outer variable is back with
its old value is shown on one instance, `flat_unfaithful_shadow_counterexample`).  The converse
"visible ⇒ bound" does not hold: a name can be declared without being bound, like the parameter
`custom_data`, which is not part of the store.
-/
import FfcxProofs.Lemmas.ScopeSound

namespace Ffcx.LNodes
variable {R : Type}

/-- `n` has a binding in at least one of the four name spaces -/
def Bound (σ : St R) (n : String) : Prop :=
  σ.iv.get n ≠ none ∨ σ.sv.get n ≠ none ∨ σ.ia.get n ≠ none ∨ σ.sa.get n ≠ none

/-- `Bound` for what a frame has saved of a shadowed name -/
def SavedBound (s : Saved R) : Prop := s.iv ≠ none ∨ s.sv ≠ none ∨ s.ia ≠ none ∨ s.sa ≠ none

/-- whatever a frame remembers as shadowed belongs to a name declared further out -/
def SavedOK : List (Frame R) → Prop
  | [] => True
  | F :: rest => (∀ s, s ∈ F → SavedBound s → declared (stackNames rest) s.name = true) ∧ SavedOK rest

/-- Every name bound in `b.σ` (in any of the four name spaces) is declared in `b.st`; with `SavedOK`,
    so that restoring a shadowed binding on `leave` binds nothing invisible. -/
structure Tight (b : BSt R) : Prop where
  bound : ∀ n, Bound b.σ n → declared (stackNames b.st) n = true
  saved : SavedOK b.st

theorem Bound.of_same4 {m : String} {σ σ' : St R} (h : Same4 m σ σ') (hb : Bound σ' m) : Bound σ m := by
  unfold Bound at *
  rw [h.iv, h.sv, h.ia, h.sa] at hb
  exact hb

theorem restoreFrame_bound (rest : Scopes) : ∀ (F : Frame R) (σ : St R),
    (∀ s, s ∈ F → SavedBound s → declared rest s.name = true) →
    (∀ m, Bound σ m → declared (frameNames F :: rest) m = true) →
    ∀ m, Bound (restoreFrame σ F) m → declared rest m = true
  | [], σ, _, h2, m, hb => by
    rw [← declared_nil_cons]
    exact h2 m hb
  | s :: F, σ, h1, h2, m, hb => by
    simp only [restoreFrame] at hb
    refine restoreFrame_bound rest F (restore1 σ s) (fun s' hs' => h1 s' (List.mem_cons_of_mem _ hs')) ?_ m hb
    intro m' hb'
    rw [declared_cons, Bool.or_eq_true, List.contains_iff_mem]
    by_cases hm : s.name = m'
    · subst hm
      right
      apply h1 s (by simp)
      unfold Bound at hb'
      simpa [restore1, AList.get_put, SavedBound] using hb'
    · have := h2 m' (Bound.of_same4 (restore1_same4 σ s m' hm) hb')
      rw [declared_cons, Bool.or_eq_true, List.contains_iff_mem] at this
      exact this.imp_left fun h => (List.mem_cons.mp h).resolve_left (Ne.symm hm)

-- inside `Tight.enter` the name `enter` is the lemma itself, hence `LNodes.enter` for the step
theorem Tight.enter {b : BSt R} (h : Tight b) : Tight (LNodes.enter b) :=
  ⟨fun n hn => by simpa using h.bound n hn, ⟨fun s hs => by simp at hs, h.saved⟩⟩

theorem Tight.leave {b : BSt R} (h : Tight b) : Tight (LNodes.leave b) := by
  cases hst : b.st with
  | nil => rw [leave_nil hst]; exact h
  | cons F rest =>
    rw [leave_cons hst]
    have hs := h.saved
    rw [hst] at hs
    refine ⟨restoreFrame_bound (stackNames rest) F b.σ hs.1 ?_, hs.2⟩
    rw [← stackNames_cons, ← hst]
    exact h.bound

theorem Tight.decl {b : BSt R} {n : String} {st' : List (Frame R)} (β : Binding R) (k : Kind) (h : Tight b)
    (hd : declareB b.st b.σ n = .ok st') :
    Tight { σ := (b.σ.bind n β).only n k, st := st' } := by
  have hdn := declareB_names b.st b.σ n
  rw [hd] at hdn
  have hdecl := fun m => declare_declared hdn m
  constructor
  · intro m hm
    by_cases hmn : n = m
    · subst hmn; exact (hdecl n).mpr (Or.inl rfl)
    · exact (hdecl m).mpr (Or.inr (h.bound m (Bound.of_same4 (bind_only_same4 b.σ n m β k hmn) hm)))
  · have hsb : SavedBound (saveOf b.σ n) → Bound b.σ n := fun hb => by
      simpa [SavedBound, saveOf, Bound] using hb
    cases hst : b.st with
    | nil =>
      simp only [hst, declareB, Except.ok.injEq] at hd
      subst hd
      refine ⟨?_, trivial⟩
      intro s hs hb
      simp only [List.mem_singleton] at hs
      subst hs
      have := h.bound n (hsb hb)
      simp [hst, stackNames, declared] at this
    | cons F rest =>
      have hs := h.saved
      rw [hst] at hs
      simp only [hst, declareB] at hd
      split at hd
      · simp at hd
      · rename_i hc
        simp only [Except.ok.injEq] at hd
        subst hd
        refine ⟨?_, hs.2⟩
        intro s hs' hb
        rcases List.mem_cons.mp hs' with e | e
        · subst e
          have := h.bound n (hsb hb)
          rw [hst, stackNames_cons, declared_cons, Bool.or_eq_true] at this
          rcases this with h' | h'
          · exact absurd h' hc
          · exact h'
        · exact hs.1 s e hb

theorem Overwrite.bound {σ σ' : St R} (h : Overwrite σ σ') (m : String) (hm : Bound σ' m) :
    Bound σ m := by
  cases h with
  | @sv n v w hv =>
    by_cases hmn : n = m
    · exact Or.inr (Or.inl (by simp [← hmn, hv]))
    · exact Bound.of_same4 (bind_same4 σ n m (.sv w) hmn) hm
  | @sa n a a' ha =>
    by_cases hmn : n = m
    · exact Or.inr (Or.inr (Or.inr (by simp [← hmn, ha])))
    · exact Bound.of_same4 (bind_same4 σ n m (.sa a') hmn) hm

theorem Tight.setIdx {b : BSt R} (i : String) (v : Int) (h : Tight b)
    (hi : declared (stackNames b.st) i = true) : Tight (b.setIdx i v) := by
  refine ⟨?_, h.saved⟩
  intro m hm
  by_cases hmi : i = m
  · subst hmi; exact hi
  · exact h.bound m (Bound.of_same4 (bind_only_same4 b.σ i m (.iv v) .ivar hmi) hm)

variable [Add R] [Sub R] [Mul R] [Div R] [Neg R] [IntCast R]

theorem stepInv_tight (x : Extra R) : StepInv x (Tight (R := R)) where
  enter := Tight.enter
  leave := Tight.leave
  assign ht hs he := ⟨fun n hn => ht.bound n ((exec_assign_overwrite x hs he).bound n hn), ht.saved⟩
  decl := Tight.decl
  setIdx := Tight.setIdx

end Ffcx.LNodes
