/-
Index tuples in a box (`InBox`); the states with the loop indices set to one (`setIVs`), in which the names hold
its values (`BoundAll`); sums over boxes (`boxSum`).  What a generated loop nest adds is a `boxSum` over the states
with the loop indices set (`nestSum_eq_boxSum`); and a function of the row-major flat index summed over a box is
its sum over the flat range (`boxSum_flatten`):
`Σ_{i_0<n_0} … Σ_{i_{D-1}<n_{D-1}} F(Σ stride_d·i_d) = Σ_{i<Πn_d} F(i)`.
-/
import FfcxProofs.Lemmas.CodegenNest
import FfcxProofs.Lemmas.Index

namespace Ffcx.Codegen
open Ffcx.LNodes Lean.Grind
variable {R : Type}

def InBox : List Nat → List Int → Prop
  | n :: ns, v :: vs => (0 ≤ v ∧ v < (n : Int)) ∧ InBox ns vs
  | [], [] => True
  | _, _ => False

/-- `InBox` as the index lemmas (`flatIdx_some_of_inrange`, `evalI_mkMultiIndex`) take it -/
theorem inBox_iff_zip : ∀ {ns : List Nat} {vs : List Int},
    InBox ns vs ↔ vs.length = ns.length ∧ ∀ p ∈ List.zip ns vs, 0 ≤ p.2 ∧ p.2 < (p.1 : Int)
  | [], [] => ⟨fun _ => ⟨rfl, nofun⟩, fun _ => trivial⟩
  | [], _ :: _ => ⟨False.elim, fun h => nomatch h.1⟩
  | _ :: _, [] => ⟨False.elim, fun h => nomatch h.1⟩
  | _ :: ns, _ :: vs =>
    ⟨fun h => have ⟨hl, hr⟩ := (inBox_iff_zip (ns := ns) (vs := vs)).mp h.2
      ⟨congrArg (· + 1) hl, List.forall_mem_cons.2 ⟨h.1, hr⟩⟩,
    fun ⟨hl, hr⟩ => have ⟨h, hr'⟩ := List.forall_mem_cons.1 hr
      ⟨h, inBox_iff_zip.mpr ⟨Nat.succ.inj hl, hr'⟩⟩⟩

theorem InBox.length : ∀ {ns : List Nat} {vs : List Int}, InBox ns vs → vs.length = ns.length :=
  fun h => (inBox_iff_zip.mp h).1

theorem InBox.nil_inv : ∀ {vs : List Int}, InBox [] vs → vs = []
  | [], _ => rfl
  | _ :: _, h => h.elim

theorem InBox.cons_inv {n : Nat} {ns : List Nat} : ∀ {vs : List Int}, InBox (n :: ns) vs →
    ∃ v ws, vs = v :: ws ∧ (0 ≤ v ∧ v < (n : Int)) ∧ InBox ns ws
  | [], h => h.elim
  | v :: ws, h => ⟨v, ws, rfl, h⟩

theorem InBox.split : ∀ (ns ms : List Nat) (vs : List Int), InBox (ns ++ ms) vs →
    InBox ns (vs.take ns.length) ∧ InBox ms (vs.drop ns.length)
  | [], _, _, h => ⟨trivial, h⟩
  | _ :: _, _, [], h => h.elim
  | _ :: ns, ms, _ :: vs, h =>
    have ⟨h1, h2⟩ := InBox.split ns ms vs h.2
    ⟨⟨h.1, h1⟩, h2⟩

theorem inBox_zeros : ∀ (ns : List Nat), (∀ d ∈ ns, 1 ≤ d) → InBox ns (ns.map (fun _ => (0 : Int)))
  | [], _ => trivial
  | n :: ns, h =>
    ⟨⟨Int.le_refl 0, by have := h n (List.mem_cons_self ..); show (0 : Int) < (n : Int); omega⟩,
      inBox_zeros ns (fun d hd => h d (List.mem_cons_of_mem _ hd))⟩

/-- stops at the shorter list; the lemmas about it have equal lengths from `InBox` -/
def setIVs (τ : St R) : List String → List Int → St R
  | s :: ss, v :: vs => setIVs (τ.setIV s v) ss vs
  | _, _ => τ

theorem nestPre_of_box (N : Nat) (terms : List ATerm) : ∀ (ls : List (String × Nat)) (τ : St R),
    (∀ vs, InBox (ls.map (·.2)) vs → leafPre N terms (setIVs τ (loopNames ls) vs)) →
    nestPre N terms ls τ
  | [], _, h => h [] trivial
  | (_, _) :: ls, _, h => fun t ht => nestPre_of_box N terms ls _ (fun vs hvs =>
      h ((t : Int) :: vs) ⟨⟨Int.natCast_nonneg t, Int.ofNat_lt.mpr ht⟩, hvs⟩)

theorem setIVs_get_notin : ∀ (names : List String) (vs : List Int) (τ : St R) (s : String),
    s ∉ names → (setIVs τ names vs).iv.get s = τ.iv.get s
  | [], _, _, _, _ => by simp [setIVs]
  | _ :: _, [], _, _, _ => by simp [setIVs]
  | n :: ns, v :: vs, τ, s, h => by
    simp only [setIVs]
    rw [setIVs_get_notin ns vs _ s (fun h' => h (by simp [h']))]
    simp [St.setIV, AList.get_set_ne _ _ _ _ (fun e : n = s => h (by simp [e]))]

theorem setIVs_frame : ∀ (names : List String) (vs : List Int) (τ : St R),
    (setIVs τ names vs).ia = τ.ia ∧ (setIVs τ names vs).sa = τ.sa ∧ (setIVs τ names vs).sv = τ.sv
  | [], _, _ => by simp [setIVs]
  | _ :: _, [], _ => by simp [setIVs]
  | n :: ns, v :: vs, τ => setIVs_frame ns vs (τ.setIV n v)

def BoundAll (τ : St R) : List String → List Int → Prop
  | s :: ss, v :: vs => τ.iv.get s = some v ∧ BoundAll τ ss vs
  | [], [] => True
  | _, _ => False

theorem setIVs_bound : ∀ (names : List String) (vs : List Int) (τ : St R), names.Nodup →
    vs.length = names.length → BoundAll (setIVs τ names vs) names vs
  | [], [], _, _, _ => trivial
  | [], _ :: _, _, _, h => by simp at h
  | _ :: _, [], _, _, h => by simp at h
  | n :: ns, v :: vs, τ, hnd, hl => by
    simp only [List.nodup_cons] at hnd
    simp only [setIVs, BoundAll]
    refine ⟨?_, setIVs_bound ns vs _ hnd.2 (by simpa using hl)⟩
    rw [setIVs_get_notin ns vs _ n hnd.1]
    simp [St.setIV]

theorem BoundAll.split {τ : St R} : ∀ (l1 l2 : List String) (vs : List Int), BoundAll τ (l1 ++ l2) vs →
    BoundAll τ l1 (vs.take l1.length) ∧ BoundAll τ l2 (vs.drop l1.length)
  | [], _, _, h => ⟨trivial, h⟩
  | _ :: _, _, [], h => h.elim
  | _ :: l1, l2, _ :: vs, h =>
    have ⟨h1, h2⟩ := BoundAll.split l1 l2 vs h.2
    ⟨⟨h.1, h1⟩, h2⟩

theorem boundAll_of_notin (σ : St R) (names : List String) (vs : List Int) :
    ∀ (syms : List String) (qvs : List Int), BoundAll σ syms qvs → (∀ s ∈ syms, s ∉ names) →
      BoundAll (setIVs σ names vs) syms qvs
  | [], [], _, _ => trivial
  | [], _ :: _, h, _ => h.elim
  | _ :: _, [], h, _ => h.elim
  | s :: ss, _ :: qs, h, hn =>
    ⟨(setIVs_get_notin names vs σ s (hn s (List.mem_cons_self ..))).trans h.1,
      boundAll_of_notin σ names vs ss qs h.2 (fun s' hs' => hn s' (List.mem_cons_of_mem _ hs'))⟩

theorem agree_setIVs {A : String} (σ : St R) (names : List String) (vs : List Int) (L : List String)
    (hsub : ∀ n ∈ names, n ∈ L) :
    Agree A (fun n => n ∉ L) (fun _ => True) σ (setIVs σ names vs) := by
  obtain ⟨h1, h2, h3⟩ := setIVs_frame names vs σ
  exact ⟨h1, fun n hn => setIVs_get_notin names vs σ n (fun h => hn (hsub n h)),
    fun n _ => by rw [h3], fun n _ => by rw [h2]⟩

theorem BoundAll.evalIs_eq : ∀ {τ : St R} {names : List String} {vs : List Int}, BoundAll τ names vs →
    LNodes.evalIs τ.iv τ.ia (names.map isym) = some vs
  | _, [], [], _ => rfl
  | _, [], _ :: _, h => h.elim
  | _, _ :: _, [], h => h.elim
  | τ, s :: ss, v :: vs, h => by
    simp only [BoundAll] at h
    simp [LNodes.evalIs, isym, evalI, h.1, BoundAll.evalIs_eq h.2]

variable [Field R] (x : Extra R)

/-- `Σ_{v_0<n_0} Σ_{v_1<n_1} … f [v_0, v_1, …]` (outermost first) -/
def boxSum : List Nat → (List Int → R) → R
  | [], f => f []
  | n :: ns, f => isum 0 n (fun v => boxSum ns (fun vs => f (v :: vs)))

theorem boxSum_congr : ∀ (ns : List Nat) (f g : List Int → R),
    (∀ vs, InBox ns vs → f vs = g vs) → boxSum ns f = boxSum ns g
  | [], f, g, h => h [] trivial
  | n :: ns, f, g, h => by
    simp only [boxSum]
    apply isum_congr
    intro v h0 h1
    exact boxSum_congr ns _ _ (fun vs hvs => h (v :: vs) ⟨⟨h0, by omega⟩, hvs⟩)

theorem boxSum_append : ∀ (ns ms : List Nat) (f : List Int → R),
    boxSum (ns ++ ms) f = boxSum ns (fun vs => boxSum ms (fun ws => f (vs ++ ws)))
  | [], ms, f => by simp [boxSum]
  | n :: ns, ms, f => by
    simp only [List.cons_append, boxSum]
    apply isum_congr
    intro v _ _
    rw [boxSum_append ns ms]

theorem nestSum_eq_boxSum (terms : List ATerm) : ∀ (ls : List (String × Nat)) (τ : St R) (k : Nat),
    nestSum x terms ls τ k =
      boxSum (ls.map (·.2)) (fun vs => leafSum x terms (setIVs τ (loopNames ls) vs) k)
  | [], _, _ => rfl
  | (i, n) :: ls, τ, k => by
    simp only [nestSum, loopNames, List.map_cons, boxSum, setIVs]
    apply isum_congr
    intro v _ _
    exact nestSum_eq_boxSum terms ls _ k

theorem boxSum_flatten : ∀ (ns : List Nat) (F : Int → R),
    boxSum ns (fun vs => F (dotStrides (strides ns) vs)) = isum 0 (sizeProd ns) F
  | [], F => by simp [boxSum, dotStrides, strides, sizeProd, isum]; grind
  | n :: ns, F => by
    simp only [boxSum, strides, dotStrides]
    have h : ∀ v : Int, boxSum ns (fun vs => F ((ns.foldr (· * ·) 1 : Nat) * v + dotStrides (strides ns) vs)) =
        isum 0 (sizeProd ns) (fun b => F (v * (sizeProd ns : Nat) + b)) := by
      intro v
      rw [boxSum_flatten ns (fun b => F ((ns.foldr (· * ·) 1 : Nat) * v + b))]
      apply isum_congr; intro b _ _
      simp only [sizeProd]; congr 1; rw [Int.mul_comm]
    simp only [h]
    rw [isum_flatten2 F (sizeProd ns) n]
    simp [sizeProd]

end Ffcx.Codegen
