/-
Commutation of statements.

`exec_commute_obs`: `s₁; s₂` and `s₂; s₁` either both fail or both succeed in states that agree
outside a set `D` of integer variables, provided neither writes what the other reads free and a name
written by both is a loop index in `D` that neither stores (`ObsEq D`, lifted to outcomes by `ObsRes D`).
The proof needs two frame facts: a run leaves alone what the statement never writes (`exec_sameAt`)
and, up to the integer variable, what it only binds as a loop index (`exec_keepNI`); together they
are `exec_frameQ`.  With disjoint name-level footprints `D` is empty and the final states are
extensionally equal (`exec_commute`): the fact behind the statement-granularity interleaving theorem
of C07.  The optimiser passes use `exec_commute_obs` through the certificate `commB` (Lemmas/OptObs).
-/
import FfcxProofs.Lemmas.AgreeOnExec
import FfcxProofs.Lemmas.Unwritten
import FfcxModel.LNodes.OptCert

namespace Ffcx.LNodes
open Ffcx.LNodes.Opt
variable {R : Type}

/-- extensional equality of states -/
def StEq (σ τ : St R) : Prop := AgreeOn (fun _ => True) σ τ

theorem StEq.refl (σ : St R) : StEq σ σ := (AgreeOnQ.refl σ).ofSame

/-- outcomes equivalent: both fail, or both succeed in extensionally equal states -/
def ResEq : Except Err (St R) → Except Err (St R) → Prop
  | .ok a, .ok b => StEq a b
  | .error _, .error _ => True
  | _, _ => False

theorem resEq_iff {a b : Except Err (St R)} : ResEq a b ↔ OutRel (fun _ _ => True) StEq a b := by
  cases a <;> cases b <;> exact Iff.rfl

mutual
theorem neverWritten_of_not_mentions (n : String) : ∀ (s : Stmt), mentionsS n s = false →
    neverWritten n s = true
  | .assign l r => fun h => by
    simp only [mentionsS, Bool.or_eq_false_iff] at h
    exact (neverWritten_target_of_not_mentions r h.1).1
  | .addAssign l r => fun h => by
    simp only [mentionsS, Bool.or_eq_false_iff] at h
    exact (neverWritten_target_of_not_mentions r h.1).2
  | .vdecl m dt v => fun h => by
    simp only [mentionsS, Bool.or_eq_false_iff] at h
    simp only [neverWritten, bne, h.1, Bool.not_false]
  | .adecl m dt sizes c vals => fun h => by
    simp only [mentionsS, Bool.or_eq_false_iff] at h
    simp only [neverWritten, bne, h.1, Bool.not_false]
  | .forRange i lo hi body => fun h => by
    simp only [mentionsS, Bool.or_eq_false_iff] at h
    simp only [neverWritten, bne, h.1.1.1, Bool.not_false, neverWrittenL_of_not_mentions n body h.2,
      Bool.and_self]
  | .comment _ => fun _ => rfl
  | .block ss => fun h => by
    simp only [mentionsS] at h
    simp only [neverWritten, neverWrittenL_of_not_mentions n ss h]
  | .sect _ decls stmts _ _ _ => fun h => by
    simp only [mentionsS, Bool.or_eq_false_iff] at h
    simp only [neverWritten, neverWrittenL_of_not_mentions n decls h.1,
      neverWrittenL_of_not_mentions n stmts h.2, Bool.and_self]

theorem neverWrittenL_of_not_mentions (n : String) : ∀ (ss : List Stmt), mentionsSL n ss = false →
    neverWrittenL n ss = true
  | [], _ => rfl
  | s :: ss, h => by
    simp only [mentionsSL, Bool.or_eq_false_iff] at h
    simp only [neverWrittenL, neverWritten_of_not_mentions n s h.1,
      neverWrittenL_of_not_mentions n ss h.2, Bool.and_self]
end

/-- the scalar variable / scalar array called `n` and all integer arrays are untouched: `SameAt`
    (Lemmas/Unwritten) without the integer variable, which a loop over `n` binds -/
structure KeepNI (n : String) (σ σ' : St R) : Prop where
  sa : σ'.sa.get n = σ.sa.get n
  sv : σ'.sv.get n = σ.sv.get n
  ia : σ'.ia = σ.ia

theorem KeepNI.refl (n : String) (σ : St R) : KeepNI n σ σ := ⟨rfl, rfl, rfl⟩

theorem KeepNI.trans {n : String} {a b c : St R} (h1 : KeepNI n a b) (h2 : KeepNI n b c) :
    KeepNI n a c := ⟨h2.sa.trans h1.sa, h2.sv.trans h1.sv, h2.ia.trans h1.ia⟩

theorem noStore_closed (n : String) : SubClosed (noStore n · = true) (noStoreL n · = true) where
  cons h := by simpa only [noStoreL, Bool.and_eq_true] using h
  block h := by simpa only [noStore] using h
  sect h := by simpa only [noStore, Bool.and_eq_true] using h
  body h := by simpa only [noStore] using h

/-- on the storing statements `noStore` and `neverWritten` ask the same -/
theorem neverWritten_eq_noStore {n : String} {s : Stmt} (hl : Leaf s) : neverWritten n s = noStore n s := by
  cases hl with
  | assign l r | addAssign l r => cases l <;> rfl
  | vdecl n dt v | adecl n dt sz c vals => rfl

variable [Add R] [Sub R] [Mul R] [Div R] [Neg R] [IntCast R] (x : Extra R)

/-- `noStore` differs from `neverWritten` only at loops, which may bind `n`: binding changes no
    component that `KeepNI` looks at; the storing statements are those of `exec_sameAt` -/
theorem exec_keepNI (n : String) (s : Stmt) (σ σ' : St R) (hs : noStore n s = true)
    (h : exec x s σ = .ok σ') : KeepNI n σ σ' :=
  exec_inv (interp_exec x) (noStore_closed n)
    (fun hl hs a b ha hab =>
      have hb := leaf_sameAt x n hl (neverWritten_eq_noStore hl ▸ hs) a b hab
      ha.trans ⟨hb.sa, hb.sv, hb.ia⟩)
    (fun _ _ _ ha => ha.trans ⟨rfl, rfl, rfl⟩) s σ σ' hs (.refl n σ) h

theorem execL_keepNI (n : String) : ∀ (ss : List Stmt) (σ σ' : St R), noStoreL n ss = true →
    execL x ss σ = .ok σ' → KeepNI n σ σ' :=
  fun ss σ σ' hs h => exec_keepNI x n (.block ss) σ σ' (by simpa only [noStore] using hs)
    (by simpa only [exec] using h)

/-- integer variables agree outside `D`; scalar variables and all arrays agree -/
def ObsEq (D : String → Prop) (σ τ : St R) : Prop :=
  AgreeOnQ (fun n => ¬ D n) (fun _ => True) σ τ

/-- both fail (with whatever errors), or both succeed in states that are `ObsEq D` -/
def ObsRes (D : String → Prop) : Except Err (St R) → Except Err (St R) → Prop
  | .ok a, .ok b => ObsEq D a b
  | .error _, .error _ => True
  | _, _ => False

variable {D : String → Prop}

/-- what a successful run of `s` leaves unchanged -/
theorem exec_frameQ (s : Stmt) (a b : St R) (hab : exec x s a = .ok b) :
    AgreeOnQ (fun n => neverWritten n s = true)
      (fun n => neverWritten n s = true ∨ noStore n s = true) a b := by
  refine ⟨fun n hn => (exec_sameAt x n s a b hn hab).iv.symm, ?_, ?_, ?_⟩
  · intro n hn
    rcases hn with hn | hn
    · exact (exec_sameAt x n s a b hn hab).sv.symm
    · exact (exec_keepNI x n s a b hn hab).sv.symm
  · intro n hn
    rcases hn with hn | hn
    · rw [(exec_sameAt x n s a b hn hab).ia]
    · rw [(exec_keepNI x n s a b hn hab).ia]
  · intro n hn
    rcases hn with hn | hn
    · exact (exec_sameAt x n s a b hn hab).sa.symm
    · exact (exec_keepNI x n s a b hn hab).sa.symm

/-- `s₁; s₂ ≈ s₂; s₁` when neither writes what the other reads free, what one mentions is at most a
    loop index in the other, and names written by both are dead indices stored by neither -/
theorem exec_commute_obs (s₁ s₂ : Stmt)
    (h12 : ∀ n, freeS n s₁ = true → neverWritten n s₂ = true)
    (h21 : ∀ n, freeS n s₂ = true → neverWritten n s₁ = true)
    (hm12 : ∀ n, mentionsS n s₁ = true → neverWritten n s₂ = true ∨ noStore n s₂ = true)
    (hm21 : ∀ n, mentionsS n s₂ = true → neverWritten n s₁ = true ∨ noStore n s₁ = true)
    (hD : ∀ n, neverWritten n s₁ = false → neverWritten n s₂ = false →
      D n ∧ noStore n s₁ = true ∧ noStore n s₂ = true) (σ : St R) :
    ObsRes D ((exec x s₁ σ).bind (exec x s₂)) ((exec x s₂ σ).bind (exec x s₁)) := by
  have frame := exec_frameQ x
  have r1 := fun σ₂ e2 => exec_agreeOnQ x s₁ _ σ σ₂ h12 hm12 (frame s₂ σ σ₂ e2)
  have r2 := fun σ₁ e1 => exec_agreeOnQ x s₂ _ σ σ₁ h21 hm21 (frame s₁ σ σ₁ e1)
  cases e1 : exec x s₁ σ with
  | error err1 =>
    cases e2 : exec x s₂ σ with
    | error err2 => trivial
    | ok σ₂ =>
      obtain ⟨_, e3, _⟩ := (e1 ▸ r1 σ₂ e2).error_left
      simp only [Except.bind, e3]
      trivial
  | ok σ₁ =>
    cases e2 : exec x s₂ σ with
    | error err2 =>
      obtain ⟨_, e4, _⟩ := (e2 ▸ r2 σ₁ e1).error_left
      simp only [Except.bind, e4]
      trivial
    | ok σ₂ =>
      obtain ⟨σA, e4, r2⟩ := (e2 ▸ r2 σ₁ e1).ok_left   -- σ₂ ~ σA on what s₁ leaves
      obtain ⟨σB, e3, r1⟩ := (e1 ▸ r1 σ₂ e2).ok_left   -- σ₁ ~ σB on what s₂ leaves
      simp only [Except.bind, e4, e3, ObsRes, ObsEq]
      have fA := frame s₂ σ₁ σA e4
      have fB := frame s₁ σ₂ σB e3
      -- what s₂ leaves: σA ~ σ₁ ~ σB; what s₁ leaves: σA ~ σ₂ ~ σB
      have c2 := fA.symm.trans r1
      have c1 := r2.symm.trans fB
      -- what both write but neither stores: σA ~ σ₁ ~ σ ~ σ₂ ~ σB
      have c0 : AgreeOnQ (fun _ => False)
          (fun n => noStore n s₁ = true ∧ noStore n s₂ = true) σA σB :=
        (((fA.symm.mono (fun _ h => h.elim) (fun _ h => Or.inr h.2)).trans
          ((frame s₁ σ σ₁ e1).symm.mono (fun _ h => h.elim) (fun _ h => Or.inr h.1))).trans
          ((frame s₂ σ σ₂ e2).mono (fun _ h => h.elim) (fun _ h => Or.inr h.2))).trans
          (fB.mono (fun _ h => h.elim) (fun _ h => Or.inr h.1))
      have cover : ∀ n, neverWritten n s₁ = true ∨ neverWritten n s₂ = true ∨
          (D n ∧ noStore n s₁ = true ∧ noStore n s₂ = true) := by
        intro n
        cases h1 : neverWritten n s₁
        · cases h2 : neverWritten n s₂
          · exact Or.inr (Or.inr (hD n h1 h2))
          · exact Or.inr (Or.inl rfl)
        · exact Or.inl rfl
      refine ((c1.union c2).union c0).mono (fun n hn => ?_) (fun n _ => ?_)
      · rcases cover n with h | h | h
        · exact Or.inl (Or.inl h)
        · exact Or.inl (Or.inr h)
        · exact absurd h.1 hn
      · rcases cover n with h | h | h
        · exact Or.inl (Or.inl (Or.inl h))
        · exact Or.inl (Or.inr (Or.inl h))
        · exact Or.inr h.2

/-- the name-level case: nothing is written by both, so the states agree everywhere.  The conclusion is
    `ResEq` written out. -/
theorem exec_commute (s₁ s₂ : Stmt)
    (h12 : ∀ n, mentionsS n s₁ = true → neverWritten n s₂ = true)
    (h21 : ∀ n, mentionsS n s₂ = true → neverWritten n s₁ = true) (σ : St R) :
    match (exec x s₁ σ).bind (exec x s₂), (exec x s₂ σ).bind (exec x s₁) with
    | .ok a, .ok b => StEq a b
    | .error _, .error _ => True
    | _, _ => False := by
  have h := exec_commute_obs x (D := fun _ => False) s₁ s₂
    (fun n hn => h12 n (mentions_of_free n s₁ hn)) (fun n hn => h21 n (mentions_of_free n s₂ hn))
    (fun n hn => .inl (h12 n hn)) (fun n hn => .inl (h21 n hn))
    (fun n h1 h2 => by
      cases hm : mentionsS n s₁
      · rw [neverWritten_of_not_mentions n s₁ hm] at h1; cases h1
      · rw [h12 n hm] at h2; cases h2) σ
  generalize (exec x s₁ σ).bind (exec x s₂) = a at h ⊢
  generalize (exec x s₂ σ).bind (exec x s₁) = b at h ⊢
  cases a <;> cases b
  · trivial
  · exact h
  · exact h
  · exact ⟨fun n _ => h.iv n not_false, h.sv, h.ia, h.sa⟩

end Ffcx.LNodes
