/-
C16 — numba statements, text level: how `pyLines` reads physical lines. The flat Python lexer is
line-compositional (`lexPyFlat_lines`), and a logical line, that is physical lines whose line
breaks are all inside brackets (`walk`), moved to the current indentation, is read as its tokens
and one NEWLINE (`pyLines_logical`).
-/
import FfcxProofs.Lemmas.FormatPyLex
import FfcxProofs.Lemmas.FormatStmtLex
namespace Ffcx.LNodes.Fmt

/-- the line break ends every token, and a comment -/
theorem pyTrans_nl (st : PLS) : pyTrans st '\n' = (pyFlush st ++ [.newline], .start) := by
  by_cases h : st = .comment
  · subst h; rfl
  · exact pyTrans_sep (pySepChar_low h (c := '\n') (by decide))

theorem lexPyFlat_nl (a b : List Char) : lexPyFlat (a ++ '\n' :: b) = lexPyFlat a ++ .newline :: lexPyFlat b := by
  simp only [lexPyFlat_eq]
  exact Lexer.run_break (M := pyLexer) (o := [.newline]) pyTrans_nl _ a b

theorem lexPyFlat_spaces {s : List Char} (hs : s.all isPySpace = true) (cs : List Char) :
    lexPyFlat (s ++ cs) = lexPyFlat cs := by
  simp only [lexPyFlat_eq]
  exact Lexer.run_reset _ (pyFeed_spaces hs) cs

/-- the model's `joinT [.newline]` with the separator consed, as `joinNL` -/
def joinTokNL : List (List Tok) → List Tok
  | [] => []
  | [l] => l
  | l :: l' :: ls => l ++ .newline :: joinTokNL (l' :: ls)

theorem lexPyFlat_joinNL (ls : List (List Char)) : lexPyFlat (joinNL ls) = joinTokNL (ls.map lexPyFlat) := by
  induction ls with
  | nil => rfl
  | cons l ls ih =>
    cases ls with
    | nil => simp [joinNL, joinTokNL]
    | cons l' ls => simp only [joinNL, lexPyFlat_nl, ih, List.map_cons, joinTokNL]

theorem lexPyFlat_lines (cs : List Char) : lexPyFlat cs = joinTokNL ((splitLines [] cs).map lexPyFlat) := by
  rw [← lexPyFlat_joinNL, joinNL_splitLines]

theorem toksN_filter : ∀ ps : List Piece, pySepNL ps = true → (toksN ps).filter (· != .newline) = toks ps := by
  intro ps
  induction ps with
  | nil => intro _; rfl
  | cons pc ps ih =>
    intro h
    cases pc with
    | ws s =>
      simp only [pySepNL, Bool.and_eq_true] at h
      simp only [toksW, nlTok, toks]
      split
      · simp [ih h.2]
      · exact ih h.2
    | t a =>
      simp only [pySepNL, Bool.and_eq_true] at h
      have : a ≠ .newline := by intro e; subst e; simp [pyTokOK] at h
      simp only [toksW, toks, List.filter_cons]
      have hb : (a != Tok.newline) = true := by simpa using this
      rw [hb]; simp [ih h.2]

def isOpenT (t : Tok) : Prop := t = .p .lpar ∨ t = .p .lbrack ∨ t = .p .lbrace
def isCloseT (t : Tok) : Prop := t = .p .rpar ∨ t = .p .rbrack ∨ t = .p .rbrace

instance (t : Tok) : Decidable (isOpenT t) := by unfold isOpenT; infer_instance
instance (t : Tok) : Decidable (isCloseT t) := by unfold isCloseT; infer_instance

theorem depthAfter_cons (d : Nat) (t : Tok) (ts : List Tok) :
    depthAfter d (t :: ts) = depthAfter (if isOpenT t then d + 1 else if isCloseT t then d - 1 else d) ts := by
  by_cases ho : isOpenT t
  · rw [if_pos ho]
    rcases ho with rfl | rfl | rfl <;> rfl
  · by_cases hc : isCloseT t
    · rw [if_neg ho, if_pos hc]
      rcases hc with rfl | rfl | rfl <;> rfl
    · rw [if_neg ho, if_neg hc]
      simp only [isOpenT, isCloseT, not_or] at ho hc
      -- the catch-all is the eighth of `depthAfter`'s alternatives (a further bracket kind would renumber it); its
      -- equation asks for exactly these six inequalities
      exact depthAfter.eq_8 d t ts ho.1 ho.2.1 ho.2.2 hc.1 hc.2.1 hc.2.2

/-- walk through tokens from depth `d`: a NEWLINE may only occur inside brackets, a closing bracket
    needs an open one -/
def walk : Nat → List Tok → Option Nat
  | d, [] => some d
  | d, t :: ts =>
    if t = .newline then (if 0 < d then walk d ts else none)
    else if isOpenT t then walk (d + 1) ts
    else if isCloseT t then (if 0 < d then walk (d - 1) ts else none)
    else walk d ts

theorem walk_append (a b : List Tok) : ∀ d, walk d (a ++ b) = (walk d a).bind (fun d' => walk d' b) := by
  induction a with
  | nil => intro d; rfl
  | cons t ts ih =>
    intro d
    simp only [List.cons_append, walk, ih, apply_ite (Option.bind · fun d' => walk d' b), Option.bind_none]

/-- where `walk` succeeds, every NEWLINE is inside brackets and `depthAfter`, which does not see them, agrees -/
theorem walk_depthAfter : ∀ (ts : List Tok) (d d' : Nat), walk d ts = some d' →
    depthAfter d (ts.filter (· != .newline)) = d' := by
  intro ts
  induction ts with
  | nil => intro d d' h; exact Option.some.inj h
  | cons t ts ih =>
    intro d d' h
    rw [walk] at h
    by_cases hn : t = .newline
    · subst hn
      rw [if_pos rfl] at h
      split at h
      · exact ih _ _ h
      · cases h
    · rw [if_neg hn] at h
      rw [List.filter_cons_of_pos (by simpa using hn), depthAfter_cons]
      refine ih _ _ ?_
      by_cases ho : isOpenT t
      · rwa [if_pos ho] at h ⊢
      · rw [if_neg ho] at h ⊢
        by_cases hc : isCloseT t
        · rw [if_pos hc] at h ⊢
          split at h
          · exact h
          · cases h
        · rwa [if_neg hc] at h ⊢

def lineToks (l : List Char) : List Tok := (lexPyFlat l).filter (· != .newline)

theorem pyLines_cont_step (st : List Nat) {d : Nat} (hd : 0 < d) (l : List Char) (ls : List (List Char)) :
    pyLines st d (l :: ls) = (pyLines st (depthAfter d (lineToks l)) ls).map
      (fun r => lineToks l ++ (if depthAfter d (lineToks l) == 0 then [.newline] else []) ++ r) := by
  rw [pyLines]
  simp only [hd, if_true, lineToks]
  rfl

theorem pyLines_blank (st : List Nat) {l : List Char} (hb : isBlankLine l = true) (ls : List (List Char)) :
    pyLines st 0 (l :: ls) = pyLines st 0 ls := by
  rw [pyLines]
  simp [hb]

theorem pyLines_real (cur : Nat) (st0 : List Nat) {l : List Char} (hb : isBlankLine l = false) (ls : List (List Char)) :
    pyLines (cur :: st0) 0 (l :: ls) =
      (if leadingSpaces l > cur then
        (pyLines (leadingSpaces l :: cur :: st0) (depthAfter 0 (lineToks l)) ls).map
          (fun r => [.indent] ++ lineToks l ++ (if depthAfter 0 (lineToks l) == 0 then [.newline] else []) ++ r)
      else if leadingSpaces l == cur then
        (pyLines (cur :: st0) (depthAfter 0 (lineToks l)) ls).map
          (fun r => [] ++ lineToks l ++ (if depthAfter 0 (lineToks l) == 0 then [.newline] else []) ++ r)
      else match popTo (leadingSpaces l) (cur :: st0) with
        | some (o, st') => (pyLines st' (depthAfter 0 (lineToks l)) ls).map
          (fun r => o ++ lineToks l ++ (if depthAfter 0 (lineToks l) == 0 then [.newline] else []) ++ r)
        | none => none) := by
  rw [pyLines]
  simp only [Nat.lt_irrefl, if_false, hb, Bool.false_eq_true, lineToks]
  rfl

theorem pyLines_same (n : Nat) (st' : List Nat) {l : List Char} (hb : isBlankLine l = false)
    (hn : leadingSpaces l = n) (ls : List (List Char)) :
    pyLines (n :: st') 0 (l :: ls) = (pyLines (n :: st') (depthAfter 0 (lineToks l)) ls).map
      (fun r => lineToks l ++ (if depthAfter 0 (lineToks l) == 0 then [.newline] else []) ++ r) := by
  rw [pyLines_real n st' hb, hn, if_neg (Nat.lt_irrefl n), if_pos (beq_self_eq_true n)]
  rfl

/-- a non-blank line that is not indented deeper than the current level: DEDENTs down to its level (`popTo`; none
    if it is at the current level, which `pyLines` tests separately) -/
theorem pyLines_low (cur : Nat) (st0 : List Nat) {l : List Char} (hb : isBlankLine l = false)
    (hk : leadingSpaces l ≤ cur) (ls : List (List Char)) :
    pyLines (cur :: st0) 0 (l :: ls) = (popTo (leadingSpaces l) (cur :: st0)).bind fun p =>
      (pyLines p.2 (depthAfter 0 (lineToks l)) ls).map
        (fun r => p.1 ++ lineToks l ++ (if depthAfter 0 (lineToks l) == 0 then [.newline] else []) ++ r) := by
  rw [pyLines_real cur st0 hb, if_neg (by omega)]
  by_cases h : leadingSpaces l = cur
  · have hp : popTo (leadingSpaces l) (cur :: st0) = some ([], cur :: st0) := by simp [popTo, h]
    rw [hp, if_pos (by simpa using h)]
    rfl
  · rw [if_neg (by simpa using h)]
    cases popTo (leadingSpaces l) (cur :: st0) with
    | none => rfl
    | some p => rfl

theorem pyLines_indent (m : Nat) (st' : List Nat) {l : List Char} (hb : isBlankLine l = false)
    (hn : m < leadingSpaces l) (ls : List (List Char)) :
    pyLines (m :: st') 0 (l :: ls) = (pyLines (leadingSpaces l :: m :: st') (depthAfter 0 (lineToks l)) ls).map
      (fun r => [.indent] ++ lineToks l ++ (if depthAfter 0 (lineToks l) == 0 then [.newline] else []) ++ r) := by
  rw [pyLines_real m st' hb, if_pos hn]

def ind (n : Nat) (l : List Char) : List Char := List.replicate n ' ' ++ l

theorem lineToks_ind (n : Nat) (l : List Char) : lineToks (ind n l) = lineToks l := by
  unfold lineToks ind
  rw [lexPyFlat_spaces]
  simp [isPySpace]

theorem leadingSpaces_ind (n : Nat) (l : List Char) : leadingSpaces (ind n l) = n + leadingSpaces l := by
  unfold ind
  induction n with
  | zero => simp
  | succ k ih => simp [List.replicate_succ, leadingSpaces, ih]; omega

theorem isBlankLine_ind (n : Nat) (l : List Char) : isBlankLine (ind n l) = isBlankLine l := by
  unfold isBlankLine ind
  congr 1
  induction n with
  | zero => rfl
  | succ k ih =>
    rw [List.replicate_succ, List.cons_append, List.dropWhile_cons]
    simp [ih]

/-- a line that starts with a character that is neither blank nor `#`: it is no blank line and has
    no indentation of its own (`realStart_not_blank`, `realStart_leading`). Every statement line is
    one, since it starts with an identifier (`pieces_lines`). -/
def RealStart (l : List Char) : Prop :=
  ∃ c cs, l = c :: cs ∧ c ≠ ' ' ∧ c ≠ '\t' ∧ c ≠ '\r' ∧ c ≠ '#'

theorem realStart_not_blank {l : List Char} (h : RealStart l) : isBlankLine l = false := by
  obtain ⟨c, cs, rfl, h1, h2, h3, h4⟩ := h
  unfold isBlankLine
  have : List.dropWhile (fun c => c == ' ' || c == '\t' || c == '\r') (c :: cs) = c :: cs := by
    rw [List.dropWhile_cons]; simp [h1, h2, h3]
  rw [this]
  split
  · rename_i heq; simp at heq
  · rename_i heq; simp at heq; exact absurd heq.1 h4
  · rfl

theorem realStart_leading {l : List Char} (h : RealStart l) : leadingSpaces l = 0 := by
  obtain ⟨c, cs, rfl, h1, _⟩ := h
  unfold leadingSpaces
  split
  · rename_i heq; simp at heq; exact absurd heq.1 h1
  · rfl

theorem walk_nl_cons {d : Nat} {J : List Tok} {r : Nat} (h : walk d (.newline :: J) = some r) :
    0 < d ∧ walk d J = some r := by
  simp only [walk, if_true] at h
  split at h
  · rename_i hd; exact ⟨hd, h⟩
  · exact absurd h (by simp)

/-- physical lines `l :: ls` that close all brackets only at their end, from bracket depth `d`;
    the second premise is how `pyLines` reads `l`: as a continuation line (`0 < d`) or as a line at the
    current indentation (`d = 0`). The lines after `l` are continuation lines. -/
theorem pyLines_cont (st : List Nat) (rest : List (List Char)) (n : Nat) :
    ∀ (ls : List (List Char)) (l : List Char) (d : Nat),
    walk d (joinTokNL ((l :: ls).map lexPyFlat)) = some 0 →
    (∀ X, pyLines st d (ind n l :: X) = (pyLines st (depthAfter d (lineToks l)) X).map
      (fun r => lineToks l ++ (if depthAfter d (lineToks l) == 0 then [.newline] else []) ++ r)) →
    pyLines st d ((l :: ls).map (ind n) ++ rest)
      = (pyLines st 0 rest).map (fun r => (l :: ls).flatMap lineToks ++ [.newline] ++ r) := by
  intro ls
  induction ls with
  | nil =>
    intro l d hw hstep
    simp [hstep, show depthAfter d (lineToks l) = 0 from walk_depthAfter _ _ _ hw]
  | cons l2 more ih =>
    intro l d hw hstep
    simp only [List.map_cons, joinTokNL] at hw
    rw [walk_append] at hw
    cases h1 : walk d (lexPyFlat l) with
    | none => simp [h1] at hw
    | some d1 =>
      rw [h1, Option.bind_some] at hw
      obtain ⟨hd1, hw2⟩ := walk_nl_cons hw
      have hdd : depthAfter d (lineToks l) = d1 := walk_depthAfter _ _ _ h1
      have hne : (d1 == 0) = false := by simp; omega
      have := ih l2 d1 hw2
        (fun X => by rw [pyLines_cont_step st hd1, lineToks_ind])
      rw [List.map_cons, List.cons_append, hstep, hdd, this, Option.map_map]
      simp [hne, Function.comp_def]

/-- a logical line: physical lines `lines` (the first starts with a real character, all
    line breaks are inside brackets) at indentation `n`, which is the current level -/
theorem pyLines_logical (n : Nat) (st' : List Nat) (rest : List (List Char)) (lines : List (List Char))
    (hfirst : ∃ l tail, lines = l :: tail ∧ RealStart l)
    (hw : walk 0 (joinTokNL (lines.map lexPyFlat)) = some 0) :
    pyLines (n :: st') 0 (lines.map (ind n) ++ rest)
      = (pyLines (n :: st') 0 rest).map (fun r => lines.flatMap lineToks ++ [.newline] ++ r) := by
  obtain ⟨l, tail, rfl, hreal⟩ := hfirst
  have hb : isBlankLine (ind n l) = false := by rw [isBlankLine_ind]; exact realStart_not_blank hreal
  have hn : leadingSpaces (ind n l) = n := by rw [leadingSpaces_ind, realStart_leading hreal]; omega
  exact pyLines_cont (n :: st') rest n tail l 0 hw fun X => by rw [pyLines_same n st' hb hn, lineToks_ind]

/-! Not used by the rest of the development; kept for their own sake. -/

theorem lexPyFlat_nil : lexPyFlat [] = [] := rfl

theorem pySepNL_toks_ok : ∀ ps : List Piece, pySepNL ps = true → ∀ t ∈ toks ps, pyTokOK t = true :=
  nlEqs.toks_ok

end Ffcx.LNodes.Fmt
