/-
C16 — numba, no token fusion: token classes at the boundaries of Python expression texts, which
characters end a pending token, and the laws (`pyLaws`) through which the closure lemmas of
FormatSepExpr apply to the Python lexer.
-/
import FfcxProofs.Lemmas.FormatPyLex
import FfcxProofs.Lemmas.FormatSepExpr

namespace Ffcx.LNodes.Fmt

/-- the tokens a Python expression text may begin with -/
def pyIsFirst (t : Tok) : Bool :=
  pyTokOK t && (match t with
    | .num _ | .id _ | .p .minus | .p .lpar => true
    | _ => false)

/-- the tokens it may end with -/
def pyIsLast (t : Tok) : Bool :=
  pyTokOK t && (match t with
    | .num _ | .id _ | .p .rpar | .p .rbrack => true
    | _ => false)

theorem pySepTok_start {x y : Tok} (hx : pyStTok x = .start) (hy : pyTokOK y = true) : pySepTok x y = true := by
  obtain ⟨c, cs, h⟩ := pyReads.text_ne hy
  simp [pySepTok, h, hx, pySepChar]

theorem pyStTok_rpar : pyStTok (.p .rpar) = .start := by decide +kernel
theorem pyStTok_rbrack : pyStTok (.p .rbrack) = .start := by decide +kernel

theorem pyStTok_num {s : String} (h : pyTokOK (.num s) = true) :
    ∃ acc, pyStTok (.num s) = .num acc ∧ ((acc.headD '0').isDigit || acc.headD '0' == 'j') = true := by
  obtain ⟨c, cs, e, _, _, hl⟩ := pyTokOK_num h
  exact ⟨s.toList.reverse, (pyStTok_eq _).trans (congrArg Prod.snd (pyFeed_numTok h)),
    e ▸ lastOf_eq_headD c cs '0' ▸ hl⟩

theorem pyStTok_id {s : String} (h : pyTokOK (.id s) = true) : ∃ acc, pyStTok (.id s) = .ident acc :=
  ⟨s.toList.reverse, (pyStTok_eq _).trans (congrArg Prod.snd (pyFeed_id h))⟩

/-- after the last token of an expression text nothing is pending, or an identifier, or a number
    whose last character is a digit or `j` (no exponent marker, so no sign continues it): every
    character that is no identifier character and not `.` ends it -/
theorem pySepTok_last {x y : Tok} (hx : pyIsLast x = true) {c cs} (hy : y.text = c :: cs)
    (hc : (isIdChar c || c == '.') = false) : pySepTok x y = true := by
  simp only [pySepTok, hy]
  obtain ⟨hid, hdot⟩ := Bool.or_eq_false_iff.1 hc
  simp only [pyIsLast, Bool.and_eq_true] at hx
  obtain ⟨hok, h2⟩ := hx
  split at h2
  · obtain ⟨acc, h1, hl⟩ := pyStTok_num hok
    have he : (acc.headD '0' == 'e' || acc.headD '0' == 'E') = false := by
      cases he : (acc.headD '0' == 'e' || acc.headD '0' == 'E') with
      | false => rfl
      | true =>
        simp only [Bool.or_eq_true, beq_iff_eq] at he
        rcases he with e | e <;> rw [e] at hl <;> cases hl
    simp only [isIdChar, Char.isAlphanum, Char.isAlpha, Bool.or_eq_false_iff] at hid
    have hne : ∀ d : Char, d.isLower = true ∨ d.isUpper = true → (c == d) = false := fun d hd =>
      beq_eq_false_iff_ne.2 fun e => by
        subst e; rcases hd with hd | hd
        · rw [hid.1.1.2] at hd; cases hd
        · rw [hid.1.1.1] at hd; cases hd
    simp only [h1, pySepChar, pyNumCont, hid.1.2, hid.2, hdot, he, hne 'e' (Or.inl rfl), hne 'E' (Or.inr rfl),
      hne 'j' (Or.inl rfl), hne 'J' (Or.inr rfl), Bool.and_false, Bool.or_false, Bool.not_false]
  · obtain ⟨acc, h1⟩ := pyStTok_id hok
    simp only [h1, pySepChar, hid, Bool.not_false]
  · rw [pyStTok_rpar]; rfl
  · rw [pyStTok_rbrack]; rfl
  · cases h2

theorem pyIsFirst_ok {t} (h : pyIsFirst t = true) : pyTokOK t = true := by
  simp only [pyIsFirst, Bool.and_eq_true] at h; exact h.1

theorem pyPend2_none {p c : Char} (h1 : c ≠ '=') (h2 : c ≠ '>') : pyPend2 p c = none := by
  simp [pyPend2, h1, h2]

/-- after a pending punctuator other than `/`, a character other than `=` and `>` may follow
    (after `.`: if it is not a digit) -/
theorem pySepTok_pend {q : P} {p : Char} (hq : pyStTok (.p q) = .pend p) (hp : p ≠ '/')
    {y : Tok} {c cs} (hy : y.text = c :: cs) (h1 : c ≠ '=') (h2 : c ≠ '>')
    (hd : p = '.' → c.isDigit = false) : pySepTok (.p q) y = true := by
  by_cases hdot : p = '.'
  · simp [pySepTok, hy, hq, pySepChar, pyPend2_none h1 h2, hp, hd hdot]
  · simp [pySepTok, hy, hq, pySepChar, pyPend2_none h1 h2, hp, hdot]

/-- … so after one other than `.` an expression may start -/
theorem pySepTok_pend_first {q : P} (p : Char) (hq : pyStTok (.p q) = .pend p) (hp : p ≠ '.') (hp2 : p ≠ '/')
    {y : Tok} (hy : pyIsFirst y = true) : pySepTok (.p q) y = true := by
  simp only [pyIsFirst, Bool.and_eq_true] at hy
  obtain ⟨hok, h2⟩ := hy
  have hd {c : Char} : p = '.' → c.isDigit = false := fun h => absurd h hp
  split at h2
  · obtain ⟨c, cs, ht, hc, _⟩ := pyTokOK_num hok
    exact pySepTok_pend hq hp2 ht (ne_of_class hc (by decide)) (ne_of_class hc (by decide)) hd
  · obtain ⟨c, cs, ht, hc, _⟩ := tokOK_id hok
    exact pySepTok_pend hq hp2 ht (ne_of_class hc (by decide)) (ne_of_class hc (by decide)) hd
  · exact pySepTok_pend hq hp2 (c := '-') (cs := []) rfl (by decide) (by decide) hd
  · exact pySepTok_pend hq hp2 (c := '(') (cs := []) rfl (by decide) (by decide) hd
  · cases h2

theorem pySepTok_dot_id {s : String} (hs : pyTokOK (.id s) = true) : pySepTok (.p .dot) (.id s) = true := by
  obtain ⟨c, cs, ht, hc, _⟩ := tokOK_id hs
  exact pySepTok_pend (p := '.') (by decide +kernel) (by decide) ht (ne_of_class hc (by decide)) (ne_of_class hc (by decide))
    fun _ => idStart_not_digit hc

theorem pySepTok_id_dot {s : String} (hs : pyTokOK (.id s) = true) : pySepTok (.id s) (.p .dot) = true := by
  obtain ⟨acc, h1⟩ := pyStTok_id hs
  simp only [pySepTok, Tok.text, P.text, h1, pySepChar]
  decide

abbrev PSP := Sepd pySeparated pyIsFirst pyIsLast

theorem pyLaws : SepLaws pySeparated pyExprBlank pyTokOK pySepTok pyIsFirst pyIsLast where
  eqs := pyEqs
  blank_ok := rfl
  first_ok := pyIsFirst_ok
  atom hk h := by obtain ⟨s, rfl | rfl⟩ := h <;> simp [pyIsFirst, pyIsLast, hk]
  lpar := rfl
  minus := rfl
  closing h := by rcases h with rfl | rfl <;> rfl
  closer_ok hq := by
    simp only [closers, List.mem_cons, List.mem_nil_iff, or_false] at hq
    rcases hq with rfl | rfl | rfl | rfl | rfl | rfl <;> rfl
  after_open h hy := by rcases h with rfl | rfl <;> exact pySepTok_start (by decide +kernel) hy
  before_closer hx hq := by
    simp only [closers, List.mem_cons, List.mem_nil_iff, or_false] at hq
    rcases hq with rfl | rfl | rfl | rfl | rfl | rfl <;> exact pySepTok_last hx (cs := []) rfl (by decide +kernel)
  minus_num hk := pySepTok_pend_first '-' (by decide +kernel) (by decide) (by decide) (by simp [pyIsFirst, hk])

/-! Not used by the rest of the development; kept for their own sake. -/

theorem pyStTok_comma : pyStTok (.p .comma) = .start := by decide +kernel

theorem pyIsLast_ok {t} (h : pyIsLast t = true) : pyTokOK t = true := by
  simp only [pyIsLast, Bool.and_eq_true] at h; exact h.1

theorem psp_join_first {sepr : List Piece} {x : List Piece} {xs : List (List Piece)} (hx : x ≠ []) :
    firstP (joinP sepr (x :: xs)) = firstP x :=
  sp_join_first hx

end Ffcx.LNodes.Fmt
