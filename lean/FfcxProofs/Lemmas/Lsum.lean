/-
Finite sums over a list in a field, `lsum f l = Σ_{x ∈ l} f x`: the sums of the factorisation identity
(`factSum`), and the form in which code generation compares two closed forms of a statement list (each a
recursion over blocks and `fw` expressions, read as an `lsum` over their zip by `lsum_zip_of_rec`,
`Lemmas/CodegenGroup.lean`).
-/
namespace Ffcx.IR
open Lean.Grind

variable {R : Type} [Field R]

def lsum {β : Type} (f : β → R) (l : List β) : R := l.foldr (fun x acc => f x + acc) 0

@[simp] theorem lsum_nil {β : Type} (f : β → R) : lsum f [] = 0 := rfl
@[simp] theorem lsum_cons {β : Type} (f : β → R) (x : β) (l : List β) :
    lsum f (x :: l) = f x + lsum f l := rfl

theorem lsum_append {β : Type} (f : β → R) (l1 l2 : List β) :
    lsum f (l1 ++ l2) = lsum f l1 + lsum f l2 := by
  induction l1 with
  | nil => exact (AddCommMonoid.zero_add _).symm
  | cons x l ih => rw [List.cons_append, lsum_cons, lsum_cons, ih, AddCommMonoid.add_assoc]

theorem lsum_perm {β : Type} (f : β → R) {l1 l2 : List β} (h : l1.Perm l2) :
    lsum f l1 = lsum f l2 := by
  induction h with
  | nil => rfl
  | cons x _ ih => simp [ih]
  | swap x y l => exact AddCommMonoid.add_left_comm ..
  | trans _ _ ih1 ih2 => rw [ih1, ih2]

theorem lsum_congr {β : Type} (f g : β → R) (l : List β) (h : ∀ x ∈ l, f x = g x) :
    lsum f l = lsum g l := by
  induction l with
  | nil => rfl
  | cons x l ih =>
    simp only [lsum_cons]
    rw [h x (by simp), ih (fun y hy => h y (by simp [hy]))]

theorem lsum_map {β γ : Type} (f : γ → R) (g : β → γ) (l : List β) :
    lsum f (l.map g) = lsum (fun x => f (g x)) l := by
  induction l with
  | nil => rfl
  | cons x l ih => simp [ih]

theorem lsum_flatMap {β γ : Type} (f : γ → R) (g : β → List γ) (l : List β) :
    lsum f (l.flatMap g) = lsum (fun x => lsum f (g x)) l := by
  induction l with
  | nil => rfl
  | cons x l ih => simp [List.flatMap_cons, lsum_append, ih]

theorem lsum_add {β : Type} (f g : β → R) (l : List β) :
    lsum (fun x => f x + g x) l = lsum f l + lsum g l := by
  induction l with
  | nil => exact (AddCommMonoid.add_zero _).symm
  | cons x l ih =>
    -- `(a + b) + (s + t) = (a + s) + (b + t)`
    simp only [lsum_cons, ih]; grind

theorem lsum_mul_left {β : Type} (c : R) (f : β → R) (l : List β) :
    lsum (fun x => c * f x) l = c * lsum f l := by
  induction l with
  | nil => exact (Semiring.mul_zero c).symm
  | cons x l ih => rw [lsum_cons, lsum_cons, ih, Semiring.left_distrib]

theorem lsum_mul_right {β : Type} (c : R) (f : β → R) (l : List β) :
    lsum (fun x => f x * c) l = lsum f l * c := by
  induction l with
  | nil => exact (Semiring.zero_mul c).symm
  | cons x l ih => rw [lsum_cons, lsum_cons, ih, Semiring.right_distrib]

theorem lsum_zero {β : Type} (l : List β) : lsum (fun _ => (0 : R)) l = 0 := by
  induction l with
  | nil => rfl
  | cons x l ih => rw [lsum_cons, ih, AddCommMonoid.add_zero]

theorem lsum_filter {β : Type} (f : β → R) (p : β → Bool) : ∀ l : List β,
    lsum f (l.filter p) = lsum (fun y => if p y then f y else 0) l
  | [] => rfl
  | y :: l => by
    cases h : p y <;> simp [List.filter, h, lsum_filter f p l]
    exact (AddCommMonoid.zero_add _).symm

theorem lsum_mul_lsum {β γ : Type} (a : β → R) (b : γ → R) (l0 : List β) (l1 : List γ) :
    lsum (fun x => lsum (fun y => a x * b y) l1) l0 = lsum a l0 * lsum b l1 := by
  have h : ∀ x, lsum (fun y => a x * b y) l1 = a x * lsum b l1 := fun x => lsum_mul_left _ _ _
  simp only [h]
  exact lsum_mul_right _ _ _

end Ffcx.IR
