/-
The predicates that carry the factorisation proofs — `DictOK`, `KeysIn`, `FacOK` (a well-formed dictionary of
factors), `Built` (what a handler leaves behind), `factSum` (the sum a dictionary stands for) — and the generic
loop `buildDict` (`for k in …: factors[k] = graph_insert(F, …)`) that every handler runs; the sorts of keys and
entries are permutations (`isort_perm`).
-/
import FfcxProofs.Lemmas.FactorizeCtor
import FfcxProofs.Lemmas.Lsum

namespace Ffcx.IR
open Lean.Grind

/-- the factors (values) of the dictionary are nodes of `F` -/
def DictOK (F : Array Node) (d : Dict) : Prop := ∀ e ∈ d, e.2 < F.size

theorem DictOK.ext {F F' : Array Node} {d : Dict} (h : DictOK F d) (hext : Ext F F') : DictOK F' d :=
  fun e he => Nat.lt_of_lt_of_le (h e he) hext.size_le

theorem Dict.set_fresh (d : Dict) (k : Key) (v : Nat) (h : k ∉ d.keys) :
    d.set k v = d ++ [(k, v)] := by
  unfold Dict.set; rw [if_neg h]

theorem Dict.keys_append (d e : Dict) : Dict.keys (d ++ e) = d.keys ++ e.keys := by
  unfold Dict.keys; simp

theorem Dict.mem_keys (d : Dict) (k : Key) : k ∈ d.keys ↔ ∃ v, (k, v) ∈ d := by
  unfold Dict.keys; simp

theorem Dict.get_some (d : Dict) (k : Key) (v : Nat) (h : d.get k = some v) : (k, v) ∈ d := by
  obtain ⟨l₁, l₂, rfl, _⟩ := List.lookup_eq_some_iff.1 h
  exact List.mem_append_right _ (List.mem_cons_self ..)

theorem mem_dedup {α : Type} [DecidableEq α] (l : List α) (x : α) : x ∈ dedup l ↔ x ∈ l := by
  induction l with
  | nil => simp [dedup]
  | cons y l ih =>
    unfold dedup
    split
    · rename_i h; rw [ih]; constructor
      · intro h'; exact List.mem_cons_of_mem _ h'
      · intro h'; rcases List.mem_cons.mp h' with rfl | h'
        · exact h
        · exact h'
    · simp [ih]

theorem nodup_dedup {α : Type} [DecidableEq α] (l : List α) : (dedup l).Nodup := by
  induction l with
  | nil => simp [dedup]
  | cons y l ih =>
    unfold dedup
    split
    · exact ih
    · rename_i h
      rw [List.nodup_cons]; exact ⟨by rw [mem_dedup]; exact h, ih⟩

theorem insertBy_perm {α : Type} (le : α → α → Bool) (x : α) (l : List α) :
    (insertBy le x l).Perm (x :: l) := by
  induction l with
  | nil => exact List.Perm.refl _
  | cons y ys ih =>
    unfold insertBy
    split
    · exact (List.Perm.cons y ih).trans (List.Perm.swap x y ys)
    · exact List.Perm.refl _

theorem isort_perm {α : Type} (le : α → α → Bool) (l : List α) : (isort le l).Perm l := by
  unfold isort
  suffices h : ∀ (l acc : List α), (l.foldl (fun acc x => insertBy le x acc) acc).Perm (l ++ acc) by
    simpa using h l []
  intro l
  induction l with
  | nil => intro acc; exact List.Perm.refl _
  | cons x l ih =>
    intro acc
    simp only [List.foldl_cons, List.cons_append]
    refine (ih _).trans ?_
    refine (List.Perm.append_left l (insertBy_perm le x acc)).trans ?_
    exact List.perm_middle

theorem sortNat_perm (l : List Nat) : (sortNat l).Perm l := isort_perm _ _
theorem sortKeys_perm (l : List Key) : (sortKeys l).Perm l := isort_perm _ _
theorem sortEntries_perm {α : Type} (l : List (Key × α)) : (sortEntries l).Perm l :=
  isort_perm _ _

section
variable {R : Type} [Field R] (ρ : Env R)

/-- `Σ_{(k,f) ∈ d} val F f · Π_{a ∈ k} look a` -/
def factSum (F : Array Node) (look : Nat → R) (d : Dict) : R :=
  lsum (fun e => val ρ F e.2 * keyProd look e.1) d

theorem factSum_ext {F F' : Array Node} (look : Nat → R) (d : Dict) (hext : Ext F F')
    (hd : DictOK F d) : factSum ρ F' look d = factSum ρ F look d := by
  unfold factSum
  apply lsum_congr
  intro e he
  rw [hext.val_eq ρ e.2 (hd e he)]

/-- keys of a dictionary only contain elements satisfying `Q`.  `Q` stands for what the handlers may
assume of the members of an argkey; the main loop instantiates it with `QReal` (the member is an argument
node of `S`, and conjugation fixes its value — what `handle_conj` needs to pull `conj` through a key
product). -/
def KeysIn (Q : Nat → Prop) (d : Dict) : Prop := ∀ k ∈ d.keys, ∀ a ∈ k, Q a

structure FacOK (Q : Nat → Prop) (F : Array Node) (d : Dict) : Prop where
  ok : DictOK F d
  nodup : d.keys.Nodup
  keysIn : KeysIn Q d

/-- what every handler guarantees about the graph `F'` and the dictionary `d'` it returns -/
structure Built (Q : Nat → Prop) (F F' : Array Node) (d' : Dict) : Prop extends FacOK Q F' d' where
  ext : Ext F F'
  closed : Closed F'

theorem Dict.ne_nil_of_keys {d : Dict} {l : List Key} (h : d.keys = l) (hl : l ≠ []) : d ≠ [] := by
  rintro rfl; exact hl h.symm

theorem Dict.keys_ne_nil {d : Dict} (h : d ≠ []) : d.keys ≠ [] :=
  fun hk => h (List.map_eq_nil_iff.1 hk)

theorem map_fst_keyed {α : Type} (f : Key → α) (l : List Key) :
    (l.map fun k => (k, f k)).map (·.1) = l :=
  (List.map_map ..).trans (List.map_id l)

/-- `F0` is the graph in which the caller states the values `g` of the new factors; it stays fixed
while `F` grows along the induction, and the step hypothesis is asked for every `F ⊇ F0`.

The keys must be distinct (`Nodup`): then every `factors[k] = …` appends (`Dict.set_fresh`), the dictionary is
the list of the entries written, and its `factSum` is their sum.  The overwriting branch of `Dict.set` is never
reasoned about: a handler whose keys can repeat loses a term (`factorize_product_collision_counterexample`),
and `wfNode`, `wfTarget`, `nodup_dedup` are there to supply this hypothesis. -/
theorem buildDict_sound {α : Type} (step : Array Node → α → Except FErr (Array Node × Nat))
    (F0 : Array Node) (g : α → R) (look : Nat → R) :
    ∀ (es : List (Key × α)) (F : Array Node) (d : Dict) (F' : Array Node) (d' : Dict),
      (∀ e ∈ es, ∀ F r, Ext F0 F → Closed F → step F e.2 = .ok r → Yields ρ F r (g e.2)) →
      (d.keys ++ es.map (·.1)).Nodup → Ext F0 F → Closed F → DictOK F d →
      buildDict step F es d = .ok (F', d') →
      Ext F F' ∧ Closed F' ∧ DictOK F' d' ∧ d'.keys = d.keys ++ es.map (·.1) ∧
        factSum ρ F' look d' = factSum ρ F look d + lsum (fun e => g e.2 * keyProd look e.1) es := by
  intro es
  induction es with
  | nil =>
    intro F d F' d' _ _ _ hc hd h
    cases h
    exact ⟨Ext.refl _, hc, hd, (List.append_nil _).symm, (AddCommMonoid.add_zero _).symm⟩
  | cons e rest ih =>
    intro F d F' d' hstep hnd hext hc hd h
    obtain ⟨k, x⟩ := e
    unfold buildDict at h
    split at h
    · cases h
    · rename_i F1 i hs
      obtain ⟨hx1, hc1, hi1, hv⟩ := hstep (k, x) (List.mem_cons_self ..) F (F1, i) hext hc hs
      rw [Dict.set_fresh d k i fun hm =>
        (List.nodup_append.1 hnd).2.2 k hm k (List.mem_cons_self ..) rfl] at h
      have hd1 : DictOK F1 (d ++ [(k, i)]) := by
        intro e he
        rcases List.mem_append.mp he with he | he
        · exact hd.ext hx1 e he
        · cases List.mem_singleton.1 he; exact hi1
      obtain ⟨hx2, hc2, hd2, hkeys, hsum⟩ := ih F1 (d ++ [(k, i)]) F' d'
        (fun e he => hstep e (List.mem_cons_of_mem _ he))
        (by rw [Dict.keys_append, List.append_assoc]; exact hnd) (hext.trans hx1) hc1 hd1 h
      refine ⟨hx1.trans hx2, hc2, hd2, ?_, ?_⟩
      · rw [hkeys, Dict.keys_append, List.append_assoc]; rfl
      · rw [hsum]
        unfold factSum
        rw [lsum_append, lsum_congr _ _ d fun e he => by rw [hx1.val_eq ρ e.2 (hd e he)]]
        simp only [lsum_cons, lsum_nil]
        rw [hv, AddCommMonoid.add_zero, AddCommMonoid.add_assoc]

theorem buildDict_built {α : Type} {step : Array Node → α → Except FErr (Array Node × Nat)}
    {F : Array Node} (g : α → R) (look : Nat → R) {Q : Nat → Prop} {es : List (Key × α)}
    {F' : Array Node} {d' : Dict}
    (hstep : ∀ e ∈ es, ∀ F1 r, Ext F F1 → Closed F1 → step F1 e.2 = .ok r → Yields ρ F1 r (g e.2))
    (hnd : (es.map (·.1)).Nodup) (hQ : ∀ k ∈ es.map (·.1), ∀ a ∈ k, Q a) (hc : Closed F)
    (h : buildDict step F es [] = .ok (F', d')) :
    Built Q F F' d' ∧ d'.keys = es.map (·.1) ∧
      factSum ρ F' look d' = lsum (fun e => g e.2 * keyProd look e.1) es := by
  obtain ⟨hx, hc', hd', hkeys, hsum⟩ := buildDict_sound ρ step F g look es F [] F' d' hstep hnd
    (Ext.refl _) hc (fun _ h => nomatch h) h
  rw [show Dict.keys [] = [] from rfl, List.nil_append] at hkeys
  refine ⟨⟨⟨hd', hkeys ▸ hnd, fun k hk => hQ k (hkeys ▸ hk)⟩, hx, hc'⟩, hkeys, ?_⟩
  rw [hsum]
  exact AddCommMonoid.zero_add _

end
end Ffcx.IR
