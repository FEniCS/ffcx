/-
C16 — definitions for the finite-table theorems of FfcxProofs/C16.lean: the model's class table,
grammar levels (DESIGN Appendix E), the local faithfulness predicates.
-/
import FfcxModel.LNodes.ParsePy
import FfcxModel.LNodes.Simplify

namespace Ffcx.LNodes.Fmt
open Ffcx.LNodes Ffcx.Generated.Precedence

/-- the expression classes as the Lean model hard-wires them (Syntax.lean `Expr.prec`,
    `BinOp.prec`, `BinOp.opStr`; unary operator characters of FormatC/FormatNumba) -/
def modelRows : List (String × Nat × String) := [
  ("Add", BinOp.add.prec, BinOp.add.opStr), ("Sub", BinOp.sub.prec, BinOp.sub.opStr),
  ("Mul", BinOp.mul.prec, BinOp.mul.opStr), ("Div", BinOp.div.prec, BinOp.div.opStr),
  ("EQ", BinOp.eq.prec, BinOp.eq.opStr), ("NE", BinOp.ne.prec, BinOp.ne.opStr),
  ("LT", BinOp.lt.prec, BinOp.lt.opStr), ("GT", BinOp.gt.prec, BinOp.gt.opStr),
  ("LE", BinOp.le.prec, BinOp.le.opStr), ("GE", BinOp.ge.prec, BinOp.ge.opStr),
  ("And", BinOp.and.prec, BinOp.and.opStr), ("Or", BinOp.or.prec, BinOp.or.opStr),
  ("Neg", (Expr.neg (.litI 0)).prec, String.ofList P.minus.text),
  ("Not", (Expr.not (.litI 0)).prec, String.ofList P.bang.text),
  ("Sum", (Expr.sum []).prec, String.ofList P.plus.text),
  ("Product", (Expr.prod []).prec, String.ofList P.star.text),
  ("LiteralFloat", (Expr.litF 0 0 false).prec, ""), ("LiteralInt", (Expr.litI 0).prec, ""),
  ("Symbol", (Expr.sym "x" .real).prec, ""), ("MultiIndex", (Expr.mi [] [] (.litI 0)).prec, ""),
  ("MathFunction", (Expr.call "f" .real []).prec, ""), ("ArrayAccess", (Expr.idx "a" .real []).prec, ""),
  ("Conditional", (Expr.cond (.litI 0) (.litI 0) (.litI 0)).prec, "")]

def rowMatches (r : String × Nat × String) (c : ClassRow) : Bool :=
  c.name == r.1 && c.prec == r.2.1 && c.op == r.2.2

/-- a table is injective on its keys: two entries with the same image have the same key. Names
    that are no key (they pass through unchanged and may coincide with an image) are not looked at. -/
def tableInjective (tbl : List (String × String)) : Bool :=
  tbl.all (fun a => tbl.all (fun b => a.2 != b.2 || a.1 == b.1))

/-! ## grammar levels (DESIGN Appendix E) -/

/-- C grammar level of the text of a node of the class: conditional 1, `||` 2, `&&` 3, equality 7,
    relational 8, additive 10, multiplicative 11, unary 12, postfix 13, primary 14.
    Pseudo-classes: `NegativeLiteral` (a literal `< 0` prints as unary minus + number) and
    `MultiIndex` (prints as its global index, in general a Sum: additive). -/
def cLevel : String → Nat
  | "LiteralFloat" | "LiteralInt" | "Symbol" => 14
  | "MathFunction" | "ArrayAccess" => 13
  | "Neg" | "Not" | "NegativeLiteral" => 12
  | "Mul" | "Div" | "Product" => 11
  | "Add" | "Sub" | "Sum" | "MultiIndex" => 10
  | "LT" | "LE" | "GT" | "GE" => 8
  | "EQ" | "NE" => 7
  | "And" => 3
  | "Or" => 2
  | "Conditional" => 1
  | _ => 0

/-- Python level of the text the numba formatter prints for a node of the class: or 1, and 2,
    not 3, comparison 4, additive 5, multiplicative 6, unary minus 7, call/subscript 8, atom 9.
    `Not` and `Conditional` are printed inside their own parentheses: atoms. -/
def pyLevel : String → Nat
  | "LiteralFloat" | "LiteralInt" | "Symbol" | "Not" | "Conditional" => 9
  | "MathFunction" | "ArrayAccess" => 8
  | "Neg" | "NegativeLiteral" => 7
  | "Mul" | "Div" | "Product" => 6
  | "Add" | "Sub" | "Sum" | "MultiIndex" => 5
  | "LT" | "LE" | "GT" | "GE" | "EQ" | "NE" => 4
  | "And" => 2
  | "Or" => 1
  | _ => 0

/-- operand positions of a parent class whose children are parenthesised by the
    `child.precedence ≥ parent.precedence` rule -/
def positions (c : ClassRow) : List Nat :=
  if c.kind == "unary" then [0]
  else if c.kind == "bin" then [0, 1]
  else if c.kind == "nary" then [0, 1, 2]
  else if c.name == "Conditional" then [0, 1, 2]
  else []

/-- least C level an UNPARENTHESISED operand must have at that position: unary operand: a
    cast/unary expression (12); left-associative binary operator of level `l`: left operand `l`,
    right operand `l+1` (n-ary: every operand after the first is a right operand);
    conditional: condition a logical-OR expression (2), branches any conditional expression (1) -/
def cRequired (p : ClassRow) (pos : Nat) : Nat :=
  if p.kind == "unary" then 12
  else if p.name == "Conditional" then (if pos == 0 then 2 else 1)
  else if pos == 0 then cLevel p.name else cLevel p.name + 1

/-- Python: as C, except that comparisons chain, so BOTH operands of a comparison must bind
    strictly tighter than a comparison; the operand of unary minus is a factor (7);
    `Not`/`Conditional` put their operands inside parentheses (any level) -/
def pyRequired (p : ClassRow) (pos : Nat) : Nat :=
  if p.name == "Neg" then 7
  else if p.name == "Not" || p.name == "Conditional" then 0
  else if pyLevel p.name == 4 then 5
  else if pos == 0 then pyLevel p.name else pyLevel p.name + 1

/-- child classes: every class of the table that is an expression, plus the pseudo-class of
    negative literals (precedence of a literal) -/
def childRows : List ClassRow :=
  classes.filter (fun c => c.kind != "assign") ++ [⟨"NegativeLiteral", 0, "", "terminal"⟩]

def parentRows : List ClassRow := classes.filter (fun c => !(positions c).isEmpty)

/-- the formatter's rule at (parent, child, position): parenthesised, or binds tight enough -/
def cFaithful (p c : ClassRow) (pos : Nat) : Bool :=
  decide (c.prec ≥ p.prec) || decide (cLevel c.name ≥ cRequired p pos)

def isCmpClass (n : String) : Bool := ["LT", "LE", "GT", "GE", "EQ", "NE"].contains n

/-- numba: additionally a comparison directly under a comparison is parenthesised
    (`isinstance(child, comparisons)` in the BinOp handler) -/
def pyFaithful (p c : ClassRow) (pos : Nat) : Bool :=
  decide (c.prec ≥ p.prec) || (isCmpClass p.name && isCmpClass c.name)
    || decide (pyLevel c.name ≥ pyRequired p pos)

/-- the precedence the formatter model (`precF`) reads off MultiIndex nodes with 0, 1, 2 symbols,
    built as `MultiIndex.__init__` builds them (`mkMultiIndex` of Simplify.lean) -/
def miProbes : List (Nat × Nat) :=
  [(0, precF (mkMultiIndex [] [])),
   (1, precF (mkMultiIndex [.ex (.sym "i" .int)] [3])),
   (2, precF (mkMultiIndex [.ex (.sym "i" .int), .ex (.sym "j" .int)] [3, 4]))]

/-- the classes whose value is a condition -/
def isCondClass (n : String) : Bool :=
  ["Not", "LT", "LE", "GT", "GE", "EQ", "NE", "And", "Or"].contains n

/-- the typing discipline on (parent, child, position): arithmetic operators and comparisons take
    arithmetic operands, `&& || !` take conditions, a conditional a condition and two values -/
def wtPair (p c : ClassRow) (pos : Nat) : Bool :=
  let wantsCond := p.name == "Not" || p.name == "And" || p.name == "Or" || (p.name == "Conditional" && pos == 0)
  if c.name == "Symbol" then true else isCondClass c.name == wantsCond

end Ffcx.LNodes.Fmt
