/-
C09 soundness of the dtype discipline — the notions: a carrier with a conjugation (`ComplexLike`), whose
fixed points are the real values; what is assumed of literals and math functions (`LawfulComplexExtra`);
the invariant `RealStore Γ` of the stores.
-/
import FfcxModel.LNodes.DtypeCert
import FfcxProofs.Lemmas.Basics

namespace Ffcx.LNodes

/-- A carrier with a conjugation.  No ring axioms are needed: only that `conj` commutes with the
    operations of the expression language, so that its fixed points (the "real" values) are closed
    under them. -/
structure ComplexLike (R : Type) [Add R] [Sub R] [Mul R] [Div R] [Neg R] [IntCast R] where
  conj : R → R
  /-- C's implicit conversion `double _Complex → double` -/
  re : R → R
  conj_add : ∀ a b, conj (a + b) = conj a + conj b
  conj_sub : ∀ a b, conj (a - b) = conj a - conj b
  conj_mul : ∀ a b, conj (a * b) = conj a * conj b
  conj_div : ∀ a b, conj (a / b) = conj a / conj b
  conj_neg : ∀ a, conj (-a) = - conj a
  conj_intCast : ∀ n : Int, conj (IntCast.intCast n) = IntCast.intCast n
  /-- part of what a conjugation is; the soundness proof does not use it -/
  conj_conj : ∀ a, conj (conj a) = a
  /-- the conversion yields a real value (`isReal_re`; the soundness proof does not use it) … -/
  re_real : ∀ a, conj (re a) = re a
  /-- … and does not change real values -/
  re_of_real : ∀ a, conj a = a → re a = a

variable {R : Type} [Add R] [Sub R] [Mul R] [Div R] [Neg R] [IntCast R]

/-- the value has no imaginary part -/
def ComplexLike.IsReal (C : ComplexLike R) (v : R) : Prop := C.conj v = v

/-- a conversion that leaves real values alone (`re` is one; so is the identity) -/
def FixesReals (C : ComplexLike R) (ρ : R → R) : Prop := ∀ a, C.IsReal a → ρ a = a

/-- What the soundness theorem assumes about literals and math functions.
    `fn_real_closed`: a function applied to real arguments returns a real value — true of every C
    function with `double` parameters (they return `double`); for the *mathematical* functions it
    holds on the domain of the real function only (`sqrt(-1)`: C's `sqrt` returns NaN, which is
    outside every theorem of this development — see DESIGN.md §5). -/
structure LawfulComplexExtra (C : ComplexLike R) (x : Extra R) : Prop where
  ofRat_real : ∀ q, C.IsReal (x.ofRat q 0)
  fn_real_closed : ∀ f args, (∀ a, a ∈ args → C.IsReal a) → C.IsReal (x.fn f args)
  /-- `creal`, `cimag`, `cabs` return `double` -/
  fn_real_valued : ∀ f args, realValued f = true → C.IsReal (x.fn f args)

namespace ComplexLike
variable (C : ComplexLike R)

theorem isReal_intCast (n : Int) : C.IsReal (IntCast.intCast n : R) := C.conj_intCast n
theorem isReal_op {op : R → R → R} (h : ∀ a b, C.conj (op a b) = op (C.conj a) (C.conj b))
    {a b : R} (ha : C.IsReal a) (hb : C.IsReal b) : C.IsReal (op a b) := by
  unfold IsReal at *; rw [h, ha, hb]
theorem isReal_add {a b : R} : C.IsReal a → C.IsReal b → C.IsReal (a + b) := C.isReal_op C.conj_add
theorem isReal_sub {a b : R} : C.IsReal a → C.IsReal b → C.IsReal (a - b) := C.isReal_op C.conj_sub
theorem isReal_mul {a b : R} : C.IsReal a → C.IsReal b → C.IsReal (a * b) := C.isReal_op C.conj_mul
theorem isReal_div {a b : R} : C.IsReal a → C.IsReal b → C.IsReal (a / b) := C.isReal_op C.conj_div
theorem isReal_neg {a : R} (ha : C.IsReal a) : C.IsReal (-a) := by
  unfold IsReal at *; rw [C.conj_neg, ha]
theorem isReal_re (a : R) : C.IsReal (C.re a) := C.re_real a
theorem isReal_conj {a : R} (ha : C.IsReal a) : C.IsReal (C.conj a) := by
  unfold IsReal at *; rw [ha, ha]
theorem isReal_b2r (b : Bool) : C.IsReal (b2r b : R) := by
  unfold b2r; split <;> exact C.isReal_intCast _

theorem fixesReals_re : FixesReals C C.re := C.re_of_real
theorem fixesReals_id : FixesReals C id := fun _ _ => rfl

theorem isReal_foldl {op : R → R → R} (hop : ∀ a b, C.IsReal a → C.IsReal b → C.IsReal (op a b)) :
    ∀ (vs : List R) {a : R}, C.IsReal a → (∀ v, v ∈ vs → C.IsReal v) → C.IsReal (vs.foldl op a)
  | [], _, ha, _ => ha
  | v :: vs, a, ha, h =>
    isReal_foldl hop vs (hop a v ha (h v List.mem_cons_self))
      fun w hw => h w (List.mem_cons_of_mem _ hw)

theorem isReal_foldOp {op : R → R → R} {u : R} (hu : C.IsReal u)
    (hop : ∀ a b, C.IsReal a → C.IsReal b → C.IsReal (op a b))
    {vs : List R} (h : ∀ v, v ∈ vs → C.IsReal v) : C.IsReal (foldOp op u vs) := by
  cases vs with
  | nil => exact hu
  | cons v vs =>
    exact C.isReal_foldl hop vs (h v List.mem_cons_self) fun w hw => h w (List.mem_cons_of_mem _ hw)

end ComplexLike

/-- a property of all cells of an array and of the default holds of every read `getD`: the form the
    `sa` field of `RealStore` has -/
theorem getD_of_all {α} {a : Array α} (P : α → Prop) {d : α} (hd : P d)
    (h : ∀ v, v ∈ a.toList → P v) (k : Nat) : P (a.getD k d) := by
  simp only [Array.getD_eq_getD_getElem?]
  by_cases hk : k < a.size
  · simp only [hk, Array.getElem?_eq_getElem, Option.getD_some]
    exact h _ (Array.mem_toList_iff.2 (Array.getElem_mem hk))
  · simp only [Array.getElem?_eq_none (Nat.le_of_not_lt hk), Option.getD_none]
    exact hd

theorem setIfInBounds_of_all {α} (P : α → Prop) {a : Array α} {k : Nat} {v d : α} (hv : P v)
    (h : ∀ j, P (a.getD j d)) (j : Nat) : P ((a.setIfInBounds k v).getD j d) := by
  have hj := h j
  simp only [Array.getD_eq_getD_getElem?, Array.getElem?_setIfInBounds] at hj ⊢
  split
  · subst k
    split
    · exact hv
    · rwa [Array.getElem?_eq_none (Nat.le_of_not_lt ‹_›)] at hj
  · exact hj

theorem _root_.Ffcx.AList.mem_of_get {α} : ∀ {m : AList α} {n : String} {v : α}, m.get n = some v → (n, v) ∈ m
  | [], _, _, h => by cases h
  | (k, w) :: m, n, v, h => by
    simp only [AList.get] at h
    split at h
    · cases h
      subst k
      exact List.mem_cons_self
    · exact List.mem_cons_of_mem _ (Ffcx.AList.mem_of_get h)

/-- Every name declared with a dtype that cannot hold an imaginary part holds real values:
    scalar variables, and all cells of arrays. -/
structure RealStore (C : ComplexLike R) (Γ : DEnv) (σ : St R) : Prop where
  sv : ∀ n d v, Γ.get n = some d → d.isRealTy = true → σ.sv.get n = some v → C.IsReal v
  sa : ∀ n d a, Γ.get n = some d → d.isRealTy = true → σ.sa.get n = some a →
    ∀ k, C.IsReal (a.data.getD k (IntCast.intCast 0))

theorem RealStore.setIV {C : ComplexLike R} {Γ : DEnv} {σ : St R} (h : RealStore C Γ σ)
    (n : String) (v : Int) : RealStore C Γ (σ.setIV n v) :=
  ⟨h.sv, h.sa⟩

theorem RealStore.setSV {C : ComplexLike R} {Γ : DEnv} {σ : St R} (h : RealStore C Γ σ)
    {n : String} {dt : DType} (hn : Γ.get n = some dt) {v : R}
    (hv : dt.isRealTy = true → C.IsReal v) : RealStore C Γ (σ.setSV n v) := by
  refine ⟨fun m d w hm hd hw => ?_, h.sa⟩
  simp only [St.setSV, AList.get_set] at hw
  split at hw
  · subst m
    cases hw
    cases hn.symm.trans hm
    exact hv hd
  · exact h.sv m d w hm hd hw

theorem RealStore.setSA {C : ComplexLike R} {Γ : DEnv} {σ : St R} (h : RealStore C Γ σ)
    {n : String} {dt : DType} (hn : Γ.get n = some dt) {a : Arr R}
    (ha : dt.isRealTy = true → ∀ k, C.IsReal (a.data.getD k (IntCast.intCast 0))) :
    RealStore C Γ (σ.setSA n a) := by
  refine ⟨h.sv, fun m d b hm hd hb => ?_⟩
  simp only [St.setSA, AList.get_set] at hb
  split at hb
  · subst m
    cases hb
    cases hn.symm.trans hm
    exact ha hd
  · exact h.sa m d b hm hd hb

theorem isRealTy_of_leB_real {d : DType} (h : d.leB .real = true) : d.isRealTy = true := h

theorem isRealTy_of_leB {d t : DType} (h : d.leB t = true) (ht : t.isRealTy = true) :
    d.isRealTy = true := by
  cases t
  case real => exact h
  case int | bool =>
    unfold DType.isRealTy
    rw [Bool.or_assoc]
    exact Bool.or_eq_true_iff.2 (.inr h)
  all_goals cases ht

/-- a merged dtype is REAL/INT/BOOL only if every operand is: NONE poisons and SCALAR absorbs -/
theorem merge_isRealTy {ds : List DType} {d : DType} (h : mergeDtypes ds = some d)
    (hd : d.isRealTy = true) (e : DType) (he : e ∈ ds) : e.isRealTy = true := by
  unfold mergeDtypes at h
  cases e
  case none => rw [if_pos (List.contains_iff_mem.2 he)] at h; cases h
  case scalar =>
    rw [if_pos (List.contains_iff_mem.2 he)] at h
    split at h
    · cases h
    · cases h; cases hd
  all_goals rfl

end Ffcx.LNodes
