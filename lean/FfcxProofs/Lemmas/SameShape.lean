/-
Relational lemma for C08: two runs of the same kernel over two (possibly different) scalar
domains, from states with the same integer part and the same array *shapes*, fail with the same
error or succeed in states that again have the same integer part and shapes.
-/
import FfcxProofs.Lemmas.ExecSim

namespace Ffcx.LNodes

variable {R S : Type}

def Arr.shape {T : Type} (a : Arr T) : List Nat × Bool × Nat := (a.dims, a.const, a.data.size)

structure SameShape (σ : St R) (τ : St S) : Prop where
  iv : σ.iv = τ.iv
  ia : σ.ia = τ.ia
  sv : ∀ n, (σ.sv.get n).isSome = (τ.sv.get n).isSome
  sa : ∀ n, (σ.sa.get n).map Arr.shape = (τ.sa.get n).map Arr.shape

theorem SameShape.setIV {σ : St R} {τ : St S} (h : SameShape σ τ) (n : String) (v : Int) :
    SameShape (σ.setIV n v) (τ.setIV n v) :=
  ⟨congrArg (·.set n v) h.iv, h.ia, h.sv, h.sa⟩

theorem SameShape.setSV {σ : St R} {τ : St S} (h : SameShape σ τ) (n : String) (v : R) (w : S) :
    SameShape (σ.setSV n v) (τ.setSV n w) := by
  refine ⟨h.iv, h.ia, fun m => ?_, h.sa⟩
  simp only [St.setSV, AList.get_set]
  split
  · rfl
  · exact h.sv m

theorem SameShape.setSA {σ : St R} {τ : St S} (h : SameShape σ τ) (n : String) (a : Arr R) (b : Arr S)
    (hab : a.shape = b.shape) : SameShape (σ.setSA n a) (τ.setSA n b) := by
  refine ⟨h.iv, h.ia, h.sv, fun m => ?_⟩
  simp only [St.setSA, AList.get_set]
  split
  · exact congrArg some hab
  · exact h.sa m

variable [Add R] [Sub R] [Mul R] [Div R] [Neg R] [IntCast R]
  [Add S] [Sub S] [Mul S] [Div S] [Neg S] [IntCast S]

section
-- `safeE` uses no operation of the scalars; the classes are arguments of these two as of the lemmas below
set_option linter.unusedSectionVars false

mutual
theorem safeE_sameShape {σ : St R} {τ : St S} (h : SameShape σ τ) :
    ∀ (e : Expr), safeE σ e = safeE τ e
  | .litF .. | .litI .. => by simp only [safeE]
  | .sym n dt => by
    simp only [safeE, h.iv, h.sv n]
  | .mi s z gi => by simp only [safeE, h.iv, h.ia]
  | .neg a | .not a => by simp only [safeE, safeE_sameShape h a]
  | .bin op a b => by simp only [safeE, safeE_sameShape h a, safeE_sameShape h b]
  | .sum args | .prod args | .call _ _ args => by simp only [safeE, safeL_sameShape h args]
  | .idx arr dt ix => by
    have := h.sa arr
    simp only [safeE, h.iv, h.ia]
    refine congrArg (fun t => if (dt == DType.int) = true then _ else t) ?_
    generalize σ.sa.get arr = oa at this
    generalize τ.sa.get arr = ob at this
    obtain _ | a := oa <;> obtain _ | b := ob
    · rfl
    · cases this
    · cases this
    · generalize evalIs τ.iv τ.ia ix = is
      cases is
      · rfl
      · exact congrArg (fun d => (flatIdx d _).isSome) (congrArg Prod.fst (Option.some.inj this))
  | .cond c t f => by
    simp only [safeE, safeE_sameShape h c, safeE_sameShape h t, safeE_sameShape h f]

theorem safeL_sameShape {σ : St R} {τ : St S} (h : SameShape σ τ) :
    ∀ (es : List Expr), safeE.safeL σ es = safeE.safeL τ es
  | [] => by simp only [safeE.safeL]
  | e :: es => by simp only [safeE.safeL, safeE_sameShape h e, safeL_sameShape h es]
end

end

omit [Add R] [Sub R] [Mul R] [Div R] [Neg R] [Add S] [Sub S] [Mul S] [Div S] [Neg S] in
theorem store_sameShape (x : Extra R) (y : Extra S) {σ : St R} {τ : St S} (h : SameShape σ τ)
    (lhs : Expr) (f : R → R) (g : S → S) :
    OutRel Eq SameShape (store x σ lhs f) (store y τ lhs g) := by
  cases lhs
  case sym n dt =>
    simp only [store]
    refine .ite _ rfl ?_
    have := h.sv n
    generalize σ.sv.get n = oa at this
    generalize τ.sv.get n = ob at this
    obtain _ | a := oa <;> obtain _ | b := ob
    · rfl
    · cases this
    · cases this
    · exact h.setSV n _ _
  case idx arr dt ix =>
    simp only [store, resolve, h.iv, h.ia]
    refine .ite _ rfl ?_
    have := h.sa arr
    generalize σ.sa.get arr = oa at this
    generalize τ.sa.get arr = ob at this
    obtain _ | a := oa <;> obtain _ | b := ob
    · rfl
    · cases this
    · cases this
    obtain ⟨hd, hc, hs⟩ : a.dims = b.dims ∧ a.const = b.const ∧ a.data.size = b.data.size := by
      simpa only [Option.map_some, Option.some.injEq, Arr.shape, Prod.mk.injEq] using this
    dsimp only
    generalize evalIs τ.iv τ.ia ix = is
    obtain _ | is := is
    · rfl
    dsimp only
    rw [hd]
    generalize flatIdx b.dims is = k
    obtain _ | k := k
    · rfl
    dsimp only
    rw [hs]
    by_cases hk : k < b.data.size
    · simp only [hk, if_true, hc]
      exact .ite _ rfl (h.setSA arr _ _ (by
        simp only [Arr.shape, hd, hs, Array.size_setIfInBounds]))
    · simp only [hk, if_false]
      rfl
  all_goals rfl

theorem leaf_sameShape (x : Extra R) (y : Extra S) {s : Stmt} (hl : Leaf s) (σ : St R) (τ : St S)
    (h : SameShape σ τ) : OutRel Eq SameShape (exec x s σ) (exec y s τ) := by
  cases hl with
  | assign l r | addAssign l r =>
    simp only [exec, safeE_sameShape h r]
    exact .ite _ (store_sameShape x y h l _ _) rfl
  | vdecl n dt v =>
    exact vdecl_rel x y n dt v (by rw [h.iv, h.ia]) (safeE_sameShape h v) (h.setIV n) (h.setSV n _ _)
  | adecl n dt sizes c vals =>
    simp only [exec]
    exact .ite _ rfl (h.setSA n _ _ (by
      simp only [Arr.shape, initData, Array.size_ofFn]))

theorem exec_sameShape (x : Extra R) (y : Extra S) (s : Stmt) (σ : St R) (τ : St S)
    (h : SameShape σ τ) : OutRel Eq SameShape (exec x s σ) (exec y s τ) :=
  exec_sim (interp_exec x) (interp_exec y) subClosed_true (fun hl _ => leaf_sameShape x y hl)
    (fun _ h => by rw [h.iv, h.ia]; exact ⟨rfl, rfl⟩) (fun _ _ _ v h => h.setIV _ v) s σ τ trivial h

theorem execL_sameShape (x : Extra R) (y : Extra S) : ∀ (ss : List Stmt) (σ : St R) (τ : St S),
    SameShape σ τ → RelRes2 SameShape (execL x ss σ) (execL y ss τ) :=
  fun ss σ τ h => relRes2_iff.2 (by simpa only [exec] using exec_sameShape x y (.block ss) σ τ h)

end Ffcx.LNodes
