/-
Python's printers of FfcxModel/Jit/Naming.lean read back with the toolkit of Lemmas/ReadBack.lean. `repr(str)` is a
prefix code: its body is undone character by character up to the closing quote (`reprStr_prefix`). The `repr` of
every other scalar is a run of token characters, which ends at a stop character, so it is a tuple / list component
where it is injective (`Delim.of_tok`); the text shows whether it is an int, a float or `True`/`False`/`None`, and
the float layout is injective on shortest-digit normal forms (`reprFlt_inj`).
-/
import FfcxProofs.Lemmas.ReadBack

namespace Ffcx.Naming

variable {α : Type} {S : α → Prop} {f : α → Str}

theorem isDigitC_of_isDigit {c : Char} (h : c.isDigit = true) : isDigitC c = true := by
  simp only [Char.isDigit, Bool.and_eq_true, decide_eq_true_eq] at h
  simp only [isDigitC, Bool.and_eq_true, decide_eq_true_eq, Char.toNat]
  exact ⟨UInt32.le_iff_toNat_le.mp h.1, UInt32.le_iff_toNat_le.mp h.2⟩

theorem natDigits_isDigit {n : Nat} {c : Char} (h : c ∈ natDigits n) : isDigitC c = true :=
  isDigitC_of_isDigit (Nat.isDigit_of_mem_toDigits (by decide) (by decide) h)

theorem natDigits_inj {m n : Nat} (h : natDigits m = natDigits n) : m = n := by
  have := congrArg (fun l => Nat.ofDigitChars 10 l 0) h
  simpa only [natDigits, Nat.ofDigitChars_ten_toDigits] using this

theorem natDigits_ne_nil (n : Nat) : natDigits n ≠ [] := Nat.toDigits_ne_nil

/-! ## `repr(str)` is a prefix code -/

def unhex (c : Char) : Nat := if c.toNat < 58 then c.toNat - 48 else c.toNat - 87

/-- Reads one (possibly escaped) character of a `repr(str)` body back. -/
def unesc : Str → Option (Char × Str)
  | [] => none
  | c :: r =>
    if c ≠ '\\' then some (c, r) else
    match r with
    | [] => none
    | e :: r' =>
      if e = 'n' then some ('\n', r') else if e = 'r' then some ('\r', r')
      else if e = 't' then some ('\t', r')
      else if e = 'x' then
        match r' with
        | h1 :: h2 :: r'' => some (Char.ofNat (unhex h1 * 16 + unhex h2), r'')
        | _ => none
      else some (e, r')

def IsQuote (q : Char) : Prop := q = '\'' ∨ q = '"'

theorem unhex_hexDigit : ∀ k : Fin 16, unhex (hexDigit k.val) = k.val := by decide

theorem unesc_escChar {q : Char} (hq : IsQuote q) (c : Char) (r : Str) :
    unesc (escChar q c ++ r) = some (c, r) := by
  unfold escChar
  by_cases h1 : c = '\\'
  · rw [if_pos h1, h1]; rfl
  rw [if_neg h1]
  by_cases h2 : c = q
  · rw [if_pos h2, h2]; rcases hq with rfl | rfl <;> rfl
  rw [if_neg h2]
  by_cases h3 : c = '\n'
  · rw [if_pos h3, h3]; rfl
  rw [if_neg h3]
  by_cases h4 : c = '\r'
  · rw [if_pos h4, h4]; rfl
  rw [if_neg h4]
  by_cases h5 : c = '\t'
  · rw [if_pos h5, h5]; rfl
  rw [if_neg h5]
  by_cases h6 : c.toNat < 32 ∨ c.toNat = 127
  · rw [if_pos h6]
    have e1 := unhex_hexDigit ⟨c.toNat / 16, by omega⟩
    have e2 := unhex_hexDigit ⟨c.toNat % 16, Nat.mod_lt _ (by decide)⟩
    show some (Char.ofNat (unhex (hexDigit (c.toNat / 16)) * 16 + unhex (hexDigit (c.toNat % 16))), r) = _
    rw [e1, e2, Nat.div_add_mod', Char.ofNat_toNat]
  · rw [if_neg h6]
    exact if_pos h1

theorem isQuote_ne_backslash {q : Char} (hq : IsQuote q) : q ≠ '\\' := by
  rcases hq with rfl | rfl <;> decide

theorem unesc_quote {q : Char} (hq : IsQuote q) (r : Str) : unesc (q :: r) = some (q, r) :=
  if_pos (isQuote_ne_backslash hq)

/-- An escaped character never starts with the (unescaped) closing quote. -/
theorem escChar_head_ne {q : Char} (hq : IsQuote q) (c : Char) (r t : Str) :
    escChar q c ++ r ≠ q :: t := by
  intro h
  have h1 := unesc_escChar hq c r
  rw [h, unesc_quote hq] at h1
  obtain ⟨rfl, rfl⟩ := Prod.mk.inj (Option.some.inj h1)
  -- `escChar q q` is a backslash and `q`
  have hb := isQuote_ne_backslash hq
  rw [escChar, if_neg hb, if_pos rfl] at h
  exact hb (List.cons.inj h).1.symm

theorem quoteOf_isQuote (s : Str) : IsQuote (quoteOf s) := by
  unfold quoteOf
  split
  · exact .inr rfl
  · exact .inl rfl

/-- `repr(str)` can be read back from the front of any text: `unesc` reads the body back character by
character, up to the closing quote. -/
theorem reprStr_prefix : PrefixCode reprStr := by
  intro a b r s h
  simp only [reprStr, List.cons_append, List.append_assoc, List.cons.injEq, List.flatMap_def] at h
  obtain ⟨hq, h⟩ := h
  rw [← hq] at h
  have hq := quoteOf_isQuote a
  have hc : ReadOn (fun _ => True) (fun _ => True) (escChar (quoteOf a)) := fun c d r s _ _ _ _ e => by
    have h1 := unesc_escChar hq c r
    rw [e, unesc_escChar hq d] at h1
    exact Prod.mk.inj (Option.some.inj h1).symm
  exact (hc.flatten (E := fun t => ∃ u, t = quoteOf a :: u) (fun _ _ => trivial) (fun _ _ => trivial)
    (fun c r t _ ⟨u, e⟩ => e ▸ escChar_head_ne hq c r u) (fun _ _ => trivial) (fun _ _ => trivial)
    ⟨r, rfl⟩ ⟨s, rfl⟩ h).1

/-! ## The layout of `repr(float)` -/

def dC (ds : List Nat) : Str := ds.map digitChar
def signOf (neg : Bool) : Str := if neg then ['-'] else []
def mantOf (dsC : Str) : Str :=
  match dsC with
  | [] => ['0']
  | [d] => [d]
  | d :: rest => d :: '.' :: rest
def expDigits (p : Int) : Str :=
  let ed := natDigits (p - 1).natAbs
  if ed.length < 2 then '0' :: ed else ed
def expOf (p : Int) : Str := ['e', if p - 1 < 0 then '-' else '+'] ++ expDigits p
def intFrac (dsC : Str) (p : Int) : Str × Str :=
  if p ≤ 0 then (['0'], zeros (-p).toNat ++ dsC)
  else if p ≥ dsC.length then (dsC ++ zeros (p - dsC.length).toNat, ['0'])
  else (dsC.take p.toNat, dsC.drop p.toNat)
/-- The text after the sign of a finite float. -/
def bodyOf (dsC : Str) (p : Int) : Str :=
  if p ≤ -4 ∨ p > 16 then mantOf dsC ++ expOf p
  else (intFrac dsC p).1 ++ '.' :: (intFrac dsC p).2

theorem reprFlt_fin (neg : Bool) (ds : List Nat) (p : Int) :
    reprFlt (.fin neg ds p) = signOf neg ++ bodyOf (dC ds) p := by
  unfold bodyOf reprFlt
  by_cases h1 : p ≤ -4 ∨ p > 16
  · simp only [if_pos h1, List.append_assoc]; rfl
  simp only [if_neg h1, intFrac, dC, List.length_map]
  by_cases h2 : p ≤ 0
  · simp only [if_pos h2, List.append_assoc]; rfl
  simp only [if_neg h2]
  by_cases h3 : p ≥ (ds.length : Int)
  · simp only [if_pos h3, List.append_assoc]; rfl
  · simp only [if_neg h3, List.append_assoc]; rfl

theorem isDigitC_digitChar (d : Nat) : isDigitC (digitChar d) = true := by
  have : ∀ k : Fin 10, isDigitC (Char.ofNat (48 + k.val)) = true := by decide
  exact this ⟨d % 10, Nat.mod_lt _ (by decide)⟩

abbrev IsDigits (l : Str) : Prop := ∀ c ∈ l, isDigitC c = true

theorem dC_digit (ds : List Nat) : IsDigits (dC ds) := fun _ h => by
  obtain ⟨d, _, rfl⟩ := List.mem_map.mp h
  exact isDigitC_digitChar d

theorem mem_zeros {c : Char} {n : Nat} (h : c ∈ zeros n) : c = '0' := (List.mem_replicate.mp h).2

theorem not_mem_of_class {p : Char → Bool} {l : Str} (h : ∀ c ∈ l, p c = true) {x : Char}
    (hx : p x = false) : x ∉ l := fun m => by rw [h x m] at hx; cases hx

/-- Integer and fractional part together are the digits between two runs of zeros; the integer part is not
empty and ends `p` places behind the leading zeros. -/
theorem intFrac_padded (d : Str) (p : Int) : ∃ k j : Nat,
    (intFrac d p).1 ++ (intFrac d p).2 = zeros k ++ (d ++ zeros j) ∧
    0 < (intFrac d p).1.length ∧ ((intFrac d p).1.length : Int) = p + k := by
  unfold intFrac
  by_cases h1 : p ≤ 0
  · rw [if_pos h1]
    refine ⟨(-p).toNat + 1, 0, by simp [zeros, List.replicate_succ], ?_⟩
    simp only [List.length_cons, List.length_nil]
    omega
  rw [if_neg h1]
  by_cases h2 : p ≥ d.length
  · rw [if_pos h2]
    refine ⟨0, (p - d.length).toNat + 1, by simp [zeros, List.replicate_succ'], ?_⟩
    simp only [List.length_append, zeros, List.length_replicate]
    omega
  · rw [if_neg h2]
    refine ⟨0, 0, by simp [zeros], ?_⟩
    simp only [List.length_take]
    omega

theorem intFrac_digits {dsC : Str} (hd : IsDigits dsC) (p : Int) :
    IsDigits (intFrac dsC p).1 ∧ IsDigits (intFrac dsC p).2 := by
  obtain ⟨k, j, e, -⟩ := intFrac_padded dsC p
  have z : ∀ n, IsDigits (zeros n) := fun n c hc => mem_zeros hc ▸ rfl
  have all : IsDigits ((intFrac dsC p).1 ++ (intFrac dsC p).2) :=
    e ▸ List.forall_mem_append.mpr ⟨z k, List.forall_mem_append.mpr ⟨hd, z j⟩⟩
  exact List.forall_mem_append.mp all

theorem mantOf_chars {dsC : Str} (hd : IsDigits dsC) {c : Char} (h : c ∈ mantOf dsC) :
    isDigitC c = true ∨ c = '.' := by
  unfold mantOf at h
  split at h
  · exact .inl ((List.mem_singleton.mp h) ▸ rfl)
  · exact .inl (hd c h)
  · rename_i d rest _
    rcases List.mem_cons.mp h with rfl | h
    · exact .inl (hd _ List.mem_cons_self)
    rcases List.mem_cons.mp h with rfl | h
    · exact .inr rfl
    · exact .inl (hd _ (List.mem_cons_of_mem _ h))

theorem expOf_chars {p : Int} {c : Char} (h : c ∈ expOf p) :
    isDigitC c = true ∨ c = 'e' ∨ c = '+' ∨ c = '-' := by
  simp only [expOf, expDigits, List.cons_append, List.nil_append, List.mem_cons] at h
  rcases h with rfl | h | h
  · exact Or.inr (Or.inl rfl)
  · split at h
    · exact Or.inr (Or.inr (Or.inr h))
    · exact Or.inr (Or.inr (Or.inl h))
  · split at h
    · rcases List.mem_cons.mp h with rfl | h
      · exact Or.inl (by decide)
      · exact Or.inl (natDigits_isDigit h)
    · exact Or.inl (natDigits_isDigit h)

theorem fixed_chars {dsC : Str} (hd : IsDigits dsC) {p : Int} {c : Char}
    (h : c ∈ (intFrac dsC p).1 ++ '.' :: (intFrac dsC p).2) : isDigitC c = true ∨ c = '.' := by
  rcases List.mem_append.mp h with h | h
  · exact .inl ((intFrac_digits hd p).1 c h)
  rcases List.mem_cons.mp h with h | h
  · exact .inr h
  · exact .inl ((intFrac_digits hd p).2 c h)

theorem bodyOf_chars {dsC : Str} (hd : IsDigits dsC) {p : Int} {c : Char}
    (h : c ∈ bodyOf dsC p) : isDigitC c = true ∨ c = '.' ∨ c = 'e' ∨ c = '+' ∨ c = '-' := by
  unfold bodyOf at h
  split at h
  · rcases List.mem_append.mp h with h | h
    · exact (mantOf_chars hd h).elim .inl (.inr ∘ .inl)
    · exact (expOf_chars h).elim .inl (.inr ∘ .inr)
  · exact (fixed_chars hd h).elim .inl (.inr ∘ .inl)

theorem bodyOf_has_mark (dsC : Str) (p : Int) : '.' ∈ bodyOf dsC p ∨ 'e' ∈ bodyOf dsC p := by
  unfold bodyOf
  split
  · exact .inr (List.mem_append_right _ List.mem_cons_self)
  · exact .inl (List.mem_append_right _ List.mem_cons_self)

abbrev DigitHead : Str → Prop := HeadIn (isDigitC · = true)

theorem mem_signOf {neg : Bool} {c : Char} (h : c ∈ signOf neg) : c = '-' := by
  cases neg
  · cases h
  · exact List.mem_singleton.mp h

theorem sign_strip {a b : Bool} {u v : Str} (hu : DigitHead u) (hv : DigitHead v)
    (h : signOf a ++ u = signOf b ++ v) : a = b ∧ u = v := by
  obtain ⟨c, t, rfl, hc⟩ := hu
  obtain ⟨d, w, rfl, hd⟩ := hv
  have nm : ∀ {x : Char}, isDigitC x = true → x ≠ '-' := fun hx e => by rw [e] at hx; cases hx
  cases a <;> cases b
  · exact ⟨rfl, h⟩
  · exact absurd (List.cons.inj h).1 (nm hc)
  · exact absurd (List.cons.inj h).1.symm (nm hd)
  · exact ⟨rfl, (List.cons.inj h).2⟩

/-! ## Scalars as tokens -/

def isFltChar (c : Char) : Bool :=
  isDigitC c || c = '.' || c = 'e' || c = '+' || c = '-' || c = 'i' || c = 'n' || c = 'f' || c = 'a'

/-- Characters of the non-string scalar reprs. None of them is a stop character or a quote. -/
def isTokChar (c : Char) : Bool := isIdentChar c || c = '.' || c = '+' || c = '-'

theorem isTok_of_digit {c : Char} (h : isDigitC c = true) : isTokChar c = true := by
  simp only [isTokChar, isIdentChar, h, Bool.or_true, Bool.true_or]

theorem isFlt_of_digit {c : Char} (h : isDigitC c = true) : isFltChar c = true := by
  simp only [isFltChar, h, Bool.true_or]

theorem isTok_of_flt {c : Char} (h : isFltChar c = true) : isTokChar c = true := by
  simp only [isFltChar, Bool.or_eq_true, decide_eq_true_eq] at h
  rcases h with (((((((h | h) | h) | h) | h) | h) | h) | h) | h
  · exact isTok_of_digit h
  all_goals (subst h; rfl)

theorem not_tok_of_stop {c : Char} (h : IsStop c) : ¬ (isTokChar c = true) := by
  rcases h with rfl | rfl | rfl <;> decide

theorem reprInt_eq (i : Int) : reprInt i = signOf (decide (i < 0)) ++ natDigits i.natAbs := by
  unfold reprInt signOf
  by_cases h : i < 0
  · rw [if_pos h, if_pos (decide_eq_true h)]; rfl
  · rw [if_neg h, if_neg (by simpa using h), show i.toNat = i.natAbs by omega]; rfl

theorem natDigits_digitHead (n : Nat) : DigitHead (natDigits n) :=
  .of_all (natDigits_ne_nil n) fun _ => natDigits_isDigit

theorem reprInt_chars {i : Int} {c : Char} (h : c ∈ reprInt i) : isDigitC c = true ∨ c = '-' := by
  rw [reprInt_eq] at h
  rcases List.mem_append.mp h with h | h
  · exact .inr (mem_signOf h)
  · exact .inl (natDigits_isDigit h)

theorem reprInt_tok {i : Int} {c : Char} (h : c ∈ reprInt i) : isTokChar c = true :=
  (reprInt_chars h).elim isTok_of_digit (· ▸ rfl)

theorem reprInt_ne_nil (i : Int) : reprInt i ≠ [] := fun e =>
  natDigits_ne_nil _ (List.append_eq_nil_iff.mp (reprInt_eq i ▸ e)).2

theorem reprInt_inj {i j : Int} (h : reprInt i = reprInt j) : i = j := by
  rw [reprInt_eq, reprInt_eq] at h
  obtain ⟨hs, hd⟩ := sign_strip (natDigits_digitHead _) (natDigits_digitHead _) h
  have := natDigits_inj hd
  have := decide_eq_decide.mp hs
  omega

theorem reprFlt_chars {f : Flt} {c : Char} (h : c ∈ reprFlt f) : isFltChar c = true := by
  cases f with
  | nan => revert c; decide
  | inf neg => revert c; cases neg <;> decide
  | fin neg ds p =>
    rw [reprFlt_fin] at h
    rcases List.mem_append.mp h with h | h
    · exact mem_signOf h ▸ rfl
    · rcases bodyOf_chars (dC_digit _) h with h | rfl | rfl | rfl | rfl
      · exact isFlt_of_digit h
      all_goals rfl

/-- Every float repr contains `.`, `e` or `n` — no int repr does. -/
theorem reprFlt_mark (f : Flt) : ∃ c ∈ reprFlt f, c = '.' ∨ c = 'e' ∨ c = 'n' := by
  cases f with
  | nan => exact ⟨'n', by decide, .inr (.inr rfl)⟩
  | inf neg => exact ⟨'n', by cases neg <;> decide, .inr (.inr rfl)⟩
  | fin neg ds p =>
    rw [reprFlt_fin]
    rcases bodyOf_has_mark (dC ds) p with h | h
    · exact ⟨'.', List.mem_append_right _ h, .inl rfl⟩
    · exact ⟨'e', List.mem_append_right _ h, .inr (.inl rfl)⟩

variable {T : Flt → Prop}

/-- Shortest-digit normal form of a finite float (what `repr` works from). Zero is the digit `0` with
`decpt = 1`, so `0.0` is `.fin false [0] 1` and `-0.0` is `.fin true [0] 1` (what `float_digits` of
harness/extract_names.py hands over, and what `reprFlt` lays out as `0.0`, `-0.0`); the digits of any other float
neither start nor end with a zero. -/
def Flt.Norm : Flt → Prop
  | .fin _ ds decpt => ds ≠ [] ∧ (∀ d ∈ ds, d < 10) ∧
      ((ds = [0] ∧ decpt = 1) ∨ (ds.head? ≠ some 0 ∧ ds.getLast? ≠ some 0))
  | _ => True

def FltInjOn (T : Flt → Prop) : Prop := ∀ f g : Flt, T f → T g → reprFlt f = reprFlt g → f = g

/-- Scalars whose `repr` the theorems speak about: no opaque objects, floats in the class `T`. -/
def Scalar.OK (T : Flt → Prop) : Scalar → Prop
  | .raw _ => False
  | .float f => T f
  | _ => True

/-- str / int / bool / None. -/
abbrev Scalar.Simple : Scalar → Prop := Scalar.OK (fun _ => False)

theorem fltInjOn_false : FltInjOn (fun _ => False) := fun _ _ h => h.elim

def Scalar.isStr : Scalar → Bool
  | .str _ => true
  | _ => false

theorem Scalar.eq_str {a : Scalar} (h : a.isStr = true) : ∃ x, a = .str x := by
  cases a with
  | str x => exact ⟨x, rfl⟩
  | _ => cases h

theorem nonstr_chars {v : Scalar} (hv : v.OK T) (hs : v.isStr = false) :
    ∀ c ∈ reprScalar v, isTokChar c = true := by
  cases v with
  | str s => cases hs
  | raw r => exact hv.elim
  | int i => exact fun c => reprInt_tok
  | bool b => cases b <;> decide
  | float f => exact fun c h => isTok_of_flt (reprFlt_chars h)
  | none => decide

theorem nonstr_ne_nil {v : Scalar} (hv : v.OK T) (hs : v.isStr = false) : reprScalar v ≠ [] := by
  cases v with
  | str s => cases hs
  | raw r => exact hv.elim
  | int i => exact reprInt_ne_nil i
  | bool b => cases b <;> decide
  | float f =>
    obtain ⟨c, hc, _⟩ := reprFlt_mark f
    exact List.ne_nil_of_mem hc
  | none => decide

theorem reprBool_inj {c d : Bool} : reprBool c = reprBool d → c = d := by
  cases c <;> cases d <;> decide

def Scalar.kind : Scalar → Nat
  | .int _ => 0 | .float _ => 1 | .bool _ | .none => 2 | .str _ => 3 | .raw _ => 4

/-- The kind of a non-string scalar, read off its text: a character that no number has (`True`, `False`,
`None`); else a `.`, `e` or `n` (floats); else neither (ints). -/
def textKind (l : Str) : Nat :=
  if ∃ x ∈ l, isFltChar x = false then 2 else if ∃ c ∈ l, c = '.' ∨ c = 'e' ∨ c = 'n' then 1 else 0

theorem textKind_repr {v : Scalar} (hv : v.OK T) (hs : v.isStr = false) :
    textKind (reprScalar v) = v.kind := by
  have low : ∀ {l : Str}, (∀ c ∈ l, isFltChar c = true) → ¬ ∃ x ∈ l, isFltChar x = false :=
    fun hl ⟨_, hx, hu⟩ => not_mem_of_class hl hu hx
  cases v with
  | str s => cases hs
  | raw r => exact hv.elim
  | int i =>
    have nm : ¬ ∃ c ∈ reprInt i, c = '.' ∨ c = 'e' ∨ c = 'n' := fun ⟨c, hc, hm⟩ => by
      rcases reprInt_chars hc with h | h <;> rcases hm with rfl | rfl | rfl <;> exact absurd h (by decide)
    exact (if_neg (low fun c hc => (reprInt_chars hc).elim isFlt_of_digit (· ▸ rfl))).trans (if_neg nm)
  | float f => exact (if_neg (low fun c => reprFlt_chars)).trans (if_pos (reprFlt_mark f))
  | bool b => cases b <;> decide
  | none => decide

/-- Non-string scalar texts are pairwise different: the text shows the kind, and each kind is printed
injectively. -/
theorem nonstr_inj (hF : FltInjOn T) {a b : Scalar} (ha : a.OK T) (hb : b.OK T) (hsa : a.isStr = false)
    (hsb : b.isStr = false) (h : reprScalar a = reprScalar b) : a = b := by
  have e : a.kind = b.kind := by rw [← textKind_repr ha hsa, ← textKind_repr hb hsb, h]
  cases a <;> cases b <;> cases e
  · cases hsa
  · rw [reprInt_inj h]
  · rw [reprBool_inj h]
  · exact absurd h (by cases ‹Bool› <;> decide)
  · rw [hF _ _ ha hb h]
  · exact absurd h (by cases ‹Bool› <;> decide)
  · rfl
  · exact ha.elim

theorem quote_not_tok {q : Char} (hq : IsQuote q) : ¬ (isTokChar q = true) := by
  rcases hq with rfl | rfl <;> decide

/-- A printer of non-empty runs of token characters is a tuple / list component where it is injective. -/
theorem Delim.of_tok (htok : ∀ a, S a → ∀ c ∈ f a, isTokChar c = true)
    (hne : ∀ a, S a → f a ≠ []) (hinj : ∀ a b, S a → S b → f a = f b → a = b) : Delim S f where
  read := fun a b r s ha hb hr hs h =>
    (token_inj (body := (isTokChar · = true)) (htok a ha) (htok b hb)
      (hr.mono fun _ => not_tok_of_stop) (hs.mono fun _ => not_tok_of_stop) h).imp_left (hinj a b ha hb)
  head := fun a r ha hs => by
    obtain ⟨c, hp, hq⟩ := ((HeadIn.of_all (hne a ha) (htok a ha)).append r).common hs
    exact not_tok_of_stop hq hp

theorem reprInt_delim : Delim (fun _ : Int => True) reprInt :=
  .of_tok (fun _ _ _ => reprInt_tok) (fun i _ => reprInt_ne_nil i) fun _ _ _ _ => reprInt_inj

theorem reprStr_head (x r : Str) : HeadIn IsQuote (reprStr x ++ r) := ⟨_, _, rfl, quoteOf_isQuote x⟩

theorem reprStr_delim : Delim (fun _ : Str => True) reprStr where
  read := (reprStr_prefix.on _).readOn _
  head := fun x r _ hs => by
    obtain ⟨c, hq, hs⟩ := (reprStr_head x r).common hs
    rcases hq with rfl | rfl <;> exact absurd hs (by unfold IsStop; decide)

/-- `repr` of a scalar can be read back when a stop character follows: a string by its quotes, the others
as tokens. -/
theorem reprScalar_delim (hF : FltInjOn T) : Delim (Scalar.OK T) reprScalar := by
  have tok : Delim (fun v : Scalar => v.OK T ∧ v.isStr = false) reprScalar :=
    .of_tok (fun v hv => nonstr_chars hv.1 hv.2) (fun v hv => nonstr_ne_nil hv.1 hv.2)
      fun a b ha hb => nonstr_inj hF ha.1 hb.1 ha.2 hb.2
  have mixed : ∀ (x : Str) (b : Scalar) (r s : Str), b.OK T → b.isStr = false →
      reprStr x ++ r ≠ reprScalar b ++ s := fun x b r s hb hs e => by
    obtain ⟨c, hq, ht⟩ := (e ▸ reprStr_head x r).common
      ((HeadIn.of_all (nonstr_ne_nil hb hs) (nonstr_chars hb hs)).append s)
    exact quote_not_tok hq ht
  refine ⟨fun a b r s ha hb hr hs h => ?_, fun a r ha => ?_⟩
  · cases hsa : a.isStr <;> cases hsb : b.isStr
    · exact tok.read ⟨ha, hsa⟩ ⟨hb, hsb⟩ hr hs h
    · obtain ⟨y, rfl⟩ := Scalar.eq_str hsb
      exact absurd h.symm (mixed y a s r ha hsa)
    · obtain ⟨x, rfl⟩ := Scalar.eq_str hsa
      exact absurd h (mixed x b r s hb hsb)
    · obtain ⟨x, rfl⟩ := Scalar.eq_str hsa
      obtain ⟨y, rfl⟩ := Scalar.eq_str hsb
      exact (reprStr_prefix.rest h).imp_left (congrArg Scalar.str)
  · cases hsa : a.isStr
    · exact tok.head a r ⟨ha, hsa⟩
    · obtain ⟨x, rfl⟩ := Scalar.eq_str hsa
      exact reprStr_delim.head x r trivial

/-! ## The float layout is injective on shortest-digit normal forms -/

theorem digitChar_toNat : ∀ k : Fin 10, (digitChar k.val).toNat = 48 + k.val := by decide

theorem digitChar_inj {a b : Nat} (ha : a < 10) (hb : b < 10) (h : digitChar a = digitChar b) : a = b := by
  have e := congrArg Char.toNat h
  rw [digitChar_toNat ⟨a, ha⟩, digitChar_toNat ⟨b, hb⟩] at e
  exact Nat.add_left_cancel e

theorem dC_inj : ∀ {a b : List Nat}, (∀ d ∈ a, d < 10) → (∀ d ∈ b, d < 10) → dC a = dC b → a = b
  | [], [], _, _, _ => rfl
  | [], _ :: _, _, _, h => nomatch h
  | _ :: _, [], _, _, h => nomatch h
  | x :: xs, y :: ys, ha, hb, h => by
    rw [List.forall_mem_cons] at ha hb
    obtain ⟨h1, h2⟩ := List.cons.inj h
    rw [digitChar_inj ha.1 hb.1 h1, dC_inj ha.2 hb.2 h2]

abbrev HeadNZ : Str → Prop := HeadIn (· ≠ '0')

/-- Non-zero shortest digits: no leading and no trailing zero. -/
structure NZDigits (dsC : Str) : Prop where
  head : HeadNZ dsC
  last : HeadNZ dsC.reverse

/-- A text is made up of leading zeros, non-zero shortest digits and trailing zeros in one way only. -/
theorem padded_inj {a b : Str} (ha : NZDigits a) (hb : NZDigits b) {k k' j j' : Nat}
    (h : zeros k ++ (a ++ zeros j) = zeros k' ++ (b ++ zeros j')) : k = k' ∧ a = b := by
  have lead : ∀ {k k' : Nat} {x x' : Str}, HeadNZ x → HeadNZ x' → zeros k ++ x = zeros k' ++ x' →
      k = k' ∧ x = x' := fun {k k' x x'} hx hx' e => by
    obtain ⟨e1, e2⟩ := token_inj (body := (· = '0')) (fun _ => mem_zeros) (fun _ => mem_zeros) hx hx' e
    exact ⟨(List.replicate_inj.mp e1).1, e2⟩
  obtain ⟨hk, e⟩ := lead (ha.head.append _) (hb.head.append _) h
  have e' := congrArg List.reverse e
  rw [List.reverse_append, List.reverse_append, zeros, zeros, List.reverse_replicate,
    List.reverse_replicate] at e'
  exact ⟨hk, List.reverse_inj.mp (lead ha.last hb.last e').2⟩

theorem dC_ne_nil {ds : List Nat} (h : ds ≠ []) : dC ds ≠ [] := fun e => h (List.map_eq_nil_iff.mp e)

theorem headNZ_dC : ∀ {ds : List Nat}, (∀ d ∈ ds, d < 10) → ds ≠ [] → ds.head? ≠ some 0 → HeadNZ (dC ds)
  | [], _, hne, _ => absurd rfl hne
  | d :: t, hlt, _, z => ⟨digitChar d, dC t, rfl, fun e =>
      z (congrArg some (digitChar_inj (hlt d List.mem_cons_self) (by decide) e))⟩

theorem nzDigits_of_norm {ds : List Nat} (hne : ds ≠ []) (hlt : ∀ d ∈ ds, d < 10)
    (z : ds.head? ≠ some 0 ∧ ds.getLast? ≠ some 0) : NZDigits (dC ds) where
  head := headNZ_dC hlt hne z.1
  last := by
    rw [dC, ← List.map_reverse]
    exact headNZ_dC (fun d hd => hlt d (List.mem_reverse.mp hd)) (mt List.reverse_eq_nil_iff.mp hne)
      (List.head?_reverse ▸ z.2)

theorem fixed_body_split {a b : Str} (da : IsDigits a) (db : IsDigits b)
    {p q : Int}
    (h : (intFrac a p).1 ++ '.' :: (intFrac a p).2 = (intFrac b q).1 ++ '.' :: (intFrac b q).2) :
    intFrac a p = intFrac b q :=
  Prod.ext_iff.mpr (split_sep (not_mem_of_class (intFrac_digits da p).1 rfl)
    (not_mem_of_class (intFrac_digits db q).1 rfl) h)

theorem fixed_body_inj {a b : Str} (ha : NZDigits a) (hb : NZDigits b)
    (da : IsDigits a) (db : IsDigits b) {p q : Int}
    (h : (intFrac a p).1 ++ '.' :: (intFrac a p).2 = (intFrac b q).1 ++ '.' :: (intFrac b q).2) :
    a = b ∧ p = q := by
  obtain ⟨k, j, e₁, -, l₁⟩ := intFrac_padded a p
  obtain ⟨k', j', e₂, -, l₂⟩ := intFrac_padded b q
  rw [fixed_body_split da db h] at e₁ l₁
  obtain ⟨rfl, hab⟩ := padded_inj ha hb (e₁.symm.trans e₂)
  exact ⟨hab, by omega⟩

theorem mantOf_inj : ∀ {a b : Str}, a ≠ [] → b ≠ [] → mantOf a = mantOf b → a = b
  | [], _, ha, _, _ => absurd rfl ha
  | _, [], _, hb, _ => absurd rfl hb
  | [_], [_], _, _, h => h
  | [_], _ :: _ :: _, _, _, h => nomatch (List.cons.inj h).2
  | _ :: _ :: _, [_], _, _, h => nomatch (List.cons.inj h).2
  | _ :: _ :: _, _ :: _ :: _, _, _, h => by
    obtain ⟨h1, h2⟩ := List.cons.inj h
    rw [h1, (List.cons.inj h2).2]

theorem expDigits_val (p : Int) : Nat.ofDigitChars 10 (expDigits p) 0 = (p - 1).natAbs := by
  simp only [expDigits]
  split
  · simp [Nat.ofDigitChars_cons, natDigits, Nat.ofDigitChars_ten_toDigits]
  · simp [natDigits, Nat.ofDigitChars_ten_toDigits]

theorem exp_body_inj {a b : Str} (ha : a ≠ []) (hb : b ≠ []) (da : IsDigits a)
    (db : IsDigits b) {p q : Int}
    (h : mantOf a ++ expOf p = mantOf b ++ expOf q) : a = b ∧ p = q := by
  have ne : ∀ {x : Str}, IsDigits x → 'e' ∉ mantOf x := fun hx m =>
    (mantOf_chars hx m).elim (fun h => absurd h (by decide)) (fun h => absurd h (by decide))
  simp only [expOf, List.cons_append, List.nil_append] at h
  obtain ⟨h1, h2⟩ := split_sep (ne da) (ne db) h
  obtain ⟨hsgn, hdig⟩ := List.cons.inj h2
  have hv := expDigits_val q
  rw [← hdig, expDigits_val p] at hv
  refine ⟨mantOf_inj ha hb h1, ?_⟩
  by_cases c1 : p - 1 < 0 <;> by_cases c2 : q - 1 < 0
  · omega
  · rw [if_pos c1, if_neg c2] at hsgn; exact absurd hsgn (by decide)
  · rw [if_neg c1, if_pos c2] at hsgn; exact absurd hsgn (by decide)
  · omega

theorem bodyOf_digitHead {dsC : Str} (hne : dsC ≠ []) (hd : IsDigits dsC) (p : Int) :
    DigitHead (bodyOf dsC p) := by
  unfold bodyOf
  split
  · obtain ⟨d, rest, rfl⟩ := List.exists_cons_of_ne_nil hne
    cases rest <;> exact ⟨d, _, rfl, hd d List.mem_cons_self⟩
  · obtain ⟨_, _, -, hpos, -⟩ := intFrac_padded dsC p
    exact (HeadIn.of_all (List.ne_nil_of_length_pos hpos) (intFrac_digits hd p).1).append _

/-- The exponent notation is the one with an `e`. -/
theorem e_mem_bodyOf {dsC : Str} (hd : IsDigits dsC) (p : Int) :
    'e' ∈ bodyOf dsC p ↔ (p ≤ -4 ∨ p > 16) := by
  unfold bodyOf
  by_cases e : p ≤ -4 ∨ p > 16
  · rw [if_pos e]
    exact iff_of_true (List.mem_append_right _ List.mem_cons_self) e
  · rw [if_neg e]
    exact iff_of_false (fun hm => (fixed_chars hd hm).elim (fun h => absurd h (by decide))
      (fun h => absurd h (by decide))) e

/-- `0.0` is not the fixed-notation body of any non-zero normal form: it would hold the first digit. -/
theorem fixed_zero_ne {b : Str} (hb : NZDigits b) (db : IsDigits b) (q : Int) :
    (intFrac ['0'] 1).1 ++ '.' :: (intFrac ['0'] 1).2 ≠ (intFrac b q).1 ++ '.' :: (intFrac b q).2 := by
  intro h
  obtain ⟨k, j, e, -⟩ := intFrac_padded b q
  obtain ⟨c, t, rfl, hc0⟩ := hb.head
  have hc : c ∈ (intFrac ['0'] 1).1 ++ (intFrac ['0'] 1).2 := by
    rw [fixed_body_split (by decide) db h, e]
    exact List.mem_append_right _ (List.mem_append_left _ List.mem_cons_self)
  have all0 : ∀ x ∈ (intFrac ['0'] 1).1 ++ (intFrac ['0'] 1).2, x = '0' := by decide
  exact hc0 (all0 c hc)

theorem bodyOf_inj {m n : Bool} {ds es : List Nat} {p q : Int} (hf : Flt.Norm (.fin m ds p))
    (hg : Flt.Norm (.fin n es q)) (h : bodyOf (dC ds) p = bodyOf (dC es) q) : ds = es ∧ p = q := by
  obtain ⟨ne1, lt1, z1⟩ := hf
  obtain ⟨ne2, lt2, z2⟩ := hg
  have e2 : (p ≤ -4 ∨ p > 16) ↔ (q ≤ -4 ∨ q > 16) := by
    rw [← e_mem_bodyOf (dC_digit ds), ← e_mem_bodyOf (dC_digit es), h]
  unfold bodyOf at h
  by_cases e1 : p ≤ -4 ∨ p > 16
  · rw [if_pos e1, if_pos (e2.mp e1)] at h
    exact (exp_body_inj (dC_ne_nil ne1) (dC_ne_nil ne2) (dC_digit _) (dC_digit _) h).imp_left (dC_inj lt1 lt2)
  · rw [if_neg e1, if_neg (mt e2.mpr e1)] at h
    rcases z1 with ⟨rfl, rfl⟩ | z1 <;> rcases z2 with ⟨rfl, rfl⟩ | z2
    · exact ⟨rfl, rfl⟩
    · exact absurd h (fixed_zero_ne (nzDigits_of_norm ne2 lt2 z2) (dC_digit _) q)
    · exact absurd h.symm (fixed_zero_ne (nzDigits_of_norm ne1 lt1 z1) (dC_digit _) p)
    · exact (fixed_body_inj (nzDigits_of_norm ne1 lt1 z1) (nzDigits_of_norm ne2 lt2 z2) (dC_digit _) (dC_digit _)
        h).imp_left (dC_inj lt1 lt2)

def Flt.isFin : Flt → Bool
  | .fin .. => true
  | _ => false

/-- `nan`, `inf` and `-inf` are the float texts with an `n`. -/
theorem n_mem_reprFlt (f : Flt) : decide ('n' ∈ reprFlt f) = !f.isFin := by
  cases f with
  | nan => decide
  | inf a => cases a <;> decide
  | fin neg ds p =>
    refine decide_eq_false fun hm => ?_
    rw [reprFlt_fin] at hm
    rcases List.mem_append.mp hm with h | h
    · exact absurd (mem_signOf h) (by decide)
    · rcases bodyOf_chars (dC_digit _) h with h | h | h | h | h <;> exact absurd h (by decide)

/-- Python's float `repr` layout is injective on shortest-digit normal forms: a finite float is sign and
body. -/
theorem reprFlt_inj : FltInjOn Flt.Norm := by
  intro f g hf hg h
  have e := Bool.not_inj ((n_mem_reprFlt f).symm.trans
    ((congrArg (fun t => decide ('n' ∈ t)) h).trans (n_mem_reprFlt g)))
  cases f <;> cases g <;> cases e
  · rw [reprFlt_fin, reprFlt_fin] at h
    obtain ⟨rfl, hb⟩ := sign_strip (bodyOf_digitHead (dC_ne_nil hf.1) (dC_digit _) _)
      (bodyOf_digitHead (dC_ne_nil hg.1) (dC_digit _) _) h
    obtain ⟨rfl, rfl⟩ := bodyOf_inj hf hg hb
    rfl
  · rename_i a b
    exact congrArg Flt.inf (by revert h; cases a <;> cases b <;> decide)
  · exact absurd h (by cases ‹Bool› <;> decide)
  · exact absurd h (by cases ‹Bool› <;> decide)
  · rfl

end Ffcx.Naming
