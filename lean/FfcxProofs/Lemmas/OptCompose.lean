/-
Composition of the passes: the per-section passes of `optimize`, from section to section
(`optimizeSections_sound`).  The chain with the two runs of `fuse_sections` is `optimize_sound` (C17Opt).
-/
import FfcxProofs.Lemmas.OptFuseLoops
import FfcxProofs.Lemmas.OptLicmReach

namespace Ffcx.LNodes
open Ffcx.LNodes.Opt
open Lean.Grind
attribute [local instance] Lean.Grind.Ring.intCast

variable {R : Type} [Field R] (x : Extra R)

/-- `fuse_loops` builds its section without annotations: `licm` never runs on a fused section -/
theorem fuseLoops_ann {s s1 : Stmt} (h : fuseLoops s = .ok s1) : sAnn s1 = [] := by
  obtain ⟨_, _, _, _, _, _, _, _, _, _, _, _, _, _, _, rfl⟩ := fuseLoops_ok h
  rfl

theorem tempNames_mono {k k' : Nat} (h : k ≤ k') : ∀ n, n ∈ tempNames k → n ∈ tempNames k' := by
  intro n hn
  simp only [tempNames, List.mem_map, List.mem_range] at hn ⊢
  obtain ⟨a, ha, rfl⟩ := hn
  exact ⟨a, by omega, rfl⟩

theorem licmTemps_le_max {s : Stmt} : ∀ {c : List Stmt}, s ∈ c → licmTemps s ≤ maxTemps c
  | [], h => by cases h
  | t :: r, h => by
    simp only [maxTemps]
    rcases List.mem_cons.mp h with rfl | h'
    · exact Nat.le_max_left _ _
    · exact Nat.le_trans (licmTemps_le_max h') (Nat.le_max_right _ _)

theorem optimizeSection_sound (D T : List String) (s s' : Stmt) (h : optimizeSection s = .ok s')
    (hc : sectionCert D s = true) (hT : ∀ n, n ∈ tempNames (licmTemps s) → n ∈ T) (σ : St R) :
    ObsRes2 D T (exec x s σ) (exec x s' σ) := by
  cases s with
  | sect name decls stmts inp out ann =>
    simp only [optimizeSection, bind, Except.bind] at h
    simp only [sectionCert] at hc
    by_cases hf : ann.contains "fuse" = true
    · simp only [hf, if_true] at h hc
      cases h1 : fuseLoops (.sect name decls stmts inp out ann) with
      | error e => simp [h1] at h
      | ok s1 =>
        simp only [h1, fuseLoops_ann h1] at h
        simp [pure, Except.pure] at h; subst h
        exact (fuse_loops_model_sound x D _ _ h1 hc σ).toObsRes2 T
    · have hf' : ann.contains "fuse" = false := by simpa using hf
      simp only [hf', Bool.false_eq_true, if_false, pure, Except.pure, sAnn] at h hc
      by_cases hl : ann.contains "licm" = true
      · simp only [hl, if_true, Bool.and_eq_true] at h hc
        have := (licm_model_sound x _ _ h hc.1.1).of_trip hc.1.2 σ
        refine this.mono ?_ hT
        intro n hn
        have := List.all_eq_true.mp hc.2 n hn
        simpa using this
      · have hl' : ann.contains "licm" = false := by simpa using hl
        simp only [hl', Bool.false_eq_true, if_false] at h
        simp at h; subst h; exact ObsRes2.refl _
  | _ => cases h; exact ObsRes2.refl _

theorem optimizeSections_sound (D T : List String) : ∀ (c c' : List Stmt),
    optimizeSections c = .ok c' → c.all (sectionCert D) = true →
    (∀ s, s ∈ c → ∀ n, n ∈ tempNames (licmTemps s) → n ∈ T) →
    DeadFree D c → (∀ t, t ∈ T → mentionsSL t c = false) → ∀ σ : St R,
    ObsRes2 D T (execL x c σ) (execL x c' σ)
  | [], c', h, _, _, _, _, σ => by
    simp [optimizeSections] at h; subst h; exact ObsRes2.refl _
  | s :: r, c', h, hc, hT, hd, hm, σ => by
    rw [optimizeSections] at h
    obtain ⟨s', h1, h⟩ := bind_eq_ok.mp h
    obtain ⟨r', h2, h⟩ := bind_eq_ok.mp h
    cases h
    simp only [List.all_cons, Bool.and_eq_true] at hc
    have hdr : DeadFree D r := (deadFree_append (a := [s]).mp hd).2
    have hmr : ∀ t, t ∈ T → mentionsSL t r = false := by
      intro t ht
      have := hm t ht
      simp only [mentionsSL, Bool.or_eq_false_iff] at this
      exact this.2
    have st := optimizeSection_sound x D T s s' h1 hc.1 (hT s (by simp)) σ
    have s1 := ObsRes2.bind_execL x st r hdr
      (fun n hn hnT => by rw [hmr n hnT] at hn; cases hn)
    have ih := fun τ => optimizeSections_sound D T r r' h2 hc.2
      (fun s0 hs0 => hT s0 (by simp [hs0])) hdr hmr τ
    have s2 : ObsRes2 D T ((exec x s' σ).bind (execL x r)) ((exec x s' σ).bind (execL x r')) :=
      ObsRes2.bind_left _ ih
    rw [execL_cons_bind, execL_cons_bind]
    exact s1.trans s2

end Ffcx.LNodes
