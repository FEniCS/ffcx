/-
The theorems about argument factorisation (C01) that the documents and checks cite, as corollaries of
the chain `Lemmas/Factorize*.lean` (model `FfcxModel/IR/{Graph,Factorize}.lean`): the identity for every
ACCEPTED graph that satisfies the three residual conditions of `wfCheck` (`factorize_sound`), the errors
(`factorize_rejects*`), what acceptance alone implies, and a counterexample showing that the residual
product condition CAN fail on accepted input.

The module also imports `Lemmas/Tables.lean` (element tables, nothing of it is used here): it is the one
module from which the IR checks audit both groups of theorems.
-/
import FfcxProofs.Lemmas.Tables
import FfcxProofs.Lemmas.FactorizeNodes

namespace Ffcx.IR
open Lean.Grind

theorem WF.ok {S : Graph} {rank : Nat} (h : WF S rank) :
    ∃ res, factorize S rank = .ok res ∧ wfCheck S rank res = true := by
  unfold WF at h
  split at h
  · exact ⟨_, ‹_›, h⟩
  · exact h.elim

theorem WF.check {S : Graph} {rank : Nat} {res : FResult} (h : WF S rank) (hres : factorize S rank = .ok res) :
    wfCheck S rank res = true := by
  unfold WF at h; rw [hres] at h; exact h

section
variable {R : Type} [Field R] (ρ : Env R)

/-- For every graph `S` that the algorithm ACCEPTS and that satisfies the residual decidable conditions
`wfCheck` (`WF S rank`, `FfcxModel/IR/Factorize.lean`, is the conjunction: product argkeys do not collide;
the re-keyed argkeys of a target are distinct; the `pos` of the argument nodes are their positions
`0 … n-1` in the ordering) and every field `R` with a lawful interpretation of literals and conjugation
(`LawfulEnv`, `Lemmas/FactorizeCtor.lean`) and real-valued argument tables (`RealArgs`: `conj a = a`,
`Lemmas/FactorizeInv.lean`):

* the result lists the targets of `S` in order;
* `eval S target = Σ_{(k,f) ∈ factors(target)} eval F f · Π_{a ∈ k} eval F a`;
* the same for every argument-dependent node `j` of `S` with the intermediate
  `S.nodes[j]["factors"]` (argkeys are node indices of `S` there). -/
theorem factorize_sound (hρ : LawfulEnv ρ) (hreal : RealArgs ρ) (S : Graph) (rank : Nat)
    (hwf : WF S rank) :
    ∃ res, factorize S rank = .ok res ∧
      res.targetDicts.map (fun e => (e.1, e.2.1)) = S.targets ∧
      (∀ e ∈ res.targetDicts,
        val ρ S.nodes e.1 =
          lsum (fun kf => val ρ res.F kf.2 * keyProd (val ρ res.F) kf.1) e.2.2) ∧
      (∀ j, j < S.nodes.size → res.nodeFacs[j]?.getD [] ≠ [] →
        val ρ S.nodes j =
          lsum (fun kf => val ρ res.F kf.2 * keyProd (val ρ S.nodes) kf.1) (res.nodeFacs[j]?.getD [])) := by
  obtain ⟨res, h, hwf⟩ := hwf.ok
  refine ⟨res, h, ?_, ?_, ?_⟩
  · obtain ⟨st, _, _, _, _, htd, _, _⟩ := factorize_ok S rank res h
    rw [htd]
    exact (List.map_map ..).trans (List.map_id _)
  · exact factorize_targets_sound ρ hρ hreal S rank res h hwf
  · exact factorize_nodes_sound ρ hρ hreal S rank res h hwf

end

/-- the rational interpretation used by the driver meets the hypotheses of `factorize_sound` -/
theorem ratEnv_lawful (a t : Nat → Rat) : LawfulEnv (ratEnv a t) where
  ofRat_zero := rfl
  ofRat_one := rfl
  ofRat_add := fun _ _ => rfl
  ofRat_mul := fun _ _ => rfl
  ofRat_div := fun _ _ => rfl
  conj_zero := rfl
  conj_one := rfl
  conj_add := fun _ _ => rfl
  conj_mul := fun _ _ => rfl
  conj_conj := fun _ => rfl
  conj_ofRat := fun _ => rfl
  conj_abs := fun _ => rfl
  conj_re := fun _ => rfl
  conj_im := fun _ => rfl

theorem ratEnv_real (a t : Nat → Rat) : RealArgs (ratEnv a t) := fun _ => rfl

/-- `(f·u)·v + u·v`, a bilinear form integrand (`u = arg 1 1`, `v = arg 0 0`) -/
def exBilinear : Graph :=
  { nodes := #[⟨.term 0, []⟩, ⟨.arg 1 1, []⟩, ⟨.prod, [0, 1]⟩, ⟨.arg 0 0, []⟩, ⟨.prod, [2, 3]⟩,
               ⟨.prod, [1, 3]⟩, ⟨.sum, [4, 5]⟩],
    targets := [(6, [0])] }

example : WF exBilinear 2 := by decide +kernel

/-- `conditional(f < g, 2·u, u/f)·conj(v)` -/
def exCond : Graph :=
  { nodes := #[⟨.term 0, []⟩, ⟨.term 1, []⟩, ⟨.condition "LT", [0, 1]⟩, ⟨.arg 1 1, []⟩,
               ⟨.lit true 2, []⟩, ⟨.prod, [4, 3]⟩, ⟨.div, [3, 0]⟩, ⟨.cond, [2, 5, 6]⟩,
               ⟨.arg 0 0, []⟩, ⟨.conj, [8]⟩, ⟨.prod, [7, 9]⟩],
    targets := [(10, [0])] }

example : WF exCond 2 := by decide +kernel

/-- If the nodes before node `i` are processed and the handler of node `i` raises `e`, then
`compute_argument_factorization` raises `e`. -/
theorem factorize_rejects (S : Graph) (rank : Nat) (i : Nat) (hi : i < S.nodes.size) (st1 : FState)
    (e : FErr)
    (hpre : runNodes (fun si => (argIndices S.nodes).idxOf si) (initState S.nodes) 0
      (S.nodes.toList.take i) = .ok st1)
    (hstep : stepNode (fun si => (argIndices S.nodes).idxOf si) st1 i S.nodes[i] = .error e) :
    factorize S rank = .error e := by
  unfold factorize
  dsimp only
  rw [runNodes_at _ S.nodes i hi, hpre]
  simp only [runNodes, hstep]

theorem factorize_rejects_nonlinear (S : Graph) (rank : Nat) (i : Nat) (hi : i < S.nodes.size)
    (st1 : FState)
    (hpre : runNodes (fun si => (argIndices S.nodes).idxOf si) (initState S.nodes) 0
      (S.nodes.toList.take i) = .ok st1)
    (hord : S.nodes[i].deps.all (fun d => d < i) = true)
    (har : S.nodes[i].kind.arityOk S.nodes[i].deps.length = true)
    (hk : isNonlinear S.nodes[i].kind = true)
    (hdep : ∃ d ∈ S.nodes[i].deps, st1.facs[d]?.getD [] ≠ []) :
    factorize S rank = .error (.nonlinear S.nodes[i].kind.clsName) :=
  factorize_rejects S rank i hi st1 _ hpre (stepNode_rejects_nonlinear _ st1 i _ hord har hk hdep)

theorem factorize_rejects_divisor (S : Graph) (rank : Nat) (i : Nat) (hi : i < S.nodes.size)
    (st1 : FState) (a b : Nat)
    (hpre : runNodes (fun si => (argIndices S.nodes).idxOf si) (initState S.nodes) 0
      (S.nodes.toList.take i) = .ok st1)
    (hn : S.nodes[i] = ⟨.div, [a, b]⟩) (ha : a < i) (hb : b < i)
    (hdep : st1.facs[b]?.getD [] ≠ []) :
    factorize S rank = .error .divByArg :=
  factorize_rejects S rank i hi st1 _ hpre (hn ▸ stepNode_rejects_divisor _ st1 i a b ha hb hdep)

/-- the error of a run, for `decide` -/
def factorizeError (S : Graph) (rank : Nat) : Option FErr :=
  match factorize S rank with
  | .ok _ => none
  | .error e => some e

/-- concrete rejected inputs (all confirmed on the real code through `compile_ufl_objects` on
expressions, which by-pass UFL's arity checker): `sqrt(u)`, `f/u`, `conditional(u < f, f, g)`,
`conditional(f < g, u, f)`, `u + f`. -/
example : factorizeError ⟨#[⟨.arg 0 0, []⟩, ⟨.op "Sqrt", [0]⟩], [(1, [0])]⟩ 1 =
    some (.nonlinear "Sqrt") := by decide +kernel
example : factorizeError ⟨#[⟨.term 0, []⟩, ⟨.arg 0 0, []⟩, ⟨.div, [0, 1]⟩], [(2, [0])]⟩ 1 =
    some .divByArg := by decide +kernel
example : factorizeError ⟨#[⟨.arg 0 0, []⟩, ⟨.term 0, []⟩, ⟨.condition "LT", [0, 1]⟩, ⟨.term 1, []⟩,
    ⟨.cond, [2, 1, 3]⟩], [(4, [0])]⟩ 1 = some (.nonlinear "LT") := by decide +kernel
example : factorizeError ⟨#[⟨.term 0, []⟩, ⟨.term 1, []⟩, ⟨.condition "LT", [0, 1]⟩, ⟨.arg 0 0, []⟩,
    ⟨.cond, [2, 3, 0]⟩], [(4, [0])]⟩ 1 = some .condNonzeroBranch := by decide +kernel
example : factorizeError ⟨#[⟨.arg 0 0, []⟩, ⟨.term 0, []⟩, ⟨.sum, [0, 1]⟩], [(2, [0])]⟩ 1 =
    some .sumArgFree := by decide +kernel

/-- `conditional(f < g, u₀, u₁)·v`: a valid bilinear form whose branches have different argkeys, so
that `as_ufl(0.0)` is needed and is not a node of `S` (the real code raised `KeyError: Zero` before
commit e5efe38; now the zero is inserted and the graph is accepted and well formed) -/
def exCondZero : Graph :=
  ⟨#[⟨.term 0, []⟩, ⟨.term 1, []⟩, ⟨.condition "LT", [0, 1]⟩, ⟨.arg 1 1, []⟩,
    ⟨.arg 2 1, []⟩, ⟨.cond, [2, 3, 4]⟩, ⟨.arg 0 0, []⟩, ⟨.prod, [5, 6]⟩], [(7, [0])]⟩

example : WF exCondZero 2 := by decide +kernel

theorem factorize_rejects_sum_argfree (S : Graph) (rank : Nat) (i : Nat) (hi : i < S.nodes.size)
    (st1 : FState) (a b : Nat)
    (hpre : runNodes (fun si => (argIndices S.nodes).idxOf si) (initState S.nodes) 0
      (S.nodes.toList.take i) = .ok st1)
    (hn : S.nodes[i] = ⟨.sum, [a, b]⟩) (ha : a < i) (hb : b < i)
    (hdep : (st1.facs[a]?.getD []).isEmpty ≠ (st1.facs[b]?.getD []).isEmpty) :
    factorize S rank = .error .sumArgFree :=
  factorize_rejects S rank i hi st1 _ hpre (hn ▸ stepNode_rejects_sum_argfree _ st1 i a b ha hb hdep)

/-- In an accepted graph the operands of every sum are both argument-dependent or both
argument-free (so this is not a condition of `WF`). -/
theorem accepted_sum_operands (S : Graph) (rank : Nat) (res : FResult)
    (h : factorize S rank = .ok res) (i : Nat) (hi : i < S.nodes.size) (a b : Nat)
    (hn : S.nodes[i] = ⟨.sum, [a, b]⟩) :
    (res.nodeFacs[a]?.getD []).isEmpty = (res.nodeFacs[b]?.getD []).isEmpty := by
  apply Decidable.byContradiction
  intro hne
  obtain ⟨st, hrun, _, hfacs, _, _, _, _⟩ := factorize_ok S rank res h
  obtain ⟨hcS, _⟩ := accepted_closed S.nodes _ _ st hrun
  have hab : a < i ∧ b < i := by
    have := hcS i hi
    rw [hn] at this
    exact ⟨this a (by simp), this b (by simp)⟩
  -- split the run at node `i`: the prefix run succeeds, and `facs` of `a`, `b` are final after it
  rw [runNodes_at _ S.nodes i hi] at hrun
  cases hpre : runNodes (fun si => (argIndices S.nodes).idxOf si) (initState S.nodes) 0
      (S.nodes.toList.take i) with
  | error e => rw [hpre] at hrun; cases hrun
  | ok st1 =>
    rw [hpre] at hrun
    dsimp only at hrun
    have hsize : st1.facs.size = i := by
      rw [(runNodes_steps _ st1 _ _ 0 hpre).1, List.length_take, Array.length_toList,
        Nat.min_eq_left (Nat.le_of_lt hi)]
      exact Nat.zero_add i
    have hst := (runNodes_steps _ st _ st1 i hrun).2.1
    cases h.symm.trans (factorize_rejects_sum_argfree S rank i hi st1 a b hpre hn hab.1 hab.2 (by
      rw [← hst a (by omega), ← hst b (by omega), ← hfacs]; exact hne))

/-- A target without factors in a form of rank ≥ 1 that is not the literal `Zero` is rejected with
`RuntimeError("Expecting all non-zero components to depend on the arguments.")`. -/
theorem factorize_rejects_target_argfree (S : Graph) (rank : Nat) (st : FState)
    (hrun : runNodes (fun si => (argIndices S.nodes).idxOf si) (initState S.nodes) 0 S.nodes.toList = .ok st)
    (hrange : ∀ t ∈ S.targets, t.1 < S.nodes.size)
    (t : Nat × List Nat) (ht : t ∈ S.targets) (hrank : rank ≠ 0)
    (hfree : st.facs[t.1]?.getD [] = []) (hk : kindAt S.nodes t.1 ≠ .zero) :
    factorize S rank = .error .targetArgFree := by
  unfold factorize
  simp only [hrun]
  rw [if_neg, if_pos]
  · exact List.any_eq_true.2 ⟨t, ht, by simp [targetRejected, hfree, hrank, hk]⟩
  · intro h
    obtain ⟨x, hx, hle⟩ := List.any_eq_true.1 h
    exact Nat.not_le_of_lt (hrange x hx) (of_decide_eq_true hle)

/-- In an accepted graph every target is a node of `S`, and a target of a form of rank ≥ 1 depends
on arguments or is the literal `Zero` (so this is not a condition of `WF`). -/
theorem accepted_targets (S : Graph) (rank : Nat) (res : FResult) (h : factorize S rank = .ok res)
    (t : Nat × List Nat) (ht : t ∈ S.targets) :
    t.1 < S.nodes.size ∧
    (res.nodeFacs[t.1]?.getD [] = [] → rank = 0 ∨ kindAt S.nodes t.1 = .zero) := by
  obtain ⟨st, hrun, _, hfacs, _, _, hrange, _⟩ := factorize_ok S rank res h
  refine ⟨hrange t ht, fun hemp => Decidable.byContradiction fun hno => ?_⟩
  cases h.symm.trans (factorize_rejects_target_argfree S rank st hrun hrange t ht
    (fun hr => hno (.inl hr)) (hfacs ▸ hemp) fun hk => hno (.inr hk))

/-- does `Σ F_k Π args = S` hold for every target, in the rational interpretation? -/
def identityHolds (ρ : Env Rat) (S : Graph) (rank : Nat) : Bool :=
  match factorize S rank with
  | .ok res => res.targetDicts.all fun e =>
      decide (val ρ S.nodes e.1 = lsum (fun kf => val ρ res.F kf.2 * keyProd (val ρ res.F) kf.1) e.2.2)
  | .error _ => false

/-- `as_vector((u, f))` as an Expression of rank 1: the component `f` does not depend on the
argument -/
def exTargetDrop : Graph :=
  { nodes := #[⟨.arg 0 0, []⟩, ⟨.term 0, []⟩], targets := [(0, [0]), (1, [1])] }

/-- rejected since commit 3991a34 (before: accepted, component `f` silently dropped) -/
example : factorizeError exTargetDrop 1 = some .targetArgFree := by decide +kernel

/-- `(u₀ + u₁)·(u₀ + u₁)` -/
def exCollision : Graph :=
  { nodes := #[⟨.arg 0 0, []⟩, ⟨.arg 1 0, []⟩, ⟨.sum, [0, 1]⟩, ⟨.prod, [2, 2]⟩], targets := [(3, [0])] }

/-- Counterexample to the product condition: `factors[argkey] = …` overwrites the term of the
argkey `(u₀, u₁)` that occurs twice: with `u₀ = 2`, `u₁ = 3` the target is `25`, the factorised
value `4 + 6 + 9 = 19`.  (The real pipeline stops such input later: `assert rank == len(ma_indices)`
in `integral.py`; forms are rejected by UFL's arity check.) -/
theorem factorize_product_collision_counterexample :
    factorizeError exCollision 1 = none ∧ ¬ WF exCollision 1 ∧
    identityHolds (ratEnv (fun p => if p = 0 then 2 else 3) (fun _ => 0)) exCollision 1 = false ∧
    identityHolds (ratEnv (fun _ => 2) (fun _ => 3)) exBilinear 2 = true := by decide +kernel

end Ffcx.IR
