/-
Outcomes (`Except ε α`) by themselves: the inversion of a successful `bind` or `map`, and `OutRel`, the lifting
of a relation on values (and one on errors) to outcomes, with its rules for sequencing.  The named
relations between the outcomes of two runs in the development are `OutRel`s.
-/
namespace Ffcx

/-- equality of outcomes is decidable: closed examples and finite checks compare the result of a generator with the
    expected `.ok` / `.error` value by `decide` -/
instance {ε α : Type} [DecidableEq ε] [DecidableEq α] : DecidableEq (Except ε α)
  | .ok a, .ok b => decidable_of_iff (a = b) ⟨congrArg _, Except.ok.inj⟩
  | .error a, .error b => decidable_of_iff (a = b) ⟨congrArg _, Except.error.inj⟩
  | .ok _, .error _ | .error _, .ok _ => isFalse nofun

theorem bind_eq_ok {ε α β : Type} {a : Except ε α} {f : α → Except ε β} {b : β} :
    a.bind f = .ok b ↔ ∃ s, a = .ok s ∧ f s = .ok b := by
  cases a <;> simp [Except.bind]

theorem except_map_ok {ε α β : Type} (f : α → β) (x : Except ε α) (y : β)
    (h : Except.map f x = .ok y) : ∃ r, x = .ok r ∧ y = f r := by
  cases x with
  | error e => cases h
  | ok r => cases h; exact ⟨r, rfl, rfl⟩

theorem except_bind_assoc {ε α β γ : Type} (a : Except ε α) (f : α → Except ε β) (g : β → Except ε γ) :
    (a.bind f).bind g = a.bind fun s => (f s).bind g := by
  cases a <;> rfl

section OutRel
variable {ε ε' α α' β β' : Type}

/-- Two outcomes fail with `E`-related errors or succeed with `V`-related values.  Each named relation
    between the outcomes of two runs in this development is this at some `E` (`Eq`: the same error;
    `fun _ _ => True`: both fail; `(· = .run ·)`: the same run-time error) by an `Iff` (`relRes2_iff`,
    `resEq_iff`, … next to the definition; `obsRes_iff` in Lemmas/OptObs), so the lemmas about sequencing
    are proved here, once.
    The diagonal cases unfold: `OutRel E V (.error e) (.error e')` is closed by a proof of `E e e'` (`rfl`
    at `Eq`), `OutRel E V (.ok s) (.ok t)` by a proof of `V s t`. -/
def OutRel (E : ε → ε' → Prop) (V : α → β → Prop) : Except ε α → Except ε' β → Prop
  | .ok a, .ok b => V a b
  | .error e, .error e' => E e e'
  | _, _ => False

namespace OutRel
variable {E : ε → ε' → Prop} {V : α → β → Prop} {a : Except ε α} {b : Except ε' β}

theorem bind {V' : α' → β' → Prop} {f : α → Except ε α'} {g : β → Except ε' β'} (h : OutRel E V a b)
    (hfg : ∀ s t, V s t → OutRel E V' (f s) (g t)) : OutRel E V' (a.bind f) (b.bind g) := by
  cases a <;> cases b
  · exact h
  · exact h.elim
  · exact h.elim
  · exact hfg _ _ h

theorem bind_left {E : ε → ε → Prop} {V' : α' → β' → Prop} (hE : ∀ e, E e e) (a : Except ε α)
    {f : α → Except ε α'} {g : α → Except ε β'} (h : ∀ s, OutRel E V' (f s) (g s)) :
    OutRel E V' (a.bind f) (a.bind g) := by
  cases a
  · exact hE _
  · exact h _

theorem ite (c : Bool) {a' : Except ε α} {b' : Except ε' β} (ht : OutRel E V a b) (hf : OutRel E V a' b') :
    OutRel E V (if c = true then a else a') (if c = true then b else b') := by
  cases c
  · exact hf
  · exact ht

/-- a step that only one side has -/
theorem map_left {V' : α' → β → Prop} {f : α → α'} (h : OutRel E V a b) (hf : ∀ s t, V s t → V' (f s) t) :
    OutRel E V' (a.bind fun s => .ok (f s)) b := by
  cases a <;> cases b
  · exact h
  · exact h
  · exact h
  · exact hf _ _ h

theorem ok_left {s : α} (h : OutRel E V (.ok s) b) : ∃ t, b = .ok t ∧ V s t := by
  cases b
  · exact h.elim
  · exact ⟨_, rfl, h⟩

theorem error_left {e : ε} (h : OutRel E V (.error e) b) : ∃ e', b = .error e' ∧ E e e' := by
  cases b
  · exact ⟨_, rfl, h⟩
  · exact h.elim

/-- weaker relations suffice; the values may be used as the results of the two runs -/
theorem imp {E' : ε → ε' → Prop} {V' : α → β → Prop} (h : OutRel E V a b) (hE : ∀ e e', E e e' → E' e e')
    (hV : ∀ s t, a = .ok s → b = .ok t → V s t → V' s t) : OutRel E' V' a b := by
  cases a <;> cases b
  · exact hE _ _ h
  · exact h
  · exact h
  · exact hV _ _ rfl rfl h

theorem mono {V' : α → β → Prop} (h : OutRel E V a b) (hV : ∀ s t, V s t → V' s t) : OutRel E V' a b :=
  h.imp (fun _ _ h => h) fun s t _ _ => hV s t

/-- forget which errors -/
theorem anyErr (h : OutRel E V a b) : OutRel (fun _ _ => True) V a b :=
  h.imp (fun _ _ _ => trivial) fun _ _ _ _ h => h

theorem refl {E : ε → ε → Prop} {V : α → α → Prop} (hE : ∀ e, E e e) (hV : ∀ s, V s s) (r : Except ε α) :
    OutRel E V r r := by
  cases r
  · exact hE _
  · exact hV _

theorem symm {E : ε → ε → Prop} {V : α → α → Prop} {a b : Except ε α} (h : OutRel E V a b)
    (hE : ∀ e e', E e e' → E e' e) (hV : ∀ s t, V s t → V t s) : OutRel E V b a := by
  cases a <;> cases b
  · exact hE _ _ h
  · exact h
  · exact h
  · exact hV _ _ h

theorem trans {E : ε → ε → Prop} {V : α → α → Prop} {a b c : Except ε α} (h1 : OutRel E V a b)
    (h2 : OutRel E V b c) (hE : ∀ e e' e'', E e e' → E e' e'' → E e e'')
    (hV : ∀ s t u, V s t → V t u → V s u) : OutRel E V a c := by
  cases b with
  | error _ =>
    cases a with
    | error _ => cases c with | error _ => exact hE _ _ _ h1 h2 | ok _ => exact h2.elim
    | ok _ => exact h1.elim
  | ok _ =>
    cases a with
    | error _ => exact h1.elim
    | ok _ => cases c with | error _ => exact h2.elim | ok _ => exact hV _ _ _ h1 h2

end OutRel
end OutRel

end Ffcx
