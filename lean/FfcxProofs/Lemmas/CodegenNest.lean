/-
The loop nest `for … for … { A[idx₁] += rhs₁; …; A[idxₘ] += rhsₘ }` built by
`create_nested_for_loops` (`nestStmt`): for ANY list of loops, trip counts and terms it adds
`Σ_{index tuples} Σ_t [idx_t = k] · rhs_t` to `A[k]` (`nest_accumulate`), provided no term mentions `A` and
every subscript and right-hand side is well defined at every index tuple (`nestPre`); only the loop indices
(`loopNames`) are overwritten besides.
-/
import FfcxModel.Codegen.Block
import FfcxProofs.Lemmas.CodegenAcc

namespace Ffcx.Codegen
open Ffcx.LNodes Lean.Grind
attribute [local instance] Lean.Grind.Ring.intCast
variable {R : Type}

/-- one accumulation statement: subscript of `A`, right-hand side -/
abbrev ATerm := Expr × Expr

def ATerm.stmt (A : String) (t : ATerm) : Stmt := .addAssign (.idx A .scalar [t.1]) t.2

def ATerm.noA (A : String) (t : ATerm) : Bool := !mentionsE A t.1 && !mentionsE A t.2

def leafPre (N : Nat) : List ATerm → St R → Prop
  | [], _ => True
  | t :: ts, τ => (safeE τ t.2 = true ∧ ∃ k : Nat, evalI τ.iv τ.ia t.1 = some (k : Int) ∧ k < N) ∧
      leafPre N ts τ

theorem leafPre_iff (N : Nat) (τ : St R) (terms : List ATerm) :
    leafPre N terms τ ↔ ∀ t ∈ terms, safeE τ t.2 = true ∧
      ∃ k : Nat, evalI τ.iv τ.ia t.1 = some (k : Int) ∧ k < N := by
  induction terms with
  | nil => exact ⟨fun _ _ h => (List.not_mem_nil h).elim, fun _ => trivial⟩
  | cons t ts ih => rw [leafPre, ih, List.forall_mem_cons]

variable [Field R] (x : Extra R)

/-- what the innermost statement list adds to `A[k]` -/
def leafSum : List ATerm → St R → Nat → R
  | [], _, _ => 0
  | t :: ts, τ, k =>
    (if evalI τ.iv τ.ia t.1 = some (k : Int) then eval x τ t.2 else 0) + leafSum ts τ k

def loopNames (ls : List (String × Nat)) : List String := ls.map (·.1)

/-- `leafPre` at every index tuple -/
def nestPre (N : Nat) (terms : List ATerm) : List (String × Nat) → St R → Prop
  | [], τ => leafPre N terms τ
  | (i, n) :: ls, τ => ∀ t : Nat, t < n → nestPre N terms ls (τ.setIV i t)

/-- Σ over all index tuples (outermost loop first) of `leafSum` -/
def nestSum (terms : List ATerm) : List (String × Nat) → St R → Nat → R
  | [], τ, k => leafSum x terms τ k
  | (i, n) :: ls, τ, k => isum 0 n (fun v => nestSum terms ls (τ.setIV i v) k)

variable {A : String}

/-- what the terms need and add does not depend on the contents of `A` -/
theorem leaf_stable (terms : List ATerm) (hA : ∀ t ∈ terms, t.noA A = true) (N : Nat) {σ τ : St R}
    (h : Agree A (fun _ => True) (fun _ => True) σ τ) :
    (leafPre N terms σ → leafPre N terms τ) ∧ ∀ k, leafSum x terms τ k = leafSum x terms σ k := by
  have hag := h.agreeOn
  have hp : ∀ e, mentionsE A e = false → ∀ n, mentionsE n e = true → n ≠ A ∧ True ∧ True :=
    fun e he n hn => ⟨ne_of_mentions he hn, trivial, trivial⟩
  induction terms with
  | nil => exact ⟨fun _ => trivial, fun _ => rfl⟩
  | cons t ts ih =>
    have ht := hA t List.mem_cons_self
    simp only [ATerm.noA, Bool.and_eq_true, Bool.not_eq_true'] at ht
    have e1 := evalI_agreeOn hag t.1 (hp _ ht.1)
    have e2 := eval_agreeOn x hag t.2 (hp _ ht.2)
    have e3 := safeE_agreeOn hag t.2 (hp _ ht.2)
    obtain ⟨ih1, ih2⟩ := ih fun u hu => hA u (List.mem_cons_of_mem _ hu)
    refine ⟨fun hpre => ⟨?_, ih1 hpre.2⟩, fun k => ?_⟩
    · rw [← e3, ← e1]; exact hpre.1
    · simp only [leafSum, ih2 k, e1, e2]

omit [Field R] in
theorem Agree.setIV_loop {Ps : String → Prop} {i : String} {n : Nat} {ls : List (String × Nat)}
    {σ τ : St R} (h : Agree A (fun m => m ∉ loopNames ((i, n) :: ls)) Ps σ τ) (v : Int) :
    Agree A (fun m => m ∉ loopNames ls) Ps (σ.setIV i v) (τ.setIV i v) := by
  refine (h.setIV i v).mono (fun m hm => ?_) (fun _ h => h)
  by_cases e : m = i
  · exact Or.inr e
  · exact Or.inl fun h => (List.mem_cons.mp h).elim e hm

/-- what the terms need and add under the loops `ls` depends neither on the contents of `A` nor on the incoming
    values of the loop indices -/
theorem nest_stable (terms : List ATerm) (hA : ∀ t ∈ terms, t.noA A = true) (N : Nat)
    (ls : List (String × Nat)) {σ τ : St R}
    (h : Agree A (fun n => n ∉ loopNames ls) (fun _ => True) σ τ) :
    (nestPre N terms ls σ → nestPre N terms ls τ) ∧
      ∀ k, nestSum x terms ls τ k = nestSum x terms ls σ k := by
  induction ls generalizing σ τ with
  | nil => exact leaf_stable x terms hA N (h.mono (fun _ _ => List.not_mem_nil) (fun _ h => h))
  | cons p ls ih =>
    obtain ⟨i, n⟩ := p
    exact ⟨fun hpre t ht => (ih (h.setIV_loop t)).1 (hpre t ht),
      fun k => isum_congr n 0 fun v _ _ => (ih (h.setIV_loop v)).2 k⟩

theorem addAssign_acc (t : ATerm) (N : Nat) (τ : St R) (hA : AOk A N τ)
    (hs : safeE τ t.2 = true) (k : Nat) (hk : evalI τ.iv τ.ia t.1 = some (k : Int)) (hkN : k < N) :
    ∃ τ', exec x (t.stmt A) τ = .ok τ' ∧
      Acc A (fun _ => False) (fun _ => False)
        (fun k' => if evalI τ.iv τ.ia t.1 = some (k' : Int) then eval x τ t.2 else 0) τ τ' := by
  obtain ⟨a, ha, hd, hc, hsz⟩ := hA
  have hflat : flatIdx a.dims [(k : Int)] = some k := by
    rw [hd]
    have : (0 : Int) ≤ k ∧ (k : Int) < N := by omega
    simp [flatIdx, this]
  have hres : resolve τ A [t.1] = .ok (a, k) := by
    simp [resolve, ha, evalIs, hk, hflat, hsz, hkN]
  let a' : Arr R := { a with data := a.data.setIfInBounds k (a.data.getD k 0 + eval x τ t.2) }
  refine ⟨τ.setSA A a', ?_, ?_⟩
  · simp only [ATerm.stmt, exec, hs, if_true, store, hres, hc]
    simp [a', Ring.intCast_zero, hc]
  · refine ⟨rfl, fun _ _ => rfl, fun _ _ => rfl, fun n hn => AList.get_set_ne _ _ _ _ fun e => hn e.symm,
      ⟨a, a', ha, AList.get_set_self .., rfl, rfl, Array.size_setIfInBounds, ?_⟩⟩
    intro k' hk'
    rw [hk, Array.getD_eq_getD_getElem?, Array.getElem?_setIfInBounds]
    by_cases e : k = k'
    · subst e
      rw [if_pos rfl, if_pos rfl, if_pos hk']
      rfl
    · rw [if_neg e, if_neg fun h => e (Int.natCast_inj.mp (Option.some.inj h)), Semiring.add_zero,
        Array.getD_eq_getD_getElem?]

theorem leaf_acc (N : Nat) (terms : List ATerm) (hnoA : ∀ t ∈ terms, t.noA A = true) (τ : St R)
    (hA : AOk A N τ) (hpre : leafPre N terms τ) :
    ∃ τ', execL x (terms.map (ATerm.stmt A)) τ = .ok τ' ∧
      Acc A (fun _ => False) (fun _ => False) (leafSum x terms τ) τ τ' := by
  induction terms generalizing τ with
  | nil =>
    obtain ⟨a, ha, _⟩ := hA
    exact ⟨τ, rfl, Acc.refl ha⟩
  | cons t ts ih =>
    obtain ⟨⟨hs, k, hk, hkN⟩, hrest⟩ := hpre
    obtain ⟨τ₁, he, hacc⟩ := addAssign_acc x t N τ hA hs k hk hkN
    have hnoA' : ∀ u ∈ ts, u.noA A = true := fun u hu => hnoA u (List.mem_cons_of_mem _ hu)
    have hst := leaf_stable x ts hnoA' N (hacc.agree.mono (fun _ _ => not_false) (fun _ _ => not_false))
    obtain ⟨τ', he', hacc'⟩ := ih hnoA' τ₁ (AOk.of_acc hacc hA) (hst.1 hrest)
    refine ⟨τ', by rw [List.map_cons, execL, he]; exact he', (hacc.trans hacc').congr fun k' => ?_⟩
    rw [leafSum, hst.2 k']

theorem exec_asStmt (ss : List Stmt) (σ : St R) : exec x (asStmt ss) σ = execL x ss σ := by
  unfold asStmt
  split
  · rw [execL_singleton]
  · simp only [exec]

theorem nest_accumulate (terms : List ATerm) (hnoA : ∀ t ∈ terms, t.noA A = true) (N : Nat) :
    ∀ (ls : List (String × Nat)) (τ : St R), AOk A N τ → nestPre N terms ls τ →
    ∃ τ', exec x (nestStmt ls (asStmt (terms.map (ATerm.stmt A)))) τ = .ok τ' ∧
      Acc A (fun n => n ∈ loopNames ls) (fun _ => False) (nestSum x terms ls τ) τ τ' := by
  intro ls
  induction ls with
  | nil =>
    intro τ hA hpre
    obtain ⟨τ', he, hacc⟩ := leaf_acc x N terms hnoA τ hA hpre
    exact ⟨τ', by rw [nestStmt, exec_asStmt, he], hacc.mono (fun _ h => h.elim) (fun _ h => h)⟩
  | cons p ls ih =>
    obtain ⟨i, n⟩ := p
    intro τ hA hpre
    obtain ⟨a, ha, _⟩ := id hA
    refine forRange_accumulate x [nestStmt ls (asStmt (terms.map (ATerm.stmt A)))] i n List.mem_cons_self
      (fun υ => AOk A N υ ∧ nestPre N terms ls υ) (nestSum x terms ls) ?_ ?_ τ ⟨a, ha⟩
      (fun t ht => ⟨hA.setIV i t, hpre t ht⟩)
    · intro υ ⟨hAυ, hpυ⟩
      obtain ⟨υ', he, hacc⟩ := ih υ hAυ hpυ
      exact ⟨υ', by rw [execL_singleton]; exact he,
        hacc.mono (fun m hm => List.mem_cons_of_mem _ hm) (fun _ h => h)⟩
    · intro v υ υ' d hacc
      have hst := nest_stable x terms hnoA N ls
        ((hacc.agree.mono (fun _ h => h) (fun _ _ => not_false)).setIV_loop (n := n) v)
      exact ⟨fun ⟨h1, h2⟩ => ⟨(AOk.of_acc hacc (h1 : AOk A N υ)).setIV i v, hst.1 h2⟩, hst.2⟩

end Ffcx.Codegen
