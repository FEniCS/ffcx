/-
C16 — numba token-level round trip, part 1: the token stream of each constructor, the Python
levels, what may follow an operand, and the invariant `ReadsPy l ts x` (the parser reads the token
list `ts` as the tree `x`, at level `l`) with the grammar as its introduction rules, item lists
(`ItemPy`, `readsPy_items`; tuples, list displays, `np.f(…)` calls) included. The rules are about the
parser alone (any token list, nothing of the formatter); no fuel appears in them (`Ev`).
Levels: 0 test (`x if c else y`), 1 or, 2 and, 3 not, 4 comparison, 5 additive, 6 multiplicative,
7 factor / primary / atom.
-/
import FfcxProofs.Lemmas.FormatPyParse
import FfcxProofs.Lemmas.FormatRT
import FfcxProofs.Lemmas.FormatPyShape
namespace Ffcx.LNodes.Fmt

/-- the token stream the numba formatter intends for `e`; what the parser is run on throughout -/
abbrev tkp (e : Expr) : List Tok := tokExprPy e

def tkTailPy (o : P) (p : Nat) : List Expr → List Tok
  | [] => []
  | x :: xs => .p o :: parenT (decide (precF x ≥ p)) (tkp x) ++ tkTailPy o p xs

def tkArgsPy (args : List Expr) : List Tok := joinT [.p .comma] (args.map tkp)

theorem tkp_sym (n dt) : tkp (.sym n dt) = [.id n] := by simp [tkp, tokExprPy, piecesPy]
theorem tkp_mi (s z gi) : tkp (.mi s z gi) = tkp gi := by simp [tkp, tokExprPy, piecesPy]

theorem tkp_neg (a) : tkp (.neg a) = .p .minus :: parenT (decide (precF a ≥ 3)) (tkp a) := by
  simp [tkp, tokExprPy, piecesPy, toks_parenIf]

theorem tkp_not (a) : tkp (.not a) = .p .lpar :: .id "not" :: .p .lpar :: (tkp a ++ [.p .rpar, .p .rpar]) := by
  simp [tkp, tokExprPy, piecesPy, toks_append]

theorem tkp_bin (op a b) : tkp (.bin op a b) =
    parenT (pyParen op a) (tkp a) ++ pyOpTok op :: parenT (pyParen op b) (tkp b) := by
  simp [tkp, tokExprPy, piecesPy, toks_parenIf, toks_append, pyOpPieces_eq, pyParen]

theorem tkp_cond (c t f) : tkp (.cond c t f) =
    .p .lpar :: (parenT (decide (precF t ≥ 13)) (tkp t) ++ .id "if" :: (parenT (decide (precF c ≥ 13)) (tkp c)
      ++ .id "else" :: (parenT (decide (precF f ≥ 13)) (tkp f) ++ [.p .rpar]))) := by
  simp [tkp, tokExprPy, piecesPy, toks_parenIf, toks_append]

theorem toks_joinNaryPy (o : P) (p : Nat) (a : Expr) (as : List Expr) :
    toks (joinP [sp, pp o, sp] (piecesNaryPy p (a :: as)))
      = parenT (decide (precF a ≥ p)) (tkp a) ++ tkTailPy o p as := by
  induction as generalizing a with
  | nil => simp [piecesNaryPy, joinP, tkTailPy, toks_parenIf, tkp, tokExprPy]
  | cons b bs ih =>
    have := ih b
    simp only [piecesNaryPy] at this ⊢
    simp [joinP, toks_append, toks_parenIf, tkTailPy, this, tkp, tokExprPy]

theorem tkp_sum (a as) : tkp (.sum (a :: as)) =
    parenT (decide (precF a ≥ 5)) (tkp a) ++ tkTailPy .plus 5 as := by
  have := toks_joinNaryPy .plus 5 a as
  simpa [tkp, tokExprPy, piecesPy] using this

theorem tkp_prod (a as) : tkp (.prod (a :: as)) =
    parenT (decide (precF a ≥ 4)) (tkp a) ++ tkTailPy .star 4 as := by
  have := toks_joinNaryPy .star 4 a as
  simpa [tkp, tokExprPy, piecesPy] using this

theorem toks_joinArgsPy (as : List Expr) :
    toks (joinP [pp .comma, sp] (piecesListPy as)) = tkArgsPy as := by
  induction as with
  | nil => simp [piecesListPy, joinP, tkArgsPy, joinT]
  | cons a as ih =>
    cases as with
    | nil => simp [piecesListPy, joinP, tkArgsPy, joinT, tkp, tokExprPy]
    | cons b bs =>
      simp only [piecesListPy, tkArgsPy, List.map_cons] at ih ⊢
      simp [joinP, toks_append, joinT_cons_cons, ih, tkp, tokExprPy]

/-- the dotted call head the numba formatter prints for a math function -/
def pyHead (f : String) : List String :=
  let fn := pyMathName f
  if containsL "bessel_y".toList fn.toList then ["scipy", "special", "yn"]
  else if containsL "bessel_j".toList fn.toList then ["scipy", "special", "jn"]
  else if fn = "erf" then ["math", "erf"]
  else ["np", fn]

def dottedToks : List String → List Tok
  | [] => []
  | [a] => [.id a]
  | a :: b :: r => .id a :: .p .dot :: dottedToks (b :: r)

theorem toks_dotted (l : List String) : toks (dotted l) = dottedToks l := by
  unfold dotted
  induction l with
  | nil => simp [joinP, dottedToks]
  | cons a as ih =>
    cases as with
    | nil => simp [joinP, dottedToks]
    | cons b bs =>
      simp only [List.map] at ih ⊢
      simp [joinP, dottedToks, ih]

/-- tokens of a call, for a well-formed call (`erf` has exactly one argument) -/
theorem tkp_call (f dt args) (herf : pyMathName f ≠ "erf" ∨ args.length = 1) :
    tkp (.call f dt args) = dottedToks (pyHead f) ++ .p .lpar :: (tkArgsPy args ++ [.p .rpar]) := by
  simp only [tkp, tokExprPy, piecesPy, pyHead]
  by_cases h1 : containsL "bessel_y".toList (pyMathName f).toList = true
  · rw [if_pos h1, if_pos h1]
    simp only [toks_append, toks_dotted, toks_joinArgsPy, toks_pp, toks_nil, List.append_assoc, List.cons_append, List.nil_append]
  rw [if_neg h1, if_neg h1]
  by_cases h2 : containsL "bessel_j".toList (pyMathName f).toList = true
  · rw [if_pos h2, if_pos h2]
    simp only [toks_append, toks_dotted, toks_joinArgsPy, toks_pp, toks_nil, List.append_assoc, List.cons_append, List.nil_append]
  rw [if_neg h2, if_neg h2]
  by_cases h3 : pyMathName f = "erf"
  · rw [if_pos h3, if_pos h3]
    have hl : args.length = 1 := herf.resolve_left (fun h => h h3)
    match args, hl with
    | [a], _ => simp only [toks_append, toks_dotted, piecesListPy, tkArgsPy, joinT, List.map, tkp, tokExprPy, List.headD_cons, toks_pp, toks_nil, List.append_assoc, List.cons_append, List.nil_append]
  rw [if_neg h3, if_neg h3]
  simp only [toks_append, toks_dotted, toks_joinArgsPy, toks_pp, toks_nil, List.append_assoc, List.cons_append, List.nil_append]

theorem tkp_idx (arr dt ix) : tkp (.idx arr dt ix) =
    .id arr :: .p .lbrack :: (tkArgsPy ix ++ [.p .rbrack]) := by
  simp [tkp, tokExprPy, piecesPy, toks_append, toks_joinArgsPy]

/-- LNodes precedence ↦ Python level guaranteed for the printed text (or 1, and 2, comparison 4,
    additive 5, multiplicative 6, unary minus / atoms 7; `Not` and `Conditional` are printed inside
    their own parentheses: atoms) -/
def lvPy : Nat → Nat
  | 0 | 1 | 2 | 3 => 7
  | 4 => 6 | 5 => 5 | 6 => 5 | 7 => 4 | 8 => 4 | 9 => 3 | 10 => 3 | 11 => 2 | 12 => 1
  | _ => 7

theorem pyBinLevel_opTok (op : BinOp) : pyBinLevel (pyOpTok op) = some (op, lvPy op.prec) := by
  cases op <;> rfl

/-- a precedence `p` below that of a binary operator, `q`, has a strictly tighter level, except that
    the two comparison precedences 7 and 8 share level 4 -/
theorem lvPy_strict {q p : Nat} (hp : p < q) (hc : q = 4 ∨ q = 5 ∨ q = 7 ∨ q = 8 ∨ q = 11 ∨ q = 12)
    (hne : q ≠ 8 ∨ p ≠ 7) : lvPy q + 1 ≤ lvPy p := by
  rcases hc with rfl | rfl | rfl | rfl | rfl | rfl <;> revert p <;> decide

theorem lvPy_ge1 : ∀ p, 1 ≤ lvPy p := by
  intro p
  unfold lvPy
  split <;> decide

theorem lvPy_unary : ∀ {p}, p < 4 → 7 ≤ lvPy p
  | 0, _ | 1, _ | 2, _ | 3, _ => Nat.le_refl 7

theorem binop_prec_cases (op : BinOp) :
    op.prec = 4 ∨ op.prec = 5 ∨ op.prec = 7 ∨ op.prec = 8 ∨ op.prec = 11 ∨ op.prec = 12 := by
  cases op <;> decide

def postStopPyT (t : Tok) : Bool := t != .p .lbrack && t != .p .lpar && t != .p .dot

abbrev noTighterPyT := noTighter postStopPyT pyBinLevel

def closedPyT (t : Tok) : Bool := postStopPyT t && t != .id "if" && (pyBinLevel t).isNone

theorem postStopPy_of_binLevel {t op lv} (h : pyBinLevel t = some (op, lv)) : postStopPyT t = true := by
  simp only [postStopPyT, Bool.and_eq_true, bne_iff_ne, ne_eq]
  refine ⟨⟨?_, ?_⟩, ?_⟩ <;> (rintro rfl; cases h)

theorem closedPy_noTighter {rest l} (h : headAll closedPyT rest = true) : headAll (noTighterPyT l) rest = true :=
  noTighter_of_closed (fun t h => by
    simp only [closedPyT, Bool.and_eq_true, Option.isNone_iff_eq_none] at h
    exact ⟨h.1.1, h.2⟩) h

theorem pyLoop_stop {m l X rest} (h : headAll (noTighterPyT l) rest = true) (hl : l < m) :
    Ev fun F => pyLoop F m X rest = some (X, rest) :=
  .step0 fun _ => by
    cases rest with
    | nil => exact pyLoop_nil
    | cons t r =>
      cases hb : pyBinLevel t with
      | none => exact pyLoop_noop hb
      | some p => exact pyLoop_low hb (Nat.not_le.mpr (Nat.lt_of_le_of_lt (noTighter_level h hb) hl))

/-- no comparison operator follows: the chain is empty -/
theorem pyChain_stop {rest} (h : headAll (noTighterPyT 3) rest = true) :
    Ev fun F => pyChain F rest = some ([], rest) :=
  .step0 fun _ => by
    cases rest with
    | nil => exact pyChain_nil
    | cons t r =>
      cases hb : pyBinLevel t with
      | none => exact pyChain_noop hb
      | some p =>
        obtain ⟨op, lv⟩ := p
        exact pyChain_other hb (fun e => absurd (e ▸ noTighter_level h hb) (by decide))

theorem pyTrailers_stop {b rest} (h : headAll postStopPyT rest = true) :
    Ev fun F => pyTrailers F b rest = some (b, rest) :=
  .step0 fun _ => by
    cases rest with
    | nil => exact pyTrailers_nil
    | cons t r =>
      simp only [headAll, postStopPyT, Bool.and_eq_true, bne_iff_ne, ne_eq] at h
      exact pyTrailers_other h.2 h.1.2 h.1.1

theorem closedPy_not_if {rest} (h : headAll closedPyT rest = true) :
    rest.head? ≠ some (.id "if") := by
  cases rest with
  | nil => exact nofun
  | cons t r =>
    simp only [headAll, closedPyT, Bool.and_eq_true, bne_iff_ne, ne_eq] at h
    exact fun e => h.1.2 (Option.some.inj e)

/-- the two closing tokens of an item list -/
theorem closedPy_close (c : P) (hc : c = .rpar ∨ c = .rbrack) (r : List Tok) :
    headAll closedPyT (.p c :: r) = true := by
  rcases hc with rfl | rfl <;> rfl

theorem pyBinLevel_level {t op lv} (h : pyBinLevel t = some (op, lv)) : 1 ≤ lv ∧ lv < 7 := by
  unfold pyBinLevel at h
  split at h <;> cases h <;> decide

/-- tokens an expression text, a display or a keyword item can start with -/
def pyStart : Tok → Bool
  | .num _ | .id _ | .p .minus | .p .lpar | .p .lbrack => true
  | _ => false

theorem pyStart_ne {t : Tok} (h : pyStart t = true) : t ≠ .p .rpar ∧ t ≠ .p .rbrack := by
  constructor <;> (rintro rfl; cases h)

theorem pyAtomOf_start {t b} (h : pyAtomOf t = some b) : pyStart t = true := by
  cases t with
  | num _ | id _ => rfl
  | _ => cases h

theorem head_ne_rpar {ts : List Tok} (h : ∃ t r, ts = t :: r ∧ pyStart t = true) :
    ts.head? ≠ some (.p .rpar) := by
  obtain ⟨t, r, rfl, hst⟩ := h
  exact fun e => (pyStart_ne hst).1 (Option.some.inj e)

theorem validIdentPy_not_kw {n : String} (h : validIdentPy n = true) : pyKeywords.contains n = false := by
  simp only [validIdentPy, Bool.and_eq_true, Bool.not_eq_true'] at h
  exact h.2

theorem pyAtomOf_ident {n : String} (h : validIdentPy n = true) : pyAtomOf (.id n) = some (.id n) := by
  simp only [pyAtomOf, validIdentPy_not_kw h, Bool.false_eq_true, if_false]

/-- what may follow an operand of level `l`: after a comparison no comparison operator (it would chain) -/
def flwL (l : Nat) : Nat := if l = 4 then 3 else l

theorem flwL_mono {l l' : Nat} (h : l' ≤ l) : flwL l' ≤ flwL l := by
  unfold flwL; split <;> split <;> omega

theorem flwL_succ (l : Nat) : l ≤ flwL (l + 1) := by
  unfold flwL; split <;> omega

/-- The parser reads `ts` as `x`, through each of its three entry points: as a test in front of a
    closing token; for `1 ≤ l`, as the left operand at any level `m ≤ l` in front of what binds no
    tighter than `flwL l`, `pyLvl` continuing with `pyLoop`; for `7 ≤ l`, as a factor in front of
    anything that is no trailer. -/
structure ReadsPy (l : Nat) (ts : List Tok) (x : PT) : Prop where
  full : ∀ rest, headAll closedPyT rest = true → Ev fun F => pyTest F (ts ++ rest) = some (x, rest)
  bin : 1 ≤ l → ∀ m rest res, m ≤ l → headAll (noTighterPyT (flwL l)) rest = true →
    Ev (fun F => pyLoop F m x rest = some res) → Ev fun F => pyLvl F m (ts ++ rest) = some res
  /-- at every `m`: `pyOperand` takes the level only to refuse a `not` above level 3 -/
  un : 7 ≤ l → ∀ m rest, headAll postStopPyT rest = true →
    Ev fun F => pyOperand F m (ts ++ rest) = some (x, rest)
  /-- the text is not empty and begins like an expression: not with `)`, which after `(` would be
      the empty tuple, nor with the closing token, for which `pyItems` tests first -/
  hd : ∃ t r, ts = t :: r ∧ pyStart t = true

theorem ev_test_of_lvl {ts x rest} (hc : headAll closedPyT rest = true)
    (h : Ev fun F => pyLvl F 1 ts = some (x, rest)) : Ev fun F => pyTest F ts = some (x, rest) :=
  .step1 (fun h => pyTest_plain h (closedPy_not_if hc)) h

theorem ReadsPy.of_bin {l ts x} (h1 : 1 ≤ l) (h7 : l < 7)
    (hbin : ∀ m rest res, m ≤ l → headAll (noTighterPyT (flwL l)) rest = true →
      Ev (fun F => pyLoop F m x rest = some res) → Ev fun F => pyLvl F m (ts ++ rest) = some res)
    (hd : ∃ t r, ts = t :: r ∧ pyStart t = true) : ReadsPy l ts x where
  full rest hc := ev_test_of_lvl hc
    (hbin 1 rest _ h1 (closedPy_noTighter hc) (pyLoop_stop (closedPy_noTighter (l := 0) hc) (Nat.lt_succ_self 0)))
  bin _ := hbin
  un h := absurd h (Nat.not_le.mpr h7)
  hd := hd

/-- from the `un` property: what is read as a factor is an operand at every level. Its `full` is that
    of `of_bin` at the loosest binary level, 1 (any binary level would give the same); `bin` and `un`
    are then stated at the level asked for. -/
theorem ReadsPy.of_un {ts x}
    (hun : ∀ m rest, headAll postStopPyT rest = true → Ev fun F => pyOperand F m (ts ++ rest) = some (x, rest))
    (hd : ∃ t r, ts = t :: r ∧ pyStart t = true) (l : Nat) : ReadsPy l ts x :=
  have hbin : ∀ l m rest res, headAll (noTighterPyT l) rest = true →
      Ev (fun F => pyLoop F m x rest = some res) → Ev fun F => pyLvl F m (ts ++ rest) = some res :=
    fun _ m rest _ hnt hloop => .step2 pyLvl_of (hun m rest (noTighter_postStop hnt)) hloop
  { (ReadsPy.of_bin (l := 1) (Nat.le_refl 1) (by decide) (fun m rest res _ => hbin _ m rest res) hd) with
    bin := fun _ m rest res _ => hbin _ m rest res
    un := fun _ => hun }

theorem ReadsPy.mono {l l' ts x} (h : ReadsPy l ts x) (hl : l' ≤ l) : ReadsPy l' ts x where
  full := h.full
  bin h1 m rest res hm hnt :=
    h.bin (Nat.le_trans h1 hl) m rest res (Nat.le_trans hm hl) (noTighter_mono hnt (flwL_mono hl))
  un h7 := h.un (Nat.le_trans h7 hl)
  hd := h.hd

/-- how `parseExprPy`, `simpleStmtPy`, `forHeadPy` consume it: they run with `fuelFor` of their input -/
theorem ReadsPy.full_fuelFor {l ts x} (h : ReadsPy l ts x) {rest} (hc : headAll closedPyT rest = true) :
    pyTest (fuelFor (ts ++ rest)) (ts ++ rest) = some (x, rest) :=
  (h.full rest hc).elim fun _ => pyTest_fuelFor

theorem ReadsPy.parseExprPy {l ts x} (h : ReadsPy l ts x) : parseExprPy ts = some x := by
  rw [Fmt.parseExprPy, ← ts.append_nil, h.full_fuelFor (rest := []) rfl]

theorem ReadsPy.un_fuelFor {l ts x} (h : ReadsPy l ts x) (hl : 7 ≤ l) {m rest}
    (hps : headAll postStopPyT rest = true) :
    pyOperand (fuelFor (ts ++ rest)) m (ts ++ rest) = some (x, rest) :=
  (h.un hl m rest hps).elim fun _ => pyOperand_fuelFor

theorem readsPy_atom {t b} (h : pyAtomOf t = some b) (l : Nat) : ReadsPy l [t] b :=
  .of_un (fun _ _ hps => .step1 (pyOperand_atom h) (pyTrailers_stop hps)) ⟨t, [], rfl, pyAtomOf_start h⟩ l

theorem readsPy_paren {l ts x} (h : ReadsPy l ts x) (L : Nat) : ReadsPy L (.p .lpar :: (ts ++ [.p .rpar])) x :=
  .of_un (fun m rest hps => by
    rw [List.cons_append, List.append_assoc]
    exact .step2 (pyOperand_paren (head_ne_rpar (head_append h.hd _)))
      (h.full (.p .rpar :: rest) rfl) (pyTrailers_stop hps))
    ⟨_, _, rfl, rfl⟩ L

/-- the formatter's "parenthesise if it binds too loosely" -/
theorem ReadsPy.parenT {l ts x} (h : ReadsPy l ts x) {p : Bool} {L : Nat} (hp : p = false → L ≤ l) :
    ReadsPy L (parenT p ts) x := by
  cases p with
  | false => exact h.mono (hp rfl)
  | true => exact readsPy_paren h L

theorem readsPy_neg {ts x} (h : ReadsPy 7 ts x) (l : Nat) : ReadsPy l (.p .minus :: ts) (.un .neg x) :=
  .of_un (fun _ rest hps => .step1 pyOperand_neg (h.un (Nat.le_refl _) 7 rest hps)) ⟨_, _, rfl, rfl⟩ l

/-- `not x` as a whole test (the formatter prints it inside parentheses) -/
theorem readsPy_not {ts x} (h : ReadsPy 3 ts x) : ReadsPy 0 (.id "not" :: ts) (.un .not x) where
  full rest hc := ev_test_of_lvl hc (.step2 pyLvl_of
    (.step1 (pyOperand_not (by decide))
      (h.bin (by decide) 3 rest _ (by decide) (closedPy_noTighter hc)
        (pyLoop_stop (closedPy_noTighter (l := 0) hc) (by decide))))
    (pyLoop_stop (closedPy_noTighter (l := 0) hc) (Nat.lt_succ_self 0)))
  bin h := absurd h (by decide)
  un h := absurd h (by decide)
  hd := ⟨_, _, rfl, rfl⟩

/-- `or and + - * /`, left associative: the left operand at the operator's level, the right one a
    level tighter -/
theorem readsPy_bin {t op lv as a bs b} (hb : pyBinLevel t = some (op, lv)) (h4 : lv ≠ 4)
    (ha : ReadsPy lv as a) (hbs : ReadsPy (lv + 1) bs b) : ReadsPy lv (as ++ t :: bs) (.bin op a b) := by
  have hlv := pyBinLevel_level hb
  have hf : flwL lv = lv := if_neg h4
  refine .of_bin hlv.1 hlv.2 ?_ (head_append ha.hd _)
  intro m rest res hm hnt hloop
  rw [hf] at hnt
  rw [List.append_assoc, List.cons_append]
  -- the loop sees the operator, reads the right operand one level tighter, and goes on
  exact ha.bin hlv.1 m _ res hm (noTighter_head (postStopPy_of_binLevel hb) hb (Nat.le_of_eq hf.symm) _)
    (.step2 (pyLoop_op hb hm h4)
      (hbs.bin (Nat.le_succ_of_le hlv.1) _ rest _ (Nat.le_refl _) (noTighter_mono hnt (flwL_succ lv))
        (pyLoop_stop hnt (Nat.lt_succ_self _)))
      hloop)

/-- a comparison of two arithmetic operands, no comparison following: the chain has one link -/
theorem readsPy_cmp {t op as a bs b} (hb : pyBinLevel t = some (op, 4))
    (ha : ReadsPy 5 as a) (hbs : ReadsPy 5 bs b) : ReadsPy 4 (as ++ t :: bs) (.bin op a b) := by
  refine .of_bin (by decide) (by decide) ?_ (head_append ha.hd _)
  intro m rest res hm hnt hloop
  rw [List.append_assoc, List.cons_append]
  exact ha.bin (by decide) m _ res (Nat.le_succ_of_le hm) (noTighter_head (postStopPy_of_binLevel hb) hb (by decide) _)
    (.step3 (pyLoop_cmp hb hm)
      (hbs.bin (by decide) 5 rest _ (Nat.le_refl _) (noTighter_mono hnt (by decide)) (pyLoop_stop hnt (by decide)))
      (pyChain_stop hnt) hloop)

/-- `t if c else f`: `if` and `else` end an or_test -/
theorem readsPy_cond {ts t cs c fs f} (ht : ReadsPy 1 ts t) (hc : ReadsPy 1 cs c) (hf : ReadsPy 0 fs f) :
    ReadsPy 0 (ts ++ .id "if" :: (cs ++ .id "else" :: fs)) (.cond c t f) where
  full rest hcl := by
    simp only [List.append_assoc, List.cons_append]
    exact .step3 pyTest_tern
      (ht.bin (Nat.le_refl _) 1 _ _ (Nat.le_refl _) rfl (pyLoop_stop (l := 0) rfl (Nat.lt_succ_self 0)))
      (hc.bin (Nat.le_refl _) 1 _ _ (Nat.le_refl _) rfl (pyLoop_stop (l := 0) rfl (Nat.lt_succ_self 0)))
      (hf.full rest hcl)
  bin h := absurd h (by decide)
  un h := absurd h (by decide)
  hd := head_append ht.hd _

theorem np_not_kw : pyKeywords.contains "np" = false := by decide +kernel

theorem py_dotted (a b : String) (ha : pyKeywords.contains a = false) {m X res}
    (h : Ev fun n => pyTrailers n (.id (a ++ "." ++ b)) X = some res) :
    Ev fun F => pyOperand F m (.id a :: .p .dot :: .id b :: X) = some res :=
  .step1 (pyOperand_atom (by simp only [pyAtomOf, ha, Bool.false_eq_true, if_false])) (.step1 pyTrailers_dot h)

theorem readsPy_dotted2 (a b : String) (ha : pyKeywords.contains a = false) (L : Nat) :
    ReadsPy L [.id a, .p .dot, .id b] (.id (a ++ "." ++ b)) :=
  .of_un (fun _ _ hps => py_dotted a b ha (pyTrailers_stop hps)) ⟨_, _, rfl, rfl⟩ L

/-- one item in front of the closing token, or of a comma and further items -/
structure ItemPy (ts : List Tok) (x : PT) : Prop where
  hd : ∃ t r, ts = t :: r ∧ pyStart t = true
  last : ∀ close, close = .rpar ∨ close = .rbrack → ∀ rest,
    Ev fun F => pyItem F close (ts ++ .p close :: rest) = some ([x], rest)
  more : ∀ close R es r', Ev (fun F => pyItems F close R = some (es, r')) →
    Ev fun F => pyItem F close (ts ++ .p .comma :: R) = some (x :: es, r')

theorem ItemPy.of_reads {l ts x} (h : ReadsPy l ts x) : ItemPy ts x where
  hd := h.hd
  last close hcl rest :=
    .step1 (pyItem_last (by rcases hcl with rfl | rfl <;> decide) (by rcases hcl with rfl | rfl <;> decide))
      (h.full _ (closedPy_close close hcl rest))
  more _ R _ _ hR := .step2 pyItem_cons (h.full (.p .comma :: R) rfl) hR

/-- keyword argument `k = v` -/
theorem ItemPy.kw {k : String} (hk : validIdentPy k = true) {l vts v} (hv : ReadsPy l vts v) :
    ItemPy (.id k :: .p .assign :: vts) (.kw k v) where
  hd := ⟨_, _, rfl, rfl⟩
  last close hcl rest :=
    .step2 (pyItem_kw_last (by rcases hcl with rfl | rfl <;> decide))
      ((readsPy_atom (pyAtomOf_ident hk) 0).full _ rfl) (hv.full _ (closedPy_close close hcl rest))
  more _ R _ _ hR :=
    .step3 pyItem_kw_cons ((readsPy_atom (pyAtomOf_ident hk) 0).full _ rfl) (hv.full (.p .comma :: R) rfl) hR

/-- a comma-separated item list, possibly empty, up to the closing token -/
theorem readsPy_items (close : P) (hcl : close = .rpar ∨ close = .rbrack) :
    ∀ (l : List (List Tok × PT)), (∀ p ∈ l, ItemPy p.1 p.2) → ∀ rest,
    Ev fun F => pyItems F close (joinT [.p .comma] (l.map (·.1)) ++ .p close :: rest) = some (l.map (·.2), rest)
  | [], _, rest => .step0 fun _ => pyItems_close
  | a :: l, hall, rest => by
    obtain ⟨ha, hl⟩ := List.forall_mem_cons.1 hall
    obtain ⟨t, r, ht, hst⟩ := ha.hd
    have hne : t ≠ .p close := by
      rcases hcl with rfl | rfl
      · exact (pyStart_ne hst).1
      · exact (pyStart_ne hst).2
    obtain ⟨r', hj⟩ := joinT_head (sep := [.p .comma]) (l := l.map (·.1)) ht
    refine .step1 (pyItems_item ⟨t, _, by rw [List.map_cons, hj]; rfl, hne⟩) ?_
    cases l with
    | nil => exact ha.last close hcl rest
    | cons b l =>
      have := ha.more close _ _ _ (readsPy_items close hcl (b :: l) hl rest)
      simpa [joinT_cons_cons] using this

/-- what stands between the parentheses of a tuple: nothing, `a,`, or `a, b, …` -/
def tupleBody : List (List Tok) → List Tok
  | [] => []
  | [a] => a ++ [.p .comma]
  | a :: b :: l => joinT [.p .comma] (a :: b :: l)

theorem tupleBody_cons (a : List Tok) (l : List (List Tok)) :
    tupleBody (a :: l) = a ++ .p .comma :: joinT [.p .comma] l := by
  cases l with
  | nil => rfl
  | cons b l => simp [tupleBody, joinT_cons_cons]

/-- `(a, b, …)` with at least two items, `(a,)`, `()` -/
theorem readsPy_tuple (l : List (List Tok × PT)) (hall : ∀ p ∈ l, ReadsPy 0 p.1 p.2) (L : Nat) :
    ReadsPy L ([.p .lpar] ++ tupleBody (l.map (·.1)) ++ [.p .rpar]) (.tuple (l.map (·.2))) := by
  refine .of_un (fun m rest hps => ?_) ⟨_, _, rfl, rfl⟩ L
  cases l with
  | nil => exact .step1 (pyOperand_unit rfl) (pyTrailers_stop hps)
  | cons a l =>
    -- the first item is read as an expression, the others as an item list
    obtain ⟨ha, hl⟩ := List.forall_mem_cons.1 hall
    have : Ev fun F => pyOperand F m
        (.p .lpar :: (a.1 ++ .p .comma :: (joinT [.p .comma] (l.map (·.1)) ++ .p .rpar :: rest)))
        = some (.tuple (a.2 :: l.map (·.2)), rest) :=
      .step3 (pyOperand_tuple (head_ne_rpar (head_append ha.hd _))) (ha.full (.p .comma :: _) rfl)
        (readsPy_items .rpar (Or.inl rfl) l (fun p hp => .of_reads (hl p hp)) rest) (pyTrailers_stop hps)
    simpa [tupleBody_cons] using this

/-- `[a, b, …]`, `[]` -/
theorem readsPy_list (l : List (List Tok × PT)) (hall : ∀ p ∈ l, ReadsPy 0 p.1 p.2) (L : Nat) :
    ReadsPy L ([.p .lbrack] ++ joinT [.p .comma] (l.map (·.1)) ++ [.p .rbrack]) (.list (l.map (·.2))) :=
  .of_un (fun m rest hps => by
    have : Ev fun F => pyOperand F m (.p .lbrack :: (joinT [.p .comma] (l.map (·.1)) ++ .p .rbrack :: rest))
        = some (.list (l.map (·.2)), rest) :=
      .step2 pyOperand_list (readsPy_items .rbrack (Or.inr rfl) l (fun p hp => .of_reads (hall p hp)) rest)
        (pyTrailers_stop hps)
    simpa using this) ⟨_, _, rfl, rfl⟩ L

/-- `np.f(item, …)` -/
theorem readsPy_npcall (f : String) (l : List (List Tok × PT)) (hall : ∀ p ∈ l, ItemPy p.1 p.2) (L : Nat) :
    ReadsPy L ([.id "np", .p .dot, .id f, .p .lpar] ++ joinT [.p .comma] (l.map (·.1)) ++ [.p .rpar])
      (.call ("np" ++ "." ++ f) (l.map (·.2))) :=
  .of_un (fun m rest hps => by
    have : Ev fun F => pyOperand F m (.id "np" :: .p .dot :: .id f :: .p .lpar ::
        (joinT [.p .comma] (l.map (·.1)) ++ .p .rpar :: rest)) = some (.call ("np" ++ "." ++ f) (l.map (·.2)), rest) :=
      py_dotted "np" f np_not_kw (.step2 pyTrailers_call
        (readsPy_items .rpar (Or.inl rfl) l hall rest) (pyTrailers_stop hps))
    simpa using this) ⟨_, _, rfl, rfl⟩ L

-- used by nothing: facts about `lvPy` and `closedPyT` in their own right
theorem lvPy_le7 : ∀ p, lvPy p ≤ 7 := by
  intro p
  unfold lvPy
  split <;> decide

theorem closedPy_else (r : List Tok) : headAll closedPyT (.id "else" :: r) = true := rfl

end Ffcx.LNodes.Fmt
