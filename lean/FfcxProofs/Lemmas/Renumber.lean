/-
Helper lemmas for the renumbering model (C13): `unique_tuple`, stable sort by key, dict index, and how they
commute with an injective / order-compatible relabelling of the counters.
-/
import FfcxModel.Jit.Renumber
import FfcxProofs.Lemmas.Sorted
import FfcxProofs.Lemmas.Basics

namespace Ffcx.Naming.Rn

section Generic
variable {α β : Type}

def InjOn (g : α → β) (l : List α) : Prop := ∀ a ∈ l, ∀ b ∈ l, g a = g b → a = b

theorem InjOn.mono {g : α → β} {l l' : List α} (h : InjOn g l) (hs : ∀ a ∈ l', a ∈ l) : InjOn g l' :=
  fun a ha b hb e => h a (hs a ha) b (hs b hb) e

variable [DecidableEq α] [DecidableEq β]

theorem mem_uniqueFrom {a : α} : ∀ {l seen : List α}, a ∈ uniqueFrom seen l ↔ a ∈ l ∧ a ∉ seen
  | [], seen => by simp [uniqueFrom]
  | x :: xs, seen => by
    rw [uniqueFrom]
    split
    · rename_i hx
      rw [mem_uniqueFrom, List.mem_cons]
      exact ⟨fun h => ⟨.inr h.1, h.2⟩, fun h => ⟨h.1.resolve_left fun e => h.2 (e ▸ hx), h.2⟩⟩
    · rename_i hx
      rw [List.mem_cons, mem_uniqueFrom, List.mem_cons, List.mem_cons, not_or]
      by_cases e : a = x
      · simp only [e, true_or, hx, not_false_eq_true, and_self]
      · simp only [e, false_or, not_false_eq_true, true_and]

theorem mem_uniqueTuple {a : α} {l : List α} : a ∈ uniqueTuple l ↔ a ∈ l := by
  simp [uniqueTuple, mem_uniqueFrom]

/-- Only the membership relation of the `handled` set matters. -/
theorem uniqueFrom_congr : ∀ (l : List α) {s₁ s₂ : List α}, (∀ x, x ∈ s₁ ↔ x ∈ s₂) →
    uniqueFrom s₁ l = uniqueFrom s₂ l
  | [], _, _, _ => rfl
  | x :: xs, s₁, s₂, h => by
    simp only [uniqueFrom]
    by_cases hx : x ∈ s₁
    · rw [if_pos hx, if_pos ((h x).mp hx)]
      exact uniqueFrom_congr xs h
    · rw [if_neg hx, if_neg (mt (h x).mpr hx)]
      congr 1
      refine uniqueFrom_congr xs fun y => ?_
      simp only [List.mem_cons, h y]

theorem uniqueFrom_append : ∀ (xs ys s : List α),
    uniqueFrom s (xs ++ ys) = uniqueFrom s xs ++ uniqueFrom (xs ++ s) ys
  | [], _, _ => rfl
  | x :: xs, ys, s => by
    simp only [List.cons_append, uniqueFrom]
    by_cases hx : x ∈ s
    · rw [if_pos hx, if_pos hx, uniqueFrom_append xs ys s]
      congr 1
      refine uniqueFrom_congr ys fun y => ?_
      rw [List.mem_cons, List.mem_append]
      exact ⟨.inr, fun h => h.elim (fun e => .inr (e ▸ hx)) id⟩
    · rw [if_neg hx, if_neg hx, uniqueFrom_append xs ys (x :: s), List.cons_append]
      congr 2
      refine uniqueFrom_congr ys fun y => ?_
      rw [List.mem_cons, List.mem_append, List.mem_append, List.mem_cons]
      exact or_left_comm

/-- `unique_tuple` commutes with a map that is injective on a list `L` holding everything in sight. -/
theorem uniqueFrom_map (g : α → β) {L : List α} (h : InjOn g L) : ∀ (l seen : List α),
    (∀ a ∈ l, a ∈ L) → (∀ a ∈ seen, a ∈ L) → uniqueFrom (seen.map g) (l.map g) = (uniqueFrom seen l).map g
  | [], _, _, _ => rfl
  | x :: xs, seen, hl, hs => by
    rw [List.forall_mem_cons] at hl
    have hx : g x ∈ seen.map g ↔ x ∈ seen := ⟨fun hm => by
      obtain ⟨y, hy, e⟩ := List.mem_map.mp hm
      exact h y (hs y hy) x hl.1 e ▸ hy, List.mem_map_of_mem⟩
    rw [List.map_cons, uniqueFrom, uniqueFrom]
    by_cases hm : x ∈ seen
    · rw [if_pos hm, if_pos (hx.mpr hm)]
      exact uniqueFrom_map g h xs seen hl.2 hs
    · rw [if_neg hm, if_neg (mt hx.mp hm), List.map_cons,
        ← uniqueFrom_map g h xs (x :: seen) hl.2 (List.forall_mem_cons.mpr ⟨hl.1, hs⟩)]
      rfl

theorem uniqueTuple_map (g : α → β) (l : List α) (h : InjOn g l) :
    uniqueTuple (l.map g) = (uniqueTuple l).map g :=
  uniqueFrom_map g h l [] (fun _ ha => ha) nofun

theorem indexIn_map (g : α → β) {L : List α} (h : InjOn g L) {x : α} (hx : x ∈ L) : ∀ (l : List α),
    (∀ a ∈ l, a ∈ L) → indexIn (g x) (l.map g) = indexIn x l
  | [], _ => rfl
  | y :: ys, hl => by
    rw [List.forall_mem_cons] at hl
    rw [List.map_cons, indexIn, indexIn, indexIn_map g h hx ys hl.2]
    by_cases e : x = y
    · rw [if_pos e, if_pos (congrArg g e)]
    · rw [if_neg e, if_neg fun e' => e (h x hx y hl.1 e')]

end Generic

theorem keyLe_total (a b : Nat × Nat) : keyLe a b = true ∨ keyLe b a = true := by
  simp only [keyLe, Bool.or_eq_true, Bool.and_eq_true, decide_eq_true_eq]
  omega

theorem keyLe_refl (a : Nat × Nat) : keyLe a a = true := (keyLe_total a a).elim id id

theorem keyLe_trans {a b c : Nat × Nat} (h1 : keyLe a b = true) (h2 : keyLe b c = true) :
    keyLe a c = true := by
  simp only [keyLe, Bool.or_eq_true, Bool.and_eq_true, decide_eq_true_eq] at *
  omega

theorem keyLe_antisymm {a b : Nat × Nat} (h1 : keyLe a b = true) (h2 : keyLe b a = true) : a = b := by
  simp only [keyLe, Bool.or_eq_true, Bool.and_eq_true, decide_eq_true_eq] at *
  rcases a with ⟨a1, a2⟩
  rcases b with ⟨b1, b2⟩
  simp only [Prod.mk.injEq] at *
  omega

theorem keyLe_count (a b : Nat) : keyLe (a, 0) (b, 0) = decide (a ≤ b) := by
  rw [Bool.eq_iff_iff]
  simp only [keyLe, Bool.or_eq_true, Bool.and_eq_true, decide_eq_true_eq]
  omega

section Sorting
variable {α β : Type}

def leBy (key : α → Nat × Nat) (a b : α) : Bool := keyLe (key a) (key b)

theorem insertBy_eq (key : α → Nat × Nat) (x : α) : ∀ l, insertBy key x l = insertSorted (leBy key) x l
  | [] => rfl
  | y :: ys => by rw [insertBy, insertSorted, insertBy_eq key x ys]; rfl

theorem sortBy_eq (key : α → Nat × Nat) : ∀ l : List α, sortBy key l = insertionSort (leBy key) l
  | [] => rfl
  | x :: xs => by rw [sortBy, insertionSort, sortBy_eq key xs, insertBy_eq]

theorem mem_sortBy {key : α → Nat × Nat} {l : List α} {a : α} : a ∈ sortBy key l ↔ a ∈ l :=
  sortBy_eq key l ▸ mem_insertionSort

/-- `sorted(set, key=…)` does not depend on the iteration order of the set when the keys are distinct: two
enumerations `l₁`, `l₂` of one set `c` sort to the same list. -/
theorem sortBy_of_perm {key : α → Nat × Nat} {l₁ l₂ c : List α} (h₁ : l₁.Perm c) (h₂ : l₂.Perm c)
    (hk : (c.map key).Nodup) : sortBy key l₁ = sortBy key l₂ := by
  rw [sortBy_eq, sortBy_eq]
  exact insertionSort_of_perm (le := leBy key) (fun a b => keyLe_total (key a) (key b)) keyLe_trans
    (h₁.trans h₂.symm) fun a ha b hb h1 h2 =>
      eq_of_key_eq ((h₁.map _).nodup_iff.mpr hk) ha hb (keyLe_antisymm h1 h2)

theorem sortBy_map (key : α → Nat × Nat) (key' : β → Nat × Nat) (g : α → β) (l : List α)
    (h : ∀ a ∈ l, ∀ b ∈ l, keyLe (key' (g a)) (key' (g b)) = keyLe (key a) (key b)) :
    sortBy key' (l.map g) = (sortBy key l).map g := by
  rw [sortBy_eq, sortBy_eq]
  exact insertionSort_map g l h

end Sorting

theorem mem_meshes {l : List Term} {m : Mesh} : m ∈ meshes l ↔ ∃ t ∈ l, t.mesh? = some m := by
  simp [meshes, List.mem_filterMap]

theorem meshes_subset {l l' : List Term} (h : ∀ t ∈ l, t ∈ l') : ∀ m ∈ meshes l, m ∈ meshes l' := by
  intro m hm
  obtain ⟨t, ht, e⟩ := mem_meshes.mp hm
  exact mem_meshes.mpr ⟨t, h t ht, e⟩

theorem meshes_append (a b : List Term) : meshes (a ++ b) = meshes a ++ meshes b := by
  simp [meshes, List.filterMap_append]

theorem meshes_perm {a b : List Term} (h : a.Perm b) : (meshes a).Perm (meshes b) := h.filterMap _

variable (ρ : Relabel)

theorem mesh?_relabel (t : Term) : (ρ.term t).mesh? = t.mesh?.map ρ.mesh := by
  cases t <;> rfl

theorem meshes_relabel (l : List Term) : meshes (l.map ρ.term) = (meshes l).map ρ.mesh := by
  simp only [meshes, List.filterMap_map, List.map_filterMap, Function.comp_def, mesh?_relabel]

theorem isCoeff_relabel (t : Term) : (ρ.term t).isCoeff = t.isCoeff := by cases t <;> rfl
theorem isConst_relabel (t : Term) : (ρ.term t).isConst = t.isConst := by cases t <;> rfl
theorem isArg_relabel (t : Term) : (ρ.term t).isArg = t.isArg := by cases t <;> rfl
theorem isGeo_relabel (t : Term) : (ρ.term t).isGeo = t.isGeo := by cases t <;> rfl

theorem filter_relabel (p : Term → Bool) (hp : ∀ t, p (ρ.term t) = p t) (l : List Term) :
    (l.map ρ.term).filter p = (l.filter p).map ρ.term := by
  rw [List.filter_map]
  congr 1
  exact List.filter_congr (fun t _ => hp t)

theorem argKey_relabel (t : Term) : (ρ.term t).argKey = t.argKey := by cases t <;> rfl

theorem mem_coeffCounts {l : List Term} {c s : Nat} {m : Mesh} (h : Term.coeff c s m ∈ l) :
    c ∈ coeffCounts l := by
  simp only [coeffCounts, List.mem_filterMap]
  exact ⟨_, h, rfl⟩

theorem mem_constCounts {l : List Term} {c s : Nat} {m : Mesh} (h : Term.const c s m ∈ l) :
    c ∈ constCounts l := by
  simp only [constCounts, List.mem_filterMap]
  exact ⟨_, h, rfl⟩

theorem mem_meshIds {l : List Term} {t : Term} {m : Mesh} (h : t ∈ l) (e : t.mesh? = some m) :
    m.id ∈ meshIds l :=
  List.mem_map.mpr ⟨m, mem_meshes.mpr ⟨t, h, e⟩, rfl⟩

variable {ρ}
variable {terms : List Term}

theorem mesh_injOn (hρ : ρ.Compatible terms) : InjOn ρ.mesh (meshes terms) := by
  intro a ha b hb e
  have hid : a.id = b.id :=
    hρ.mesh _ (List.mem_map_of_mem ha) _ (List.mem_map_of_mem hb) (congrArg Mesh.id e)
  have hcel : (ρ.mesh a).cel = (ρ.mesh b).cel := congrArg Mesh.cel e
  cases a; cases b; cases hid; cases hcel; rfl

theorem eq_of_le_iff {f : Nat → Nat} {a b : Nat} (h1 : f a ≤ f b ↔ a ≤ b) (h2 : f b ≤ f a ↔ b ≤ a)
    (e : f a = f b) : a = b := by omega

theorem term_injOn (hρ : ρ.Compatible terms) : InjOn ρ.term terms := by
  have hm : ∀ {t t' : Term} {m m' : Mesh}, t ∈ terms → t' ∈ terms → t.mesh? = some m → t'.mesh? = some m' →
      ρ.mesh m = ρ.mesh m' → m = m' := fun ht ht' e e' =>
    mesh_injOn hρ _ (mem_meshes.mpr ⟨_, ht, e⟩) _ (mem_meshes.mpr ⟨_, ht', e'⟩)
  intro a ha b hb e
  cases a <;> cases b
  case coeff.coeff c s m c' s' m' =>
    obtain ⟨e1, e2, e3⟩ := Term.coeff.inj e
    rw [eq_of_le_iff (hρ.coeff c (mem_coeffCounts ha) c' (mem_coeffCounts hb))
      (hρ.coeff c' (mem_coeffCounts hb) c (mem_coeffCounts ha)) e1, e2, hm ha hb rfl rfl e3]
  case const.const c s m c' s' m' =>
    obtain ⟨e1, e2, e3⟩ := Term.const.inj e
    rw [eq_of_le_iff (hρ.const c (mem_constCounts ha) c' (mem_constCounts hb))
      (hρ.const c' (mem_constCounts hb) c (mem_constCounts ha)) e1, e2, hm ha hb rfl rfl e3]
  case arg.arg n p s m n' p' s' m' =>
    obtain ⟨e1, e2, e3, e4⟩ := Term.arg.inj e
    rw [e1, e2, e3, hm ha hb rfl rfl e4]
  case geo.geo k m k' m' =>
    obtain ⟨e1, e2⟩ := Term.geo.inj e
    rw [e1, hm ha hb rfl rfl e2]
  case other.other => exact congrArg Term.other (Term.other.inj e)
  -- different kinds stay different
  all_goals cases e

/-- Members of a valid enumeration are terminals of the expression, of the right kind. -/
theorem mem_of_perm_canonical {p : Term → Bool} {l : List Term} {t : Term}
    (hp : l.Perm (uniqueTuple (terms.filter p))) (h : t ∈ l) : t ∈ terms ∧ p t = true := by
  have := mem_uniqueTuple.mp (hp.subset h)
  exact List.mem_filter.mp this

theorem canonical_relabel (hρ : ρ.Compatible terms) (p : Term → Bool) (hp : ∀ t, p (ρ.term t) = p t) :
    uniqueTuple ((terms.map ρ.term).filter p) = (uniqueTuple (terms.filter p)).map ρ.term := by
  rw [filter_relabel ρ p hp]
  exact uniqueTuple_map _ _ ((term_injOn hρ).mono fun a ha => (List.mem_filter.mp ha).1)

/-- What a relabelling compatible with the expression respects of one of its three sorted sets: `p` picks the
members, `key` sorts them; `ρ` keeps the kind of every terminal and the key comparisons among the members. -/
structure RespectsSet (ρ : Relabel) (terms : List Term) (p : Term → Bool) (key : Term → Nat × Nat) : Prop where
  compat : ρ.Compatible terms
  pick : ∀ t, p (ρ.term t) = p t
  /-- Only among members of `terms` picked by `p`: `Compatible` says nothing about a count that does not occur in
  the expression, or that belongs to a terminal of the other kind. -/
  le : ∀ {a b}, a ∈ terms → b ∈ terms → p a = true → p b = true →
    keyLe (key (ρ.term a)) (key (ρ.term b)) = keyLe (key a) (key b)

/-- A set sorted by `count()`: `f` is what the relabelling does to the counts of its members, `cs` the counts of
that kind occurring in the expression, on which `f` keeps the order. -/
theorem countSet (hρ : ρ.Compatible terms) {p : Term → Bool} {f : Nat → Nat} {cs : List Nat}
    (hp : ∀ t, p (ρ.term t) = p t)
    (hk : ∀ t ∈ terms, p t = true → ∃ c ∈ cs, t.countKey = (c, 0) ∧ (ρ.term t).countKey = (f c, 0))
    (hf : ∀ a ∈ cs, ∀ b ∈ cs, (f a ≤ f b ↔ a ≤ b)) : RespectsSet ρ terms p Term.countKey where
  compat := hρ
  pick := hp
  le {a b} ha hb pa pb := by
    obtain ⟨ca, hca, ea, ea'⟩ := hk a ha pa
    obtain ⟨cb, hcb, eb, eb'⟩ := hk b hb pb
    rw [ea, ea', eb, eb', keyLe_count, keyLe_count]
    exact decide_eq_decide.mpr (hf ca hca cb hcb)

theorem coeffSet (hρ : ρ.Compatible terms) : RespectsSet ρ terms Term.isCoeff Term.countKey :=
  countSet hρ (isCoeff_relabel ρ) (fun t ht pt => by
    cases t <;> simp [Term.isCoeff] at pt
    exact ⟨_, mem_coeffCounts ht, rfl, rfl⟩) hρ.coeff

theorem constSet (hρ : ρ.Compatible terms) : RespectsSet ρ terms Term.isConst Term.countKey :=
  countSet hρ (isConst_relabel ρ) (fun t ht pt => by
    cases t <;> simp [Term.isConst] at pt
    exact ⟨_, mem_constCounts ht, rfl, rfl⟩) hρ.const

theorem argSet (hρ : ρ.Compatible terms) : RespectsSet ρ terms Term.isArg Term.argKey where
  compat := hρ
  pick := isArg_relabel ρ
  le {a b} _ _ _ _ := by rw [argKey_relabel, argKey_relabel]

section RespectsSet
variable {p : Term → Bool} {key : Term → Nat × Nat} (K : RespectsSet ρ terms p key) {l : List Term}
include K

theorem RespectsSet.sortBy_relabel (hl : l.Perm (uniqueTuple (terms.filter p))) :
    sortBy key (l.map ρ.term) = (sortBy key l).map ρ.term :=
  sortBy_map _ _ _ _ fun _ ha _ hb => K.le (mem_of_perm_canonical hl ha).1 (mem_of_perm_canonical hl hb).1
    (mem_of_perm_canonical hl ha).2 (mem_of_perm_canonical hl hb).2

theorem RespectsSet.perm_relabel (hl : l.Perm (uniqueTuple (terms.filter p))) :
    (l.map ρ.term).Perm (uniqueTuple ((terms.map ρ.term).filter p)) :=
  canonical_relabel K.compat p K.pick ▸ hl.map _

/-- A relabelling that keeps the comparisons of the keys keeps their equality, hence their distinctness. -/
theorem RespectsSet.nodup_relabel (hn : ((uniqueTuple (terms.filter p)).map key).Nodup) :
    ((uniqueTuple ((terms.map ρ.term).filter p)).map key).Nodup := by
  rw [canonical_relabel K.compat p K.pick, List.map_map]
  unfold List.Nodup at hn ⊢
  rw [List.pairwise_map] at hn ⊢
  refine hn.imp_of_mem fun {a b} ha hb h e => h ?_
  have ma := mem_of_perm_canonical (.refl _) ha
  have mb := mem_of_perm_canonical (.refl _) hb
  have h1 := K.le ma.1 mb.1 ma.2 mb.2
  have h2 := K.le mb.1 ma.1 mb.2 ma.2
  simp only [Function.comp_apply] at e
  rw [e] at h1
  rw [e] at h2
  exact keyLe_antisymm (h1 ▸ keyLe_refl _) (h2 ▸ keyLe_refl _)

end RespectsSet

def Relabel.renumbering (ρ : Relabel) (rn : Renumbering) : Renumbering :=
  ⟨rn.coeffs.map ρ.term, rn.consts.map ρ.term, rn.args.map ρ.term, rn.domains.map ρ.mesh⟩

/-- Everything the domain numbering runs over is a mesh of the expression. -/
theorem domains_within {o : SetOrders} (hv : o.Valid terms) :
    ∀ m ∈ meshes (sortBy Term.countKey o.coeffs) ++ meshes (sortBy Term.argKey o.args) ++
      meshes (terms.filter Term.isGeo) ++ meshes (sortBy Term.countKey o.consts), m ∈ meshes terms := by
  obtain ⟨v1, v2, v3⟩ := hv
  intro m hm
  simp only [List.mem_append] at hm
  rcases hm with ((hm | hm) | hm) | hm
  · exact meshes_subset (fun t ht => (mem_of_perm_canonical v1 (mem_sortBy.mp ht)).1) m hm
  · exact meshes_subset (fun t ht => (mem_of_perm_canonical v3 (mem_sortBy.mp ht)).1) m hm
  · exact meshes_subset (fun t ht => (List.mem_filter.mp ht).1) m hm
  · exact meshes_subset (fun t ht => (mem_of_perm_canonical v2 (mem_sortBy.mp ht)).1) m hm

theorem renumber_relabel {o : SetOrders} (hv : o.Valid terms) (hρ : ρ.Compatible terms) :
    renumber (terms.map ρ.term) (ρ.orders o) = ρ.renumbering (renumber terms o) := by
  have hd := domains_within hv
  simp only [renumber, Relabel.orders, Relabel.renumbering, (coeffSet hρ).sortBy_relabel hv.1,
    (constSet hρ).sortBy_relabel hv.2.1, (argSet hρ).sortBy_relabel hv.2.2, filter_relabel ρ _ (isGeo_relabel ρ),
    meshes_relabel, ← List.map_append, Renumbering.mk.injEq, true_and]
  exact uniqueTuple_map _ _ ((mesh_injOn hρ).mono hd)

/-- The renumbering only mentions objects of the expression. -/
structure Renumbering.Within (rn : Renumbering) (terms : List Term) : Prop where
  coeffs : ∀ t ∈ rn.coeffs, t ∈ terms
  consts : ∀ t ∈ rn.consts, t ∈ terms
  domains : ∀ m ∈ rn.domains, m ∈ meshes terms

theorem renumber_within {o : SetOrders} (hv : o.Valid terms) : (renumber terms o).Within terms :=
  ⟨fun _ ht => (mem_of_perm_canonical hv.1 (mem_sortBy.mp ht)).1,
    fun _ ht => (mem_of_perm_canonical hv.2.1 (mem_sortBy.mp ht)).1,
    fun m hm => domains_within hv m (mem_uniqueTuple.mp hm)⟩

theorem termData_relabel (hρ : ρ.Compatible terms) {rn : Renumbering} (hw : rn.Within terms)
    {t : Term} (ht : t ∈ terms) : termData (ρ.renumbering rn) (ρ.term t) = termData rn t := by
  have im : ∀ {m}, t.mesh? = some m → indexIn (ρ.mesh m) (rn.domains.map ρ.mesh) = indexIn m rn.domains :=
    fun e => indexIn_map _ (mesh_injOn hρ) (mem_meshes.mpr ⟨t, ht, e⟩) _ hw.domains
  have it := indexIn_map _ (term_injOn hρ) ht
  cases t with
  | coeff c s m =>
    show TermData.coeff (indexIn (ρ.term (.coeff c s m)) (rn.coeffs.map ρ.term)) s
      (indexIn (ρ.mesh m) (rn.domains.map ρ.mesh)) m.cel = _
    rw [it _ hw.coeffs, im rfl]; rfl
  | const c s m =>
    show TermData.const (indexIn (ρ.mesh m) (rn.domains.map ρ.mesh)) m.cel s
      (indexIn (ρ.term (.const c s m)) (rn.consts.map ρ.term)) = _
    rw [it _ hw.consts, im rfl]; rfl
  | arg n p s m => exact congrArg (TermData.arg n p s · m.cel) (im rfl)
  | geo k m => exact congrArg (TermData.geo k · m.cel) (im rfl)
  | other d => rfl

theorem valid_relabel {o : SetOrders} (hv : o.Valid terms) (hρ : ρ.Compatible terms) :
    (ρ.orders o).Valid (terms.map ρ.term) :=
  ⟨(coeffSet hρ).perm_relabel hv.1, (constSet hρ).perm_relabel hv.2.1, (argSet hρ).perm_relabel hv.2.2⟩

theorem canonical_valid (terms : List Term) : (canonicalOrders terms).Valid terms :=
  ⟨List.Perm.refl _, List.Perm.refl _, List.Perm.refl _⟩

end Ffcx.Naming.Rn
