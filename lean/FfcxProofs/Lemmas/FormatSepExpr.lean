/-
C16 — no token fusion for expressions: the pieces of every well-formed expression are `separated`
(`separated_pieces`).

The C and the numba argument are the same: an expression text is a piece list that is separated,
begins with a "first" token and ends with a "last" token (`Sepd`), and this is preserved by the ways
the formatters build texts (parenthesise, join with a separator, a name in front, a bracket behind).
It is stated once over the separation predicate `S`, the may-touch relation `T`, the well-shaped
tokens `K` and the token classes `F`, `L`; `SepLaws` lists what is used of them. Items of
bracketed lists are the same with a last-token class given by the punctuators that may follow
(`closedBy`, `sepd_bracks`, `sepd_closer`). Then the C instance (`cLaws`) and the cases of `piecesC`
(`sp_pieces`).
-/
import FfcxProofs.Lemmas.FormatSep
namespace Ffcx.LNodes.Fmt

/-- `ps` is the text of an operand: separated, beginning with a token that may begin an expression
    (`F`) and ending with one that may end it (`L`), so that what may be put next to it depends on
    these two classes only -/
structure Sepd (S : List Piece → Bool) (F L : Tok → Bool) (ps : List Piece) : Prop where
  sep : S ps = true
  first : ∃ t, firstP ps = some t ∧ F t = true
  last : ∃ t, lastP ps = some t ∧ L t = true

/-- punctuators that may directly follow the last token of an expression text (`before_closer`):
    `)` `]` `,` close an operand (`snoc`, `join_comma`, `sp_idx`), `(` `[` follow the name in a call or a
    subscript (`head`), `+` stands between the two parts of a complex literal (`sp_complex`,
    `psp_complex`) -/
def closers : List P := [.rpar, .rbrack, .comma, .lbrack, .lpar, .plus]

def closedBy (T : Tok → Tok → Bool) (qs : List P) (t : Tok) : Bool := qs.all fun q => T t (.p q)

theorem closedBy_mem {T : Tok → Tok → Bool} {qs : List P} {t : Tok} {q : P} (h : closedBy T qs t = true)
    (hq : q ∈ qs) : T t (.p q) = true :=
  List.all_eq_true.1 h q hq

structure SepLaws (S : List Piece → Bool) (w : List Char → Bool) (K : Tok → Bool) (T : Tok → Tok → Bool)
    (F L : Tok → Bool) : Prop where
  eqs : SepEqs S w K T
  blank_ok : w [' '] = true
  first_ok : ∀ {t}, F t = true → K t = true
  /-- a name or a number is an expression text -/
  atom : ∀ {t}, K t = true → (∃ s, t = .id s ∨ t = .num s) → F t = true ∧ L t = true
  lpar : F (.p .lpar) = true
  minus : F (.p .minus) = true
  closing : ∀ {q}, q = .rpar ∨ q = .rbrack → L (.p q) = true
  closer_ok : ∀ {q}, q ∈ closers → K (.p q) = true
  /-- nothing fuses with an opening bracket in front of it -/
  after_open : ∀ {q y}, q = .lpar ∨ q = .lbrack → K y = true → T (.p q) y = true
  /-- the end of an expression text fuses with none of `closers` (the case with content: `+` would
      continue a number that ends in `e`; number tokens end in a digit) -/
  before_closer : ∀ {x q}, L x = true → q ∈ closers → T x (.p q) = true
  /-- a sign printed as a piece of its own in front of the digits of a negative literal -/
  minus_num : ∀ {s}, K (.num s) = true → T (.p .minus) (.num s) = true

section
variable {S : List Piece → Bool} {w : List Char → Bool} {K : Tok → Bool} {T : Tok → Tok → Bool} {F L : Tok → Bool}
  {ps : List Piece}

theorem Sepd.ne_nil (h : Sepd S F L ps) : ps ≠ [] := by
  obtain ⟨t, ht, _⟩ := h.first
  intro hn; subst hn; cases ht

theorem Sepd.first_of (h : Sepd S F L ps) {y} (hy : firstP ps = some y) : F y = true := by
  obtain ⟨t, ht, hF⟩ := h.first
  rw [ht] at hy; cases hy; exact hF

theorem Sepd.last_of (h : Sepd S F L ps) {x} (hx : lastP ps = some x) : L x = true := by
  obtain ⟨t, ht, hL⟩ := h.last
  rw [ht] at hx; cases hx; exact hL

theorem Sepd.mono {S' : List Piece → Bool} {F' L' : Tok → Bool} (h : Sepd S F L ps) (hS : S ps = true → S' ps = true)
    (hF : ∀ {t}, F t = true → F' t = true) (hL : ∀ {t}, L t = true → L' t = true) : Sepd S' F' L' ps :=
  ⟨hS h.sep, h.first.imp fun _ ht => ⟨ht.1, hF ht.2⟩, h.last.imp fun _ ht => ⟨ht.1, hL ht.2⟩⟩

/-- `a ++ m ++ b` with given bridges into and out of the middle part (`h1`, `h2`: vacuous when `m` begins
    resp. ends with white space, as in `SepLaws.mid_ws`); `h3` is the bridge from `a` to `b` for an empty
    middle (`psp_complex` with a negative imaginary part, where no `+` is printed) -/
theorem sepd_app3 (E : SepEqs S w K T) {a m b : List Piece} (ha : Sepd S F L a) (hb : Sepd S F L b) (hm : S m = true)
    (h1 : ∀ x y, L x = true → firstP m = some y → T x y = true)
    (h2 : ∀ x y, lastP m = some x → F y = true → T x y = true)
    (h3 : m = [] → ∀ x y, L x = true → firstP b = some y → T x y = true) :
    Sepd S F L (a ++ m ++ b) := by
  obtain ⟨fa, hfa, hfa'⟩ := ha.first
  obtain ⟨lb, hlb, hlb'⟩ := hb.last
  refine ⟨?_, ⟨fa, ?_, hfa'⟩, ⟨lb, ?_, hlb'⟩⟩
  · rw [List.append_assoc]
    refine E.append ha.sep (E.append hm hb.sep fun x y hx hy => h2 x y hx (hb.first_of hy)) ?_
    intro x y hx hy
    cases m with
    | nil => exact h3 rfl x y (ha.last_of hx) hy
    | cons q qs => exact h1 x y (ha.last_of hx) ((firstP_append _ (List.cons_ne_nil q qs)).symm.trans hy)
  · rw [List.append_assoc, firstP_append _ ha.ne_nil]; exact hfa
  · rw [lastP_append_ne _ hb.ne_nil]; exact hlb

theorem sepd_join (E : SepEqs S w K T) {sepr : List Piece} (hs : S sepr = true) (hne : sepr ≠ [])
    (h1 : ∀ x y, L x = true → firstP sepr = some y → T x y = true)
    (h2 : ∀ x y, lastP sepr = some x → F y = true → T x y = true) :
    ∀ xs : List (List Piece), xs ≠ [] → (∀ x ∈ xs, Sepd S F L x) → Sepd S F L (joinP sepr xs)
  | [], h, _ => absurd rfl h
  | [x], _, hall => hall x (List.mem_singleton_self x)
  | x :: y :: ys, _, hall =>
    sepd_app3 E (hall x (List.mem_cons_self ..)) (sepd_join E hs hne h1 h2 (y :: ys) (List.cons_ne_nil _ _)
      fun z hz => hall z (List.mem_cons_of_mem _ hz)) hs h1 h2 (fun h => absurd h hne)

/-- brackets `o … c` around nothing or an item list -/
theorem sepd_bracks (E : SepEqs S w K T) {o c : P} {ps : List Piece} (ho : S [pp o] = true) (hc : S [pp c] = true)
    (hF : F (.p o) = true) (hL : L (.p c) = true) (hoc : T (.p o) (.p c) = true)
    (h1 : ∀ y, F y = true → T (.p o) y = true) (h2 : ∀ x, L x = true → T x (.p c) = true)
    (h : ps = [] ∨ Sepd S F L ps) : Sepd S F L ([pp o] ++ ps ++ [pp c]) := by
  refine ⟨?_, ⟨_, rfl, hF⟩, ⟨_, lastP_append_cons _ _ _, hL⟩⟩
  rcases h with rfl | h
  · exact E.append ho hc fun x y hx hy => by cases hx; cases hy; exact hoc
  · rw [List.append_assoc]
    refine E.append ho (E.append h.sep hc fun x y hx hy => by cases hy; exact h2 x (h.last_of hx)) fun x y hx hy => ?_
    cases hx
    rw [firstP_append _ h.ne_nil] at hy
    exact h1 y (h.first_of hy)

/-- an item in front of one of the punctuators that close it -/
theorem sepd_closer (E : SepEqs S w K T) {qs : List P} {q : P} {ps rest : List Piece}
    (h : Sepd S F (closedBy T qs) ps) (hq : q ∈ qs) (hr : S (pp q :: rest) = true) :
    S (ps ++ pp q :: rest) = true :=
  E.append h.sep hr fun x y hx hy => by cases hy; exact closedBy_mem (h.last_of hx) hq

namespace SepLaws
variable (W : SepLaws S w K T F L)
include W

theorem blank : S [sp] = true := W.eqs.sp_cons W.blank_ok W.eqs.nil

theorem sep_ws_mid {t} (ht : K t = true) : S [sp, .t t, sp] = true :=
  W.eqs.append (a := [sp]) W.blank (W.eqs.tok_cons ht (fun y hy => by cases hy) W.blank) (fun x y hx => by cases hx)

theorem single {t} (ht : K t = true) (h : ∃ s, t = .id s ∨ t = .num s) : Sepd S F L [.t t] :=
  ⟨W.eqs.single ht, ⟨t, rfl, (W.atom ht h).1⟩, ⟨t, rfl, (W.atom ht h).2⟩⟩

/-- white space on both sides of a middle token: no bridge conditions -/
theorem mid_ws {a b : List Piece} {t} (ht : K t = true) (ha : Sepd S F L a) (hb : Sepd S F L b) :
    Sepd S F L (a ++ [sp, .t t, sp] ++ b) :=
  sepd_app3 W.eqs ha hb (W.sep_ws_mid ht) (fun x y _ hy => by cases hy) (fun x y hx => by cases hx)
    (fun h => by cases h)

theorem cons {t} (hF : F t = true) (h : Sepd S F L ps)
    (hbr : ∀ y, F y = true → firstP ps = some y → T t y = true) : Sepd S F L (.t t :: ps) := by
  obtain ⟨l, hl, hl'⟩ := h.last
  exact ⟨W.eqs.tok_cons (W.first_ok hF) (fun y hy => hbr y (h.first_of hy) hy) h.sep, ⟨t, rfl, hF⟩,
    ⟨l, (lastP_append_ne [.t t] h.ne_nil).trans hl, hl'⟩⟩

theorem snoc {q} (hq : q = .rpar ∨ q = .rbrack) (h : Sepd S F L ps) : Sepd S F L (ps ++ [pp q]) := by
  obtain ⟨f, hf, hf'⟩ := h.first
  have hc : q ∈ closers := by rcases hq with rfl | rfl <;> decide
  refine ⟨W.eqs.append h.sep (W.eqs.single (W.closer_ok hc)) ?_, ⟨f, (firstP_append _ h.ne_nil).trans hf, hf'⟩,
    ⟨.p q, lastP_append_cons _ _ _, W.closing hq⟩⟩
  intro x y hx hy
  cases hy
  exact W.before_closer (h.last_of hx) hc

theorem paren (h : Sepd S F L ps) : Sepd S F L (pp .lpar :: ps ++ [pp .rpar]) :=
  W.snoc (Or.inl rfl) (W.cons W.lpar h fun _ hy _ => W.after_open (Or.inl rfl) (W.first_ok hy))

theorem parenIf (b : Bool) (h : Sepd S F L ps) : Sepd S F L (parenIf b ps) := by
  cases b with
  | false => exact h
  | true => exact W.paren h

theorem head {s q} (hs : K (.id s) = true) (hq : q = .lpar ∨ q = .lbrack) (h : Sepd S F L ps) :
    Sepd S F L (.t (.id s) :: pp q :: ps) := by
  have hc : q ∈ closers := by rcases hq with rfl | rfl <;> decide
  have ha := W.atom hs ⟨s, Or.inl rfl⟩
  obtain ⟨l, hl, hl'⟩ := h.last
  refine ⟨W.eqs.tok_cons hs ?_ (W.eqs.tok_cons (W.closer_ok hc)
    (fun y hy => W.after_open hq (W.first_ok (h.first_of hy))) h.sep), ⟨_, rfl, ha.1⟩, ⟨l, ?_, hl'⟩⟩
  · intro y hy; cases hy; exact W.before_closer ha.2 hc
  · exact (lastP_append_ne [.t (.id s), pp q] h.ne_nil).trans hl

theorem join_op {o} (ho : K (.p o) = true) {xs : List (List Piece)} (hne : xs ≠ [])
    (hall : ∀ x ∈ xs, Sepd S F L x) : Sepd S F L (joinP [sp, pp o, sp] xs) :=
  sepd_join W.eqs (W.sep_ws_mid ho) (List.cons_ne_nil _ _) (fun x y _ hy => by cases hy)
    (fun x y hx => by cases hx) xs hne hall

theorem join_comma {xs : List (List Piece)} (hne : xs ≠ []) (hall : ∀ x ∈ xs, Sepd S F L x) :
    Sepd S F L (joinP [pp .comma, sp] xs) :=
  sepd_join W.eqs (W.eqs.tok_cons (W.closer_ok (by decide)) (fun y hy => by cases hy) W.blank) (List.cons_ne_nil _ _)
    (fun x y hx hy => by cases hy; exact W.before_closer hx (by decide))
    (fun x y hx => by cases hx) xs hne hall

theorem num {mag : List Char} (hK : K (.num (String.ofList mag)) = true)
    (hm : ∃ c r, mag = c :: r ∧ c ≠ '-') :
    Sepd S F L (numPieces mag) ∧ Sepd S F L (numPieces ('-' :: mag)) := by
  have h1 := W.single hK ⟨_, Or.inr rfl⟩
  obtain ⟨c, r, hcr, hc⟩ := hm
  refine ⟨?_, W.cons W.minus h1 fun y _ hy => by cases hy; exact W.minus_num hK⟩
  rw [hcr, numPieces_pos hc, ← hcr]
  exact h1

/-- a signed number text `f x`, which is `-` in front of the text of the magnitude `nx` when `c` -/
theorem signed {α} {f : α → List Char} {x nx : α} {c : Prop} [Decidable c] (hneg : c → f x = '-' :: f nx)
    (hK : K (.num (String.ofList (f (if c then nx else x)))) = true)
    (hm : ∃ ch r, f (if c then nx else x) = ch :: r ∧ ch ≠ '-') : Sepd S F L (numPieces (f x)) := by
  by_cases hc : c
  · rw [if_pos hc] at hK hm; rw [hneg hc]; exact (W.num hK hm).2
  · rw [if_neg hc] at hK hm; exact (W.num hK hm).1

end SepLaws
end

/-- the text of a C operand -/
abbrev SP := Sepd separated isFirst isLast

theorem isFirst_ok {t} (h : isFirst t = true) : tokOK t = true := by
  simp only [isFirst, Bool.and_eq_true] at h; exact h.1

theorem ne_of_class {f : Char → Bool} {c d : Char} (hc : f c = true) (hd : f d = false) : c ≠ d :=
  fun e => by rw [e, hd] at hc; cases hc

theorem idStart_not_digit {c : Char} (h : isIdStart c = true) : c.isDigit = false := by
  cases hd : c.isDigit with
  | false => rfl
  | true => rw [digit_not_idStart hd] at h; cases h

/-- no two-character punctuator ends in a character of a class that has none of `- = > + & |` -/
theorem class_pend2 {f : Char → Bool} (hf : (f '-' || f '=' || f '>' || f '+' || f '&' || f '|') = false)
    {p c : Char} (h : f c = true) : pend2 p c = none := by
  simp only [Bool.or_eq_false_iff] at hf
  simp [pend2, ne_of_class h hf.1.1.1.1.1, ne_of_class h hf.1.1.1.1.2, ne_of_class h hf.1.1.1.2,
    ne_of_class h hf.1.1.2, ne_of_class h hf.1.2, ne_of_class h hf.2]

/-- after a pending punctuator other than `/` and `.`, a character that ends no two-character
    punctuator may follow -/
theorem sepTok_pend {q : P} {p : Char} (hq : stTok (.p q) = .pend p) (hp1 : p ≠ '/') (hp2 : p ≠ '.')
    {y : Tok} {c cs} (hy : y.text = c :: cs) (hc : pend2 p c = none) : sepTok (.p q) y = true := by
  simp [sepTok, hy, hq, sepChar, hp1, hp2, hc]

/-- … so the first token of an expression text may follow, unless both are `-` -/
theorem sepTok_pend_first {q : P} (p : Char) (hq : stTok (.p q) = .pend p) (hp1 : p ≠ '/') (hp2 : p ≠ '.')
    {y : Tok} (hy : isFirst y = true) (hm : y = .p .minus → p ≠ '-') : sepTok (.p q) y = true := by
  simp only [isFirst, Bool.and_eq_true] at hy
  obtain ⟨hok, h2⟩ := hy
  split at h2
  · obtain ⟨c, cs, ht, hc, _⟩ := tokOK_num hok
    exact sepTok_pend hq hp1 hp2 ht (class_pend2 (by decide +kernel) hc)
  · obtain ⟨c, cs, ht, hc, _⟩ := tokOK_id hok
    exact sepTok_pend hq hp1 hp2 ht (class_pend2 (by decide +kernel) hc)
  · exact sepTok_pend hq hp1 hp2 (c := '-') (cs := []) rfl (by simp [pend2, hm rfl])
  · exact sepTok_pend hq hp1 hp2 (c := '!') (cs := []) rfl (class_pend2 (f := (· == '!')) rfl rfl)
  · exact sepTok_pend hq hp1 hp2 (c := '(') (cs := []) rfl (class_pend2 (f := (· == '(')) rfl rfl)
  · cases h2

theorem tokOK_num_ofList {cs : List Char} (h : numShape cs = true) : tokOK (.num (String.ofList cs)) = true := by
  simp [tokOK, String.toList_ofList, h]

theorem validIdent_tokOK {s : String} (h : validIdent s = true) : tokOK (.id s) = true := by
  simp only [validIdent] at h
  simp only [tokOK]
  cases hl : s.toList with
  | nil => simp [hl] at h
  | cons c cs =>
    simp only [hl, Bool.and_eq_true] at h
    simp [h.1.1, h.1.2]

theorem cLaws : SepLaws separated cBlank tokOK sepTok isFirst isLast where
  eqs := cEqs
  blank_ok := rfl
  first_ok := isFirst_ok
  atom hk h := by obtain ⟨s, rfl | rfl⟩ := h <;> simp [isFirst, isLast, hk]
  lpar := rfl
  minus := rfl
  closing h := by rcases h with rfl | rfl <;> rfl
  closer_ok _ := rfl
  after_open h hy := by rcases h with rfl | rfl <;> exact sepTok_start (by decide +kernel) hy
  before_closer hx hq := by
    simp only [closers, List.mem_cons, List.mem_nil_iff, or_false] at hq
    rcases hq with rfl | rfl | rfl | rfl | rfl | rfl <;> exact sepTok_last hx (cs := []) rfl (by decide +kernel)
  minus_num hk :=
    sepTok_pend_first '-' (by decide +kernel) (by decide) (by decide) (by simp [isFirst, hk]) (fun h => nomatch h)

theorem sp_real {x : Rat} (h : numShape (reprFloat (if x < 0 then -x else x)) = true) :
    SP (numPieces (reprFloat x)) :=
  cLaws.signed reprFloat_neg (tokOK_num_ofList h) (numShape_head h)

theorem startsWith_minus {ps : List Piece} (h : firstP ps = some (.p .minus)) : startsWith '-' ps = true := by
  cases ps with
  | nil => cases h
  | cons q qs =>
    cases q with
    | ws w => cases h
    | t a => cases h; rfl

theorem sp_complex {re im : Rat} (hre : SP (numPieces (reprFloat re))) (him : SP (numPieces (reprFloat im))) :
    SP (cNumber (.litF re im true)) := by
  have hmid := sepd_app3 cEqs (m := [pp .plus, .t (.id "I"), pp .star]) hre him (by decide +kernel)
    (fun x y hx hy => by cases hy; exact cLaws.before_closer hx (by decide))
    (fun x y hx hy => by
      cases hx; exact sepTok_pend_first '*' (by decide +kernel) (by decide) (by decide) hy (fun _ => by decide))
    (fun h => by cases h)
  exact cLaws.paren hmid

theorem sp_neg {ps : List Piece} (b : Bool) (h : SP ps) :
    SP (pp .minus :: parenIf (b || startsWith '-' ps) ps) := by
  refine cLaws.cons rfl (cLaws.parenIf _ h) fun y hF hy => ?_
  refine sepTok_pend_first '-' (by decide +kernel) (by decide) (by decide) hF fun hm => ?_
  subst hm
  cases hpar : (b || startsWith '-' ps) with
  | true => rw [hpar] at hy; cases hy
  | false =>
    rw [hpar] at hy
    have hy' : firstP ps = some (.p .minus) := hy
    rw [startsWith_minus hy', Bool.or_true] at hpar
    cases hpar

theorem piecesNary_eq_map (sc : Scalar) (p : Nat) (args : List Expr) :
    piecesNary sc p args = args.map fun a => parenIf (decide (precF a ≥ p)) (piecesC sc a) := by
  induction args with
  | nil => simp [piecesNary]
  | cons a as ih => simp [piecesNary, ih]

theorem piecesList_eq_map (sc : Scalar) (args : List Expr) : piecesList sc args = args.map (piecesC sc) := by
  induction args with
  | nil => simp [piecesList]
  | cons a as ih => simp [piecesList, ih]

theorem ne_nil_of_not_isEmpty {α} {l : List α} (h : (!l.isEmpty) = true) : l ≠ [] := by
  simpa using h

theorem sp_nary {sc} (o : P) (p : Nat) {args : List Expr} (hne : args ≠ [])
    (hall : ∀ x ∈ args, SP (piecesC sc x)) : SP (joinP [sp, pp o, sp] (piecesNary sc p args)) := by
  rw [piecesNary_eq_map]
  exact cLaws.join_op rfl (mt List.map_eq_nil_iff.1 hne)
    (List.forall_mem_map.2 fun a ha => cLaws.parenIf _ (hall a ha))

theorem sp_call {sc} (f : String) {args : List Expr} (hid : tokOK (.id f) = true) (hne : args ≠ [])
    (hall : ∀ x ∈ args, SP (piecesC sc x)) :
    SP (.t (.id f) :: pp .lpar :: joinP [pp .comma, sp] (piecesList sc args) ++ [pp .rpar]) := by
  rw [piecesList_eq_map]
  exact cLaws.snoc (Or.inl rfl) (cLaws.head hid (Or.inl rfl)
    (cLaws.join_comma (mt List.map_eq_nil_iff.1 hne) (List.forall_mem_map.2 hall)))

theorem sp_idx {sc} (arr : String) {ix : List Expr} (hid : tokOK (.id arr) = true) (hne : ix ≠ [])
    (hall : ∀ x ∈ ix, SP (piecesC sc x)) :
    SP (.t (.id arr) :: pp .lbrack :: joinP [pp .rbrack, pp .lbrack] (piecesList sc ix) ++ [pp .rbrack]) := by
  rw [piecesList_eq_map]
  refine cLaws.snoc (Or.inr rfl) (cLaws.head hid (Or.inr rfl)
    (sepd_join cEqs (by decide +kernel) (List.cons_ne_nil _ _) ?_ ?_ _ (mt List.map_eq_nil_iff.1 hne)
      (List.forall_mem_map.2 hall)))
  · intro x y hx hy; cases hy; exact cLaws.before_closer hx (by decide)
  · intro x y hx hy; cases hx; exact cLaws.after_open (Or.inr rfl) (isFirst_ok hy)

mutual
theorem sp_pieces (sc : Scalar) : ∀ e : Expr, wfC sc e = true → SP (piecesC sc e)
  | .litF re im false, h => sp_real (Bool.and_eq_true_iff.1 h).1
  | .litF re im true, h =>
    have h := Bool.and_eq_true_iff.1 h
    sp_complex (sp_real h.1) (sp_real h.2)
  | .litI v, h => cLaws.signed fmtInt_neg (tokOK_num_ofList h) (numShape_head h)
  | .sym n dt, h => cLaws.single (validIdent_tokOK h) ⟨n, Or.inl rfl⟩
  | .mi s z gi, h => sp_pieces sc gi h
  | .neg a, h => sp_neg _ (sp_pieces sc a h)
  | .not a, h => cLaws.cons rfl (cLaws.parenIf _ (sp_pieces sc a h)) fun _ hF _ =>
    sepTok_pend_first '!' (by decide +kernel) (by decide) (by decide) hF (fun _ => by decide)
  | .bin op a b, h =>
    have h := Bool.and_eq_true_iff.1 h
    cLaws.mid_ws (t := .p (opTok op)) rfl (cLaws.parenIf _ (sp_pieces sc a h.1)) (cLaws.parenIf _ (sp_pieces sc b h.2))
  | .sum args, h =>
    have h := Bool.and_eq_true_iff.1 h
    sp_nary .plus 5 (ne_nil_of_not_isEmpty h.1) (sp_piecesL sc args h.2)
  | .prod args, h =>
    have h := Bool.and_eq_true_iff.1 h
    sp_nary .star 4 (ne_nil_of_not_isEmpty h.1) (sp_piecesL sc args h.2)
  | .call f dt args, h => by
    simp only [wfC, callOK, Bool.and_eq_true, Bool.not_eq_true', List.isEmpty_eq_false_iff] at h
    exact sp_call _ (validIdent_tokOK h.1.1.1.1) h.1.2 (sp_piecesL sc args h.2)
  | .idx arr dt ix, h =>
    have h := Bool.and_eq_true_iff.1 h
    have h1 := Bool.and_eq_true_iff.1 h.1
    sp_idx arr (validIdent_tokOK h1.1) (ne_nil_of_not_isEmpty h1.2) (sp_piecesL sc ix h.2)
  | .cond c t f, h =>
    have h := Bool.and_eq_true_iff.1 h
    have h1 := Bool.and_eq_true_iff.1 h.1
    cLaws.mid_ws (t := .p .colon) rfl (cLaws.mid_ws (t := .p .quest) rfl (cLaws.parenIf _ (sp_pieces sc c h1.1))
      (cLaws.parenIf _ (sp_pieces sc t h1.2))) (cLaws.parenIf _ (sp_pieces sc f h.2))
theorem sp_piecesL (sc : Scalar) : ∀ l : List Expr, wfLC sc l = true → ∀ x ∈ l, SP (piecesC sc x)
  | [], _, _, hx => nomatch hx
  | a :: as, h, x, hx => by
    have h := Bool.and_eq_true_iff.1 h
    rcases List.mem_cons.1 hx with e | hx
    · exact e ▸ sp_pieces sc a h.1
    · exact sp_piecesL sc as h.2 x hx
end

/-- the hypothesis of `lex_render` for every well-formed expression (`no_token_fusion`) -/
theorem separated_pieces (sc : Scalar) (e : Expr) (hwf : wfC sc e = true) :
    separated (piecesC sc e) = true :=
  (sp_pieces sc e hwf).sep

/-! Not used by the rest of the development (`sp_join_first` only by its numba twin, itself unused); kept for
    their own sake. -/

theorem sp_join_first {sepr : List Piece} {x : List Piece} {xs : List (List Piece)} (hx : x ≠ []) :
    firstP (joinP sepr (x :: xs)) = firstP x := by
  cases xs with
  | nil => rfl
  | cons y ys => simp only [joinP]; rw [List.append_assoc, firstP_append _ hx]

theorem isLast_ok {t} (h : isLast t = true) : tokOK t = true := by
  simp only [isLast, Bool.and_eq_true] at h; exact h.1

theorem idStart_ne_slash {c : Char} (h : isIdStart c = true) : c ≠ '/' :=
  ne_of_class h (by decide)

theorem digit_ne_slash {c : Char} (h : c.isDigit = true) : c ≠ '/' :=
  ne_of_class h (by decide)

end Ffcx.LNodes.Fmt
