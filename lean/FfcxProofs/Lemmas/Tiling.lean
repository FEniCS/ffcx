/-
Positions ↔ (block, offset inside the block).  Blocks of equal size: `Ffcx.Lemmas.Geom.pair_lt / pair_inj / pair_surj`
(two-digit mixed radix; row-major flattening and the macro layouts iterate it).  Blocks of unequal size: offsets that
are the prefix sums of the sizes tile `[0, Σ sizes)` (`Tiles.of_prefix_sums`), and `Tiles.index_lt / index_inj /
index_surj` are the same three facts for them; `drop_take_flatten` is the fact at list level (block `t` of a
concatenation).  The rest is about the layout model `FfcxModel/IR/Layout.lean`: its `offsetsFrom` computes prefix sums
(`offsetsFrom_tiles`), and the file ends with the C05 theorem `coeff_blocks_tile` about `coeffOffsets` / `blockSizes`.
-/
import FfcxModel.IR.Layout

namespace Ffcx.Lemmas.Geom

/-- `a` and `b` are quotient and remainder of `a * M + b` -/
theorem pair_inj {M a b a' b' : Nat} (hb : b < M) (hb' : b' < M) (h : a * M + b = a' * M + b') :
    a = a' ∧ b = b' := by
  have h1 := congrArg (· / M) h
  have h2 := congrArg (· % M) h
  simp only [Nat.mul_comm _ M, Nat.mul_add_div (by omega : 0 < M), Nat.mul_add_mod,
    Nat.div_eq_of_lt hb, Nat.div_eq_of_lt hb', Nat.mod_eq_of_lt hb, Nat.mod_eq_of_lt hb',
    Nat.add_zero] at h1 h2
  exact ⟨h1, h2⟩

theorem pair_lt {M K a b : Nat} (ha : a < K) (hb : b < M) : a * M + b < K * M := by
  have h1 : (a + 1) * M ≤ K * M := Nat.mul_le_mul_right M ha
  rw [Nat.add_mul] at h1
  omega

theorem pair_surj {M K k : Nat} (hk : k < K * M) : ∃ a b, a < K ∧ b < M ∧ k = a * M + b := by
  have hM : 0 < M := by
    cases M with
    | zero => simp at hk
    | succ M => omega
  refine ⟨k / M, k % M, ?_, Nat.mod_lt _ hM, ?_⟩
  · exact Nat.div_lt_of_lt_mul (by rw [Nat.mul_comm]; exact hk)
  · rw [Nat.mul_comm]; exact (Nat.div_add_mod k M).symm

end Ffcx.Lemmas.Geom

namespace Ffcx.Layout

theorem sum_take_succ (xs : List Nat) (k : Nat) :
    (xs.take (k + 1)).sum = (xs.take k).sum + xs.getD k 0 := by
  rw [List.take_add_one, List.sum_append_nat, List.getD_eq_getElem?_getD]
  cases xs[k]? <;> rfl

theorem sum_take_le (xs : List Nat) (j k : Nat) (h : j ≤ k) :
    (xs.take j).sum ≤ (xs.take k).sum := by
  obtain ⟨d, rfl⟩ := Nat.le.dest h
  rw [List.take_add, List.sum_append_nat]
  exact Nat.le_add_right _ _

theorem exists_block (xs : List Nat) (x : Nat) (h : x < xs.sum) :
    ∃ k, k < xs.length ∧ (xs.take k).sum ≤ x ∧ x < (xs.take k).sum + xs.getD k 0 := by
  induction xs generalizing x with
  | nil => simp at h
  | cons a l ih =>
    by_cases hx : x < a
    · exact ⟨0, by simp, by simp, by simpa using hx⟩
    · simp only [List.sum_cons] at h
      obtain ⟨k, hk, h1, h2⟩ := ih (x - a) (by omega)
      refine ⟨k + 1, by simpa using hk, ?_, ?_⟩
      · simp only [List.take_succ_cons, List.sum_cons]; omega
      · simp only [List.take_succ_cons, List.sum_cons, List.getD_cons_succ]; omega

theorem drop_take_flatten {β} (segs : List (List β)) (t : Nat) :
    (segs.flatten.drop ((segs.map List.length).take t).sum).take ((segs.map List.length).getD t 0)
      = segs.getD t [] := by
  induction segs generalizing t with
  | nil => simp
  | cons s segs ih =>
    cases t with
    | zero => simp
    | succ t =>
      simp only [List.map_cons, List.take_succ_cons, List.sum_cons, List.flatten_cons, List.getD_cons_succ,
        ← List.drop_drop, List.drop_left]
      exact ih t

@[simp] theorem offsetsFrom_length (s : Nat) (xs : List Nat) :
    (offsetsFrom s xs).length = xs.length := by
  induction xs generalizing s with
  | nil => rfl
  | cons a l ih => simp [offsetsFrom, ih]

theorem offsetsFrom_getD (s : Nat) (xs : List Nat) (k : Nat) (h : k < xs.length) :
    (offsetsFrom s xs).getD k 0 = s + (xs.take k).sum := by
  induction xs generalizing s k with
  | nil => simp at h
  | cons a l ih =>
    cases k with
    | zero => simp [offsetsFrom]
    | succ k =>
      have := ih (s + a) k (by simpa using h)
      simp only [offsetsFrom, List.getD_cons_succ, List.take_succ_cons, List.sum_cons] at this ⊢
      omega

/-- Blocks `[offs[k], offs[k] + sizes[k])`, `k < n`, tile `[0, total)`: pairwise disjoint, in
increasing order, contiguous (no gaps), inside `[0,total)` and covering it.
The fields are the wording of the C05 claim, not a minimal set: `length_eq`, `first`, `contiguous` make `offs` the
prefix sums of `sizes` and `total_eq` fixes `total`; `last`, `ordered`, `inside`, `cover` follow from these four
(`Tiles.of_prefix_sums` is how every `Tiles` is built).  `total` is a parameter all the same so that a statement can
name the extent in its own terms (`width * dims.sum`, `constTotal shapes`). -/
structure Tiles (offs sizes : List Nat) (total : Nat) : Prop where
  length_eq : offs.length = sizes.length
  first : 0 < sizes.length → offs.getD 0 0 = 0
  contiguous : ∀ k, k + 1 < sizes.length → offs.getD (k + 1) 0 = offs.getD k 0 + sizes.getD k 0
  last : ∀ k, k + 1 = sizes.length → offs.getD k 0 + sizes.getD k 0 = total
  ordered : ∀ j k, j < k → k < sizes.length → offs.getD j 0 + sizes.getD j 0 ≤ offs.getD k 0
  inside : ∀ k, k < sizes.length → offs.getD k 0 + sizes.getD k 0 ≤ total
  cover : ∀ x, x < total → ∃ k, k < sizes.length ∧ offs.getD k 0 ≤ x ∧ x < offs.getD k 0 + sizes.getD k 0
  total_eq : total = sizes.sum

theorem Tiles.disjoint {offs sizes : List Nat} {total : Nat} (T : Tiles offs sizes total)
    (j k x : Nat) (hj : j < sizes.length) (hk : k < sizes.length)
    (h1 : offs.getD j 0 ≤ x ∧ x < offs.getD j 0 + sizes.getD j 0)
    (h2 : offs.getD k 0 ≤ x ∧ x < offs.getD k 0 + sizes.getD k 0) : j = k := by
  rcases Nat.lt_trichotomy j k with h | h | h
  · have := T.ordered j k h hk; omega
  · exact h
  · have := T.ordered k j h hj; omega

theorem Tiles.of_prefix_sums {offs sizes : List Nat} (hl : offs.length = sizes.length)
    (o : ∀ k, k < sizes.length → offs.getD k 0 = (sizes.take k).sum) : Tiles offs sizes sizes.sum := by
  refine ⟨hl, fun h => o 0 h, fun k h => ?_, fun k h => ?_, fun j k hjk hk => ?_, fun k hk => ?_,
    fun x hx => ?_, rfl⟩
  · rw [o (k + 1) h, o k (by omega), sum_take_succ]
  · rw [o k (by omega), ← sum_take_succ, h, List.take_length]
  · rw [o j (by omega), o k hk, ← sum_take_succ]
    exact sum_take_le sizes (j + 1) k hjk
  · rw [o k hk, ← sum_take_succ]
    have := sum_take_le sizes (k + 1) sizes.length hk
    rwa [List.take_length] at this
  · obtain ⟨k, hk, h⟩ := exists_block sizes x hx
    exact ⟨k, hk, by rwa [o k hk]⟩

theorem offsetsFrom_tiles (sizes : List Nat) : Tiles (offsetsFrom 0 sizes) sizes sizes.sum :=
  .of_prefix_sums (offsetsFrom_length 0 sizes) fun k hk => by rw [offsetsFrom_getD 0 sizes k hk, Nat.zero_add]

/-! `(k, j) ↦ offs[k] + j`, `j < sizes[k]`, maps the positions of a tiling bijectively onto `[0, total)`: the
counterpart, for blocks of unequal size, of `pair_lt / pair_inj / pair_surj`. -/

theorem Tiles.index_lt {offs sizes : List Nat} {total : Nat} (T : Tiles offs sizes total)
    {k j : Nat} (hk : k < sizes.length) (hj : j < sizes.getD k 0) : offs.getD k 0 + j < total :=
  Nat.lt_of_lt_of_le (Nat.add_lt_add_left hj _) (T.inside k hk)

theorem Tiles.index_inj {offs sizes : List Nat} {total : Nat} (T : Tiles offs sizes total)
    {k j k' j' : Nat} (hk : k < sizes.length) (hk' : k' < sizes.length)
    (hj : j < sizes.getD k 0) (hj' : j' < sizes.getD k' 0)
    (h : offs.getD k 0 + j = offs.getD k' 0 + j') : k = k' ∧ j = j' := by
  obtain rfl := T.disjoint k k' (offs.getD k 0 + j) hk hk' ⟨Nat.le_add_right _ _, Nat.add_lt_add_left hj _⟩
    (h ▸ ⟨Nat.le_add_right _ _, Nat.add_lt_add_left hj' _⟩)
  exact ⟨rfl, Nat.add_left_cancel h⟩

theorem Tiles.index_surj {offs sizes : List Nat} {total : Nat} (T : Tiles offs sizes total)
    {x : Nat} (hx : x < total) : ∃ k j, k < sizes.length ∧ j < sizes.getD k 0 ∧ x = offs.getD k 0 + j := by
  obtain ⟨k, hk, h1, h2⟩ := T.cover x hx
  exact ⟨k, x - offs.getD k 0, hk, Nat.sub_lt_left_of_lt_add h1 h2, (Nat.add_sub_cancel' h1).symm⟩

theorem blockSizes_sum (width : Nat) (dims : List Nat) :
    (blockSizes width dims).sum = width * dims.sum := by
  induction dims with
  | nil => rfl
  | cons a l ih => rw [blockSizes, List.map_cons, List.sum_cons, List.sum_cons, Nat.mul_add, ← ih]; rfl

theorem blockSizes_getD (width : Nat) (dims : List Nat) (k : Nat) :
    (blockSizes width dims).getD k 0 = width * dims.getD k 0 := by
  simp only [blockSizes, List.getD_eq_getElem?_getD, List.getElem?_map]
  cases dims[k]? <;> rfl

/-- C05.  For ANY list of element dimensions and any `width` (the code uses
1, and 2 for interior facets), the blocks `[off_k, off_k + width·dim_k)` that
`_compute_integral_ir` / `_compute_expression_ir` assign to the reduced coefficients are pairwise
disjoint, ordered, contiguous and cover exactly `[0, width·Σdim)`; block `k` has size
`width·dim_k` ("its element dimension, twice that for interior facets"). -/
theorem coeff_blocks_tile (width : Nat) (dims : List Nat) :
    Tiles (coeffOffsets width dims) (blockSizes width dims) (width * dims.sum)
    ∧ (blockSizes width dims).length = dims.length
    ∧ (∀ k, (blockSizes width dims).getD k 0 = width * dims.getD k 0)
    ∧ coeffTotal width dims = width * dims.sum := by
  refine ⟨?_, by simp [blockSizes], blockSizes_getD width dims, blockSizes_sum width dims⟩
  have := offsetsFrom_tiles (blockSizes width dims)
  rw [blockSizes_sum] at this
  exact this

end Ffcx.Layout
