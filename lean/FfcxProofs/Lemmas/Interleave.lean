/-
Every interleaving (order-preserving merge) of two statement sequences whose statements have
pairwise disjoint name-level footprints behaves like running the first sequence and then the second.
-/
import FfcxProofs.Lemmas.Commute
import FfcxProofs.Lemmas.Threads

namespace Ffcx.LNodes
variable {R : Type} [Add R] [Sub R] [Mul R] [Div R] [Neg R] [IntCast R] (x : Extra R)

-- the operation classes on `R` are arguments of this one, though unused
set_option linter.unusedSectionVars false in
theorem ResEq.symm {a b : Except Err (St R)} (h : ResEq a b) : ResEq b a :=
  resEq_iff.2 ((resEq_iff.1 h).symm (fun _ _ _ => trivial) fun _ _ => AgreeOn.symm)

/-- `exec_commute` for `t` and the statement `.block p` -/
theorem hop_over_list (t : Stmt) (p : List Stmt)
    (h1 : ∀ n, mentionsSL n p = true → neverWritten n t = true)
    (h2 : ∀ n, mentionsS n t = true → neverWrittenL n p = true) (σ : St R) :
    ResEq ((exec x t σ).bind (execL x p)) ((execL x p σ).bind (exec x t)) := by
  have : ResEq _ _ := exec_commute x t (.block p)
    (fun n hn => by simpa [neverWritten] using h2 n hn)
    (fun n hn => h1 n (by simpa [mentionsS] using hn)) σ
  simpa [exec] using this

/-- `r` is an order-preserving merge of `p` and `q` -/
inductive Interleave : List Stmt → List Stmt → List Stmt → Prop
  | nil : Interleave [] [] []
  | left (s : Stmt) {p q r : List Stmt} : Interleave p q r → Interleave (s :: p) q (s :: r)
  | right (t : Stmt) {p q r : List Stmt} : Interleave p q r → Interleave p (t :: q) (t :: r)

/-- footprints of the two threads are disjoint at name level: no statement of one writes a name
    a statement of the other mentions -/
def Disjoint (p q : List Stmt) : Prop :=
  (∀ n, mentionsSL n p = true → neverWrittenL n q = true) ∧
  (∀ n, mentionsSL n q = true → neverWrittenL n p = true)

theorem interleave_seq {p q r : List Stmt} (hi : Interleave p q r) (hd : Disjoint p q) (σ : St R) :
    ResEq (execL x r σ) (execL x (p ++ q) σ) := by
  refine resEq_iff.2 ?_
  induction hi generalizing σ with
  | nil => exact .refl (fun _ => trivial) StEq.refl _
  | left s hpr ih =>
    rename_i p' q' r'
    have hd' : Disjoint p' q' := by
      refine ⟨fun n hn => hd.1 n (by simp [mentionsSL, hn]), fun n hn => ?_⟩
      have := hd.2 n hn
      simp [neverWrittenL] at this; exact this.2
    rw [List.cons_append, execL_cons_bind, execL_cons_bind]
    exact .bind_left (fun _ => trivial) _ (ih hd')
  | right t hpr ih =>
    rename_i p' q' r'
    have hd' : Disjoint p' q' := by
      refine ⟨fun n hn => ?_, fun n hn => hd.2 n (by simp [mentionsSL, hn])⟩
      have := hd.1 n hn
      simp [neverWrittenL] at this; exact this.2
    have hop := resEq_iff.1 <| hop_over_list x t p'
      (fun n hn => by have := hd.1 n hn; simp [neverWrittenL] at this; exact this.1)
      (fun n hn => hd.2 n (by simp [mentionsSL, hn])) σ
    have e : execL x (p' ++ t :: q') σ = ((execL x p' σ).bind (exec x t)).bind (execL x q') := by
      rw [execL_append', except_bind_assoc]; congr 1; funext s; exact execL_cons_bind x t q' s
    have e' : (exec x t σ).bind (execL x (p' ++ q')) = ((exec x t σ).bind (execL x p')).bind (execL x q') := by
      rw [except_bind_assoc]; congr 1; funext s; exact execL_append' x p' q' s
    rw [execL_cons_bind, e]
    -- inside, `r'` runs like `p' ++ q'`; then `t` hops over `p'`
    refine (OutRel.bind_left (fun _ => trivial) _ (ih hd')).trans ?_ (fun _ _ _ _ _ => trivial) fun _ _ _ => AgreeOn.trans
    rw [e']
    exact hop.bind fun a b h => (execL_agreeOn x (P := fun _ => True) q' a b (fun _ _ => trivial) h).anyErr

/-- the decidable form of `Disjoint`, over the finitely many names that occur -/
theorem disjoint_of_disjointB (p q : List Stmt) (h : disjointB p q = true) : Disjoint p q := by
  simp only [disjointB, Bool.and_eq_true, List.all_eq_true] at h
  exact ⟨fun n hn => h.1 n (mem_namesSL p hn), fun n hn => h.2 n (mem_namesSL q hn)⟩

end Ffcx.LNodes
