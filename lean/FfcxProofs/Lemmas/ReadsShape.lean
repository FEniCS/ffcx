/-
Read sets are independent of the scalar data and domain: runs from states with the same integer
part and array shapes record the same reads (so they can be computed once over `U`).  `execReads`
returns a state and the reads, so it is not an interpreter in the sense of Lemmas/ExecSim:
`loopReads_sameShape` and `execReads_sameShape` are `loopN_lockstep` and `exec_sim` over again for it,
with `thenReads` (two `bind`s: `thenReads_eq_bind`) for `bind` and `RelReads` (`OutRel Eq` of "same shape and
the same reads": `relReads_iff`) for `OutRel Eq SameShape`; the four storing statements come from
`exec_sameShape`.
-/
import FfcxProofs.Lemmas.SameShape
import FfcxModel.LNodes.Reads

namespace Ffcx.LNodes

/-- `f` after `a`, the recorded reads concatenated: how `execReads` sequences statements -/
def thenReads {R : Type} (a : Except Err (St R × List (Option Int)))
    (f : St R → Except Err (St R × List (Option Int))) : Except Err (St R × List (Option Int)) :=
  match a with
  | .error e => .error e
  | .ok (σ', r) =>
    match f σ' with
    | .error e => .error e
    | .ok (σ'', r') => .ok (σ'', r ++ r')

theorem thenReads_eq_bind {R : Type} (a : Except Err (St R × List (Option Int)))
    (f : St R → Except Err (St R × List (Option Int))) :
    thenReads a f = a.bind fun p => (f p.1).bind fun q => .ok (q.1, p.2 ++ q.2) := by
  obtain _ | ⟨σ, r⟩ := a
  · rfl
  · simp only [thenReads, Except.bind]
    cases f σ <;> rfl

theorem thenReads_eq_ok {R : Type} {a : Except Err (St R × List (Option Int))}
    {f : St R → Except Err (St R × List (Option Int))} {σ₂ : St R} {rs : List (Option Int)}
    (h : thenReads a f = .ok (σ₂, rs)) :
    ∃ σ₁ r₁ r₂, a = .ok (σ₁, r₁) ∧ f σ₁ = .ok (σ₂, r₂) ∧ rs = r₁ ++ r₂ := by
  rw [thenReads_eq_bind] at h
  obtain ⟨⟨σ₁, r₁⟩, h1, h2⟩ := bind_eq_ok.mp h
  obtain ⟨⟨_, r₂⟩, h3, h4⟩ := bind_eq_ok.mp h2
  cases h4
  exact ⟨σ₁, r₁, r₂, h1, h3, rfl⟩

/-- sequencing for "the reads run succeeded, so the plain run does": `a'`, `g` are the plain runs of `a`, `f` -/
theorem thenReads_fst {R : Type} {a : Except Err (St R × List (Option Int))}
    {f : St R → Except Err (St R × List (Option Int))} {a' : Except Err (St R)}
    {g : St R → Except Err (St R)} {σ' : St R} {rs : List (Option Int)} (h : thenReads a f = .ok (σ', rs))
    (ha : ∀ σ₁ r, a = .ok (σ₁, r) → a' = .ok σ₁) (hf : ∀ σ₁ r, f σ₁ = .ok (σ', r) → g σ₁ = .ok σ') :
    a'.bind g = .ok σ' := by
  obtain ⟨σ₁, r₁, r₂, h1, h2, _⟩ := thenReads_eq_ok h
  exact bind_eq_ok.mpr ⟨σ₁, ha σ₁ r₁ h1, hf σ₁ r₂ h2⟩

theorem loopReads_succ {R : Type} (body : St R → Except Err (St R × List (Option Int)))
    (i : String) (lo : Int) (n : Nat) (σ : St R) :
    loopReads body i lo (n + 1) σ
      = thenReads (body (σ.setIV i lo)) (loopReads body i (lo + 1) n) := by
  simp only [loopReads, thenReads]
  rfl

variable {R S : Type}

def RelReads : Except Err (St R × List (Option Int)) → Except Err (St S × List (Option Int)) → Prop
  | .ok (a, r), .ok (b, r') => SameShape a b ∧ r = r'
  | .error e, .error e' => e = e'
  | _, _ => False

theorem relReads_iff {a : Except Err (St R × List (Option Int))} {b : Except Err (St S × List (Option Int))} :
    RelReads a b ↔ OutRel Eq (fun p q => SameShape p.1 q.1 ∧ p.2 = q.2) a b := by
  cases a <;> cases b <;> exact Iff.rfl

theorem RelReads.thenReads {a : Except Err (St R × List (Option Int))}
    {b : Except Err (St S × List (Option Int))} {f : St R → Except Err (St R × List (Option Int))}
    {g : St S → Except Err (St S × List (Option Int))} (h : RelReads a b)
    (hfg : ∀ s t, SameShape s t → RelReads (f s) (g t)) :
    RelReads (Ffcx.LNodes.thenReads a f) (Ffcx.LNodes.thenReads b g) := by
  rw [thenReads_eq_bind, thenReads_eq_bind]
  exact relReads_iff.2 <| (relReads_iff.1 h).bind fun p q hpq =>
    (relReads_iff.1 (hfg _ _ hpq.1)).bind fun p' q' h' => ⟨h'.1, by rw [hpq.2, h'.2]⟩

/-! A storing statement's case of `execReads` unfolds to the `match` of the next two lemmas: the outcome of
`exec` with the reads `r` of the statement attached. -/

theorem leafReads_eq_ok {e : Except Err (St R)} {r rs : List (Option Int)} {σ' : St R}
    (h : (match e with | .error e => Except.error e | .ok σ₁ => Except.ok (σ₁, r)) = .ok (σ', rs)) :
    e = .ok σ' ∧ rs = r := by
  cases e
  · cases h
  · cases h
    exact ⟨rfl, rfl⟩

theorem relReads_of_exec {a : Except Err (St R)} {b : Except Err (St S)}
    (h : OutRel Eq SameShape a b) (r : List (Option Int)) :
    RelReads (match a with | .error e => .error e | .ok σ' => .ok (σ', r))
             (match b with | .error e => .error e | .ok τ' => .ok (τ', r)) := by
  cases a <;> cases b
  · exact h
  · exact h.elim
  · exact h.elim
  · exact ⟨h, rfl⟩

theorem loopReads_sameShape (b1 : St R → Except Err (St R × List (Option Int)))
    (b2 : St S → Except Err (St S × List (Option Int))) (i : String)
    (hb : ∀ σ τ, SameShape σ τ → RelReads (b1 σ) (b2 τ)) :
    ∀ (n : Nat) (lo : Int) (σ : St R) (τ : St S), SameShape σ τ →
      RelReads (loopReads b1 i lo n σ) (loopReads b2 i lo n τ)
  | 0, _, _, _, h => ⟨h, rfl⟩
  | n + 1, lo, σ, τ, h => by
    rw [loopReads_succ, loopReads_succ]
    exact (hb _ _ (h.setIV i lo)).thenReads (loopReads_sameShape b1 b2 i hb n (lo + 1))

variable [Add R] [Sub R] [Mul R] [Div R] [Neg R] [IntCast R]
  [Add S] [Sub S] [Mul S] [Div S] [Neg S] [IntCast S]

theorem execReadsL_cons (x : Extra R) (W : String) (s : Stmt) (ss : List Stmt) (σ : St R) :
    execReadsL x W (s :: ss) σ = thenReads (execReads x W s σ) (execReadsL x W ss) := by
  simp only [execReadsL, thenReads]
  rfl

theorem execReads_sect (x : Extra R) (W n : String) (decls stmts : List Stmt) (i o a : List String)
    (σ : St R) :
    execReads x W (.sect n decls stmts i o a) σ
      = thenReads (execReadsL x W decls σ) (execReadsL x W stmts) := by
  simp only [execReads, thenReads]
  rfl

mutual
theorem execReads_sameShape (x : Extra R) (y : Extra S) (W : String) :
    ∀ (s : Stmt) (σ : St R) (τ : St S), SameShape σ τ →
      RelReads (execReads x W s σ) (execReads y W s τ)
  | .assign .. | .addAssign .. | .vdecl .. | .adecl .. => fun σ τ h => by
    simp only [execReads, h.iv, h.ia]
    exact relReads_of_exec (exec_sameShape x y _ σ τ h) _
  | .forRange i lo hi body => fun σ τ h => by
    simp only [execReads, h.iv, h.ia]
    generalize evalI τ.iv τ.ia lo = l
    generalize evalI τ.iv τ.ia hi = u
    obtain _ | l := l
    · rfl
    obtain _ | u := u
    · rfl
    exact loopReads_sameShape _ _ i (fun a b hab => execReadsL_sameShape x y W body a b hab) _ _ σ τ h
  | .comment _ => fun σ τ h => by simp only [execReads]; exact ⟨h, rfl⟩
  | .block ss => fun σ τ h => by simpa only [execReads] using execReadsL_sameShape x y W ss σ τ h
  | .sect _ decls stmts _ _ _ => fun σ τ h => by
    rw [execReads_sect, execReads_sect]
    exact (execReadsL_sameShape x y W decls σ τ h).thenReads
      fun a b hab => execReadsL_sameShape x y W stmts a b hab

theorem execReadsL_sameShape (x : Extra R) (y : Extra S) (W : String) :
    ∀ (ss : List Stmt) (σ : St R) (τ : St S), SameShape σ τ →
      RelReads (execReadsL x W ss σ) (execReadsL y W ss τ)
  | [] => fun σ τ h => by simp only [execReadsL]; exact ⟨h, rfl⟩
  | s :: ss => fun σ τ h => by
    rw [execReadsL_cons, execReadsL_cons]
    exact (execReads_sameShape x y W s σ τ h).thenReads
      fun a b hab => execReadsL_sameShape x y W ss a b hab
end

end Ffcx.LNodes
