/-
Loop fusion: `for i∈[a,b) {B}; for i∈[a,b) {C}` ≈ `for i∈[a,b) {B; C}` (any trip count), for loops
that touch disjoint names up to dead indices (`commB` of the two LOOPS, a condition on names: it
does not see which entries of an array an iteration touches, so `C` may not read an array `B`
writes); and the model of `fuse_loops`.
-/
import FfcxProofs.Lemmas.OptFuseSections

namespace Ffcx.LNodes
open Ffcx.LNodes.Opt
variable {R : Type} [Add R] [Sub R] [Mul R] [Div R] [Neg R] [IntCast R] (x : Extra R)

/-- the footprint conditions of a literal-bound loop do not depend on the bounds -/
theorem commB_loop_lit (Dl : List String) (i : String) (a b c d : Int) (B C : List Stmt) :
    commB Dl (.forRange i (.litI a) (.litI b) B) (.forRange i (.litI c) (.litI d) C) =
    commB Dl (loop0 i B) (loop0 i C) := by
  have h : commAt Dl (.forRange i (.litI a) (.litI b) B) (.forRange i (.litI c) (.litI d) C) =
      commAt Dl (loop0 i B) (loop0 i C) := by
    funext n
    simp [commAt, loop0, freeS, neverWritten, mentionsS, noStore, mentionsE]
  simp [commB, h, loop0, namesS, namesE]

theorem freeSL_loop_lit (m i : String) (a b : Int) (C : List Stmt) :
    freeSL m [.forRange i (.litI a) (.litI b) C] = freeSL m [loop0 i C] := by
  simp [freeSL, freeS, loop0, mentionsE]

/-- Induction on the trip count: the first iteration is peeled off both loops, and the one of `C`
    hops over the remaining `B`-loop (both seen as statements with literal bounds: `commB_sound`). -/
theorem loopN_fuse (Dl : List String) (i : String) (B C : List Stmt)
    (hBi : neverWrittenL i B = true)
    (hcomm : commB Dl (loop0 i B) (loop0 i C) = true)
    (hdC : DeadFree Dl [loop0 i C]) :
    ∀ (n : Nat) (lo : Int) (σ : St R),
      ObsRes (fun m => m ∈ Dl)
        ((loopN (execL x B) i lo n σ).bind (loopN (execL x C) i lo n))
        (loopN (execL x (B ++ C)) i lo n σ)
  | 0, lo, σ => by simp [loopN, Except.bind, ObsRes.refl]
  | n + 1, lo, σ => by
    -- as statements: the remaining B-loop, one iteration of C at `lo`, the remaining C-loop
    let S1 : Stmt := .forRange i (.litI (lo + 1)) (.litI (lo + 1 + n)) B
    let S2 : Stmt := .forRange i (.litI lo) (.litI (lo + 1)) C
    let S3 : Stmt := .forRange i (.litI (lo + 1)) (.litI (lo + 1 + n)) C
    have h1 : loopN (execL x B) i (lo + 1) n = exec x S1 := loopN_eq_exec x i (lo + 1) n B
    have h3 : loopN (execL x C) i (lo + 1) n = exec x S3 := loopN_eq_exec x i (lo + 1) n C
    have h2 : ∀ s : St R, execL x C (s.setIV i lo) = exec x S2 s := fun s => by
      rw [← loopN_one (execL x C)]; exact congrFun (loopN_eq_exec x i lo 1 C) s
    let σ0 := σ.setIV i lo
    -- left-hand side: B at `lo`, the remaining B-loop, C at `lo`, the remaining C-loop
    have lhs : (loopN (execL x B) i lo (n + 1) σ).bind (loopN (execL x C) i lo (n + 1)) =
        (execL x B σ0).bind (fun s => ((exec x S1 s).bind (exec x S2)).bind (exec x S3)) := by
      rw [loopN_succ_bind, except_bind_assoc, h1]
      congr 1; funext s
      rw [except_bind_assoc]
      congr 1; funext t
      rw [loopN_succ_bind, h2, h3]
    -- right-hand side: B at `lo`, C at `lo` (B leaves `i` alone), the fused rest
    have rhs : loopN (execL x (B ++ C)) i lo (n + 1) σ =
        (execL x B σ0).bind (fun s => (exec x S2 s).bind (loopN (execL x (B ++ C)) i (lo + 1) n)) := by
      rw [loopN_succ_bind, ← except_bind_assoc]
      congr 1
      show execL x (B ++ C) σ0 = _
      rw [execL_append']
      cases hB : execL x B σ0 with
      | error e => rfl
      | ok σ1 =>
        have : σ1.iv.get i = some lo := by
          rw [(execL_sameAt x i B σ0 σ1 hBi hB).iv]; simp [σ0, St.setIV]
        show execL x C σ1 = exec x S2 σ1
        rw [← h2, setIV_same σ1 i lo this]
    rw [lhs, rhs]
    refine ObsRes.bind_left _ (fun s => ?_)
    have hd3 : DeadFree Dl [S3] := fun m hm => hdC m (by simpa only [S3, freeSL_loop_lit] using hm)
    have c := ObsRes.bind_execL x
      (commB_sound x Dl S1 S2 (by simp only [S1, S2, commB_loop_lit]; exact hcomm) s) [S3] hd3
    rw [show execL x [S3] = exec x S3 from funext (execL_singleton x S3)] at c
    refine c.trans ?_
    rw [except_bind_assoc, ← h1, ← h3]
    exact ObsRes.bind_left _ (fun t => loopN_fuse Dl i B C hBi hcomm hdC n (lo + 1) t)

/-- both bounds are integer literals: then `pyEq` keys are equal keys -/
def LitKey (k : LoopKey) : Prop := ∃ a b, k.2 = (Expr.litI a, Expr.litI b)

theorem litKey_of_litLoop {i : String} {lo hi : Expr} {body : List Stmt}
    (h : litLoop (.forRange i lo hi body) = true) : LitKey (i, lo, hi) := by
  cases lo with
  | litI a =>
    cases hi with
    | litI b => exact ⟨a, b, rfl⟩
    | _ => cases h
  | _ => cases h

theorem pyEq_litI_right {e : Expr} {a : Int} (h : pyEq e (.litI a) = true) : e = .litI a := by
  cases e <;> simp [pyEq] at h
  exact congrArg _ h

theorem keyEq_lit {k k' : LoopKey} (h : LitKey k) (he : keyEq k' k = true) : k' = k := by
  obtain ⟨i, lo, hi⟩ := k
  obtain ⟨i', lo', hi'⟩ := k'
  obtain ⟨a, b, h⟩ := h
  cases h
  simp only [keyEq, Bool.and_eq_true, beq_iff_eq] at he
  rw [he.1.1, pyEq_litI_right he.1.2, pyEq_litI_right he.2]

/-- appending a body to its group puts the loop into the flat list right in front of the later
    groups -/
theorem flatLoops_insert (k : LoopKey) (body : List Stmt) (hk : LitKey k) :
    ∀ (loops : List (LoopKey × List (List Stmt))),
    ∃ A, flatLoops loops = A ++ laterGroups k loops ∧
      flatLoops (insertLoop k body loops) =
        A ++ .forRange k.1 k.2.1 k.2.2 body :: laterGroups k loops
  | [] => ⟨[], rfl, by simp [insertLoop, flatLoops, groupStmts, laterGroups]⟩
  | (k', bs) :: r => by
    by_cases he : keyEq k' k = true
    · have hkk : k' = k := keyEq_lit hk he
      subst hkk
      exact ⟨groupStmts (k', bs), by simp [flatLoops, laterGroups, he],
        by simp [insertLoop, flatLoops, laterGroups, he, groupStmts]⟩
    · have he' : keyEq k' k = false := by simpa using he
      obtain ⟨A, h1, h2⟩ := flatLoops_insert k body hk r
      exact ⟨groupStmts (k', bs) ++ A, by simp [flatLoops, laterGroups, he', h1],
        by simp [insertLoop, flatLoops, laterGroups, he', h2]⟩

theorem splitLoops_nonloop (s : Stmt) (r out : List Stmt) (loops : List (LoopKey × List (List Stmt)))
    (hs : ∀ i lo hi b, s ≠ .forRange i lo hi b) :
    splitLoops (s :: r) out loops = splitLoops r (out ++ [s]) loops := by
  cases s <;> simp [splitLoops]
  exact absurd rfl (hs _ _ _ _)

theorem flScanCert_nonloop (Dl : List String) (s : Stmt) (r : List Stmt)
    (loops : List (LoopKey × List (List Stmt))) (hs : ∀ i lo hi b, s ≠ .forRange i lo hi b) :
    flScanCert Dl (s :: r) loops = (hopB Dl s (flatLoops loops) && flScanCert Dl r loops) := by
  cases s <;> simp [flScanCert]
  exact absurd rfl (hs _ _ _ _)

theorem insertLoop_inv (k : LoopKey) (body : List Stmt) (hk : LitKey k) :
    ∀ (loops : List (LoopKey × List (List Stmt))),
    (∀ g, g ∈ loops → LitKey g.1 ∧ g.2 ≠ []) →
    ∀ g, g ∈ insertLoop k body loops → LitKey g.1 ∧ g.2 ≠ []
  | [], _, g, hg => by simp [insertLoop] at hg; subst hg; exact ⟨hk, by simp⟩
  | (k', bs) :: r, hl, g, hg => by
    by_cases he : keyEq k' k = true
    · simp only [insertLoop, he, if_true, List.mem_cons] at hg
      rcases hg with rfl | hg
      · exact ⟨(hl (k', bs) (by simp)).1, by simp⟩
      · exact hl g (by simp [hg])
    · have he' : keyEq k' k = false := by simpa using he
      simp only [insertLoop, he', Bool.false_eq_true, if_false, List.mem_cons] at hg
      rcases hg with rfl | hg
      · exact hl _ (by simp)
      · exact insertLoop_inv k body hk r (fun g hg => hl g (by simp [hg])) g hg

theorem fuseBodies_flatten : ∀ (bodies : List (List Stmt)) (body : List Stmt),
    fuseBodies bodies = .ok body → body = bodies.flatten
  | [], body, h => by simp [fuseBodies] at h; subst h; rfl
  | b :: bs, body, h => by
    rw [fuseBodies] at h
    obtain ⟨s, h1, h⟩ := bind_eq_ok.mp h
    obtain ⟨rbody, h2, h⟩ := bind_eq_ok.mp h
    cases h
    rcases asStatement_ok h1 with ⟨_, hne⟩ | hb
    · exact absurd rfl (hne b)
    · cases hb
      simp [fuseBodies_flatten bs rbody h2]

theorem fuseLoops_ok {s s' : Stmt} (h : fuseLoops s = .ok s') :
    ∃ name decls stmts inp out ann nonloops loops fused stmts' out',
      s = .sect name decls stmts inp out ann ∧ splitLoops stmts [] [] = .ok (nonloops, loops) ∧
      buildLoops loops = .ok fused ∧ asStatements (nonloops ++ fused) = .ok stmts' ∧
      s' = .sect name decls stmts' inp out' [] := by
  cases s with
  | sect name decls stmts inp out ann =>
    rw [fuseLoops] at h
    obtain ⟨⟨nonloops, loops⟩, h1, h⟩ := bind_eq_ok.mp h
    obtain ⟨fused, h2, h⟩ := bind_eq_ok.mp h
    obtain ⟨stmts', out', h3, rfl⟩ := mkSection_ok h
    exact ⟨_, _, _, _, _, _, _, _, _, _, _, rfl, h1, h2, h3, rfl⟩
  | _ => cases h

variable {x} {Dl : List String}

/-- two adjacent loops over the same literal range fuse.  The certificate asks `commB` of the loops
    with bounds `0, 0` (`loop0`): literal bounds mention nothing, so they do not matter
    (`commB_loop_lit`). -/
theorem Rw.fuse (i : String) (a b : Int) (B C : List Stmt) (hBi : neverWrittenL i B = true)
    (hcomm : commB Dl (loop0 i B) (loop0 i C) = true) :
    Rw x Dl [.forRange i (.litI a) (.litI b) B, .forRange i (.litI a) (.litI b) C]
      [.forRange i (.litI a) (.litI b) (B ++ C)] := fun hd =>
  ⟨hd.of_sub fun m hm => by
      simpa [freeSL, freeS, mentionsE, freeSL_append, Bool.and_or_distrib_left] using hm,
    fun σ => by
      have hdC : DeadFree Dl [loop0 i C] := hd.of_sub fun m hm => by
        simp only [freeSL, freeS, mentionsE, loop0, Bool.or_false, Bool.false_or] at hm ⊢
        exact Bool.or_eq_true _ _ ▸ Or.inr hm
      rw [execL_cons_bind, funext (execL_singleton x _), execL_singleton, exec_for_lit, exec_for_lit,
        funext (exec_for_lit x i a b C)]
      exact loopN_fuse x Dl i B C hBi hcomm hdC _ a σ⟩

theorem group_fuse (i : String) (a b : Int) : ∀ (bs : List (List Stmt)) (acc : List Stmt),
    fuseGroupCert Dl i acc bs = true →
    Rw x Dl (.forRange i (.litI a) (.litI b) acc :: bs.map (fun c => Stmt.forRange i (.litI a) (.litI b) c))
      [.forRange i (.litI a) (.litI b) (acc ++ bs.flatten)]
  | [], acc, _ => by simpa using Rw.refl _
  | c :: bs, acc, hc => by
    simp only [fuseGroupCert, Bool.and_eq_true] at hc
    simpa using ((Rw.fuse i a b acc c hc.1.1 hc.1.2).append_right _).trans
      (group_fuse i a b bs (acc ++ c) hc.2)

/-- a loop taken from the rest hops left to the end of its group -/
theorem insert_hop (i : String) (lo hi : Expr) (body : List Stmt) (hk : LitKey (i, lo, hi))
    (loops : List (LoopKey × List (List Stmt))) (q : List Stmt)
    (hh : hopB Dl (.forRange i lo hi body) (laterGroups (i, lo, hi) loops) = true) :
    Rw x Dl (flatLoops loops ++ .forRange i lo hi body :: q)
      (flatLoops (insertLoop (i, lo, hi) body loops) ++ q) := by
  obtain ⟨A, h1, h2⟩ := flatLoops_insert (i, lo, hi) body hk loops
  rw [h1, h2]
  simpa using (Rw.hop (.forRange i lo hi body) _ q hh).append_left A

/-- The scan `splitLoops` of `fuse_loops` over the statements `rest`: `out` the non-loops and
    `loops` the loop bodies grouped by key, as collected so far.  `out ++ flatLoops loops ++ rest`
    is rewritten to `out' ++ flatLoops loops'`, the result of the scan (a statement taken from `rest`
    hops left to its place, licensed by `flScanCert`); every group stays non-empty with literal
    bounds. -/
theorem fl_scan : ∀ (rest out : List Stmt)
    (loops : List (LoopKey × List (List Stmt))) (out' : List Stmt)
    (loops' : List (LoopKey × List (List Stmt))),
    splitLoops rest out loops = .ok (out', loops') →
    flScanCert Dl rest loops = true → rest.all litLoop = true →
    (∀ g, g ∈ loops → LitKey g.1 ∧ g.2 ≠ []) →
    (∀ g, g ∈ loops' → LitKey g.1 ∧ g.2 ≠ []) ∧
    Rw x Dl (out ++ (flatLoops loops ++ rest)) (out' ++ flatLoops loops')
  | [], out, loops, out', loops', h, _, _, hl => by
    simp [splitLoops] at h
    obtain ⟨rfl, rfl⟩ := h
    exact ⟨hl, by simpa using Rw.refl _⟩
  | s :: r, out, loops, out', loops', h, hc, hlit, hl => by
    simp only [List.all_cons, Bool.and_eq_true] at hlit
    by_cases hs : ∃ i lo hi b, s = .forRange i lo hi b
    · obtain ⟨i, lo, hi, body, rfl⟩ := hs
      have hk : LitKey (i, lo, hi) := litKey_of_litLoop hlit.1
      have hhash : (hashable lo && hashable hi) = true := by
        obtain ⟨a, b, e⟩ := hk; cases e; rfl
      simp only [splitLoops, hhash, if_true] at h
      simp only [flScanCert, Bool.and_eq_true] at hc
      obtain ⟨r1, r2⟩ := fl_scan r out (insertLoop (i, lo, hi) body loops) out' loops' h hc.2
        hlit.2 (insertLoop_inv (i, lo, hi) body hk loops hl)
      exact ⟨r1, .trans (by simpa using
        (insert_hop i lo hi body hk loops r hc.1).append_left out) r2⟩
    · have hs' : ∀ i lo hi b, s ≠ .forRange i lo hi b := fun i lo hi b e => hs ⟨i, lo, hi, b, e⟩
      rw [splitLoops_nonloop s r out loops hs'] at h
      rw [flScanCert_nonloop Dl s r loops hs', Bool.and_eq_true] at hc
      obtain ⟨r1, r2⟩ := fl_scan r (out ++ [s]) loops out' loops' h hc.2 hlit.2 hl
      exact ⟨r1, .trans (by simpa using (Rw.hop s (flatLoops loops) r hc.1).append_left out) r2⟩

theorem groups_fuse : ∀ (loops : List (LoopKey × List (List Stmt))) (fused : List Stmt),
    buildLoops loops = .ok fused → loops.all (groupCert Dl) = true →
    (∀ g, g ∈ loops → LitKey g.1 ∧ g.2 ≠ []) → Rw x Dl (flatLoops loops) fused
  | [], fused, h, _, _ => by simp [buildLoops] at h; subst h; exact .refl _
  | ((i, lo, hi), bodies) :: r, fused, h, hc, hl => by
    rw [buildLoops] at h
    obtain ⟨body, h1, h⟩ := bind_eq_ok.mp h
    obtain ⟨rest, h2, h⟩ := bind_eq_ok.mp h
    cases h
    cases fuseBodies_flatten bodies body h1
    have hg := hl ((i, lo, hi), bodies) (by simp)
    simp only [List.all_cons, Bool.and_eq_true] at hc
    obtain ⟨a, b, hab⟩ := hg.1
    cases hab
    cases bodies with
    | nil => exact absurd rfl hg.2
    | cons b1 bs =>
      simpa [flatLoops, groupStmts] using
        ((group_fuse i a b bs b1 hc.1).append_right (flatLoops r)).trans
          ((groups_fuse r rest h2 hc.2 fun g hg => hl g (by simp [hg])).cons _)

variable (x) in
/-- The declarations run first in both sections and `asStatements` changes nothing; on the statements
    the pass is a chain of `Rw` steps: `fl_scan` sorts them into non-loops and groups of loops (hops),
    `groups_fuse` fuses each group. -/
theorem fuse_loops_model_sound (Dl : List String) (s s' : Stmt) (h : fuseLoops s = .ok s')
    (hc : flCert Dl s = true) (σ : St R) :
    ObsRes (fun m => m ∈ Dl) (exec x s σ) (exec x s' σ) := by
  obtain ⟨name, decls, stmts, inp, out, ann, nonloops, loops, fused, stmts'', out', rfl, h1, h2, h3,
    rfl⟩ := fuseLoops_ok h
  simp only [flCert, h1, Bool.and_eq_true] at hc
  rw [exec_sect_eq_bind, exec_sect_eq_bind]
  refine ObsRes.bind_left _ (fun τ => ?_)
  obtain ⟨r1, r2⟩ := fl_scan (x := x) stmts [] [] nonloops loops h1 hc.1.2 hc.1.1.2 (by simp)
  rw [asStatements_execL x h3 τ]
  exact (Rw.trans (by simpa [flatLoops] using r2)
    ((groups_fuse loops fused h2 hc.2 r1).append_left nonloops)).obsRes hc.1.1.1 τ

end Ffcx.LNodes
