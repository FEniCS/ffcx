/-
Frame lemma (writes): an array / scalar that is never an assignment target and never
(re)declared has the same contents after `exec`; integer arrays are never written at all.
-/
import FfcxProofs.Lemmas.ExecSim
import FfcxModel.LNodes.Static

namespace Ffcx.LNodes
variable {R : Type}

/-- the parts of the state that `n` names are untouched, and integer arrays are untouched -/
structure SameAt (n : String) (σ σ' : St R) : Prop where
  sa : σ'.sa.get n = σ.sa.get n
  sv : σ'.sv.get n = σ.sv.get n
  iv : σ'.iv.get n = σ.iv.get n
  ia : σ'.ia = σ.ia

theorem SameAt.refl (n : String) (σ : St R) : SameAt n σ σ := ⟨rfl, rfl, rfl, rfl⟩

theorem SameAt.trans {n : String} {a b c : St R} (h1 : SameAt n a b) (h2 : SameAt n b c) :
    SameAt n a c := ⟨h2.sa.trans h1.sa, h2.sv.trans h1.sv, h2.iv.trans h1.iv, h2.ia.trans h1.ia⟩

theorem SameAt.setIV {n m : String} (hm : m ≠ n) (σ : St R) (v : Int) : SameAt n σ (σ.setIV m v) :=
  ⟨rfl, rfl, AList.get_set_ne _ _ _ _ hm, rfl⟩

theorem SameAt.setSV {n m : String} (hm : m ≠ n) (σ : St R) (v : R) : SameAt n σ (σ.setSV m v) :=
  ⟨rfl, AList.get_set_ne _ _ _ _ hm, rfl, rfl⟩

theorem SameAt.setSA {n m : String} (hm : m ≠ n) (σ : St R) (a : Arr R) : SameAt n σ (σ.setSA m a) :=
  ⟨AList.get_set_ne _ _ _ _ hm, rfl, rfl, rfl⟩

variable [Add R] [Sub R] [Mul R] [Div R] [Neg R] [IntCast R] (x : Extra R)

/-- the name an lvalue writes is not `n` -/
def WritesOther (n : String) : Expr → Prop
  | .idx arr _ _ => arr ≠ n
  | .sym m _ => m ≠ n
  | _ => True

omit [Add R] [Sub R] [Mul R] [Div R] [Neg R] in
theorem store_sameAt (n : String) (σ σ' : St R) (lhs : Expr) (f : R → R) (hl : WritesOther n lhs)
    (h : store x σ lhs f = .ok σ') : SameAt n σ σ' := by
  obtain ⟨m, dt, v, rfl, _, rfl⟩ | ⟨arr, dt, ix, a, k, rfl, _, _, rfl⟩ := store_ok_cases x h
  · exact .setSV hl σ _
  · exact .setSA hl σ _

theorem neverWritten_target {n : String} (l r : Expr) :
    (neverWritten n (.assign l r) = true ↔ WritesOther n l) ∧
    (neverWritten n (.addAssign l r) = true ↔ WritesOther n l) := by
  cases l
  case sym m dt => simp only [WritesOther, neverWritten, bne_iff_ne, ne_eq, and_self]
  case idx arr dt ix => simp only [WritesOther, neverWritten, bne_iff_ne, ne_eq, and_self]
  all_goals exact ⟨⟨fun _ => trivial, fun _ => rfl⟩, ⟨fun _ => trivial, fun _ => rfl⟩⟩

theorem neverWritten_target_of_not_mentions {n : String} {l : Expr} (r : Expr)
    (h : mentionsE n l = false) :
    neverWritten n (.assign l r) = true ∧ neverWritten n (.addAssign l r) = true := by
  cases l with
  | sym m dt =>
    simp only [mentionsE] at h
    simp only [neverWritten, bne, h, Bool.not_false, and_self]
  | idx arr dt ix =>
    simp only [mentionsE, Bool.or_eq_false_iff] at h
    simp only [neverWritten, bne, h.1, Bool.not_false, and_self]
  | _ => exact ⟨rfl, rfl⟩

theorem neverWritten_closed (n : String) :
    SubClosed (neverWritten n · = true) (neverWrittenL n · = true) where
  cons h := by simpa only [neverWrittenL, Bool.and_eq_true] using h
  block h := by simpa only [neverWritten] using h
  sect h := by simpa only [neverWritten, Bool.and_eq_true] using h
  body h := by simp only [neverWritten, Bool.and_eq_true] at h; exact h.2

theorem leaf_sameAt (n : String) {s : Stmt} (hl : Leaf s) (hs : neverWritten n s = true)
    (σ σ' : St R) (h : exec x s σ = .ok σ') : SameAt n σ σ' := by
  cases hl with
  | assign l r =>
    simp only [exec] at h
    exact store_sameAt x n σ σ' l _ ((neverWritten_target l r).1.1 hs) (ite_eq_of_else_ne h nofun).2
  | addAssign l r =>
    simp only [exec] at h
    exact store_sameAt x n σ σ' l _ ((neverWritten_target l r).2.1 hs) (ite_eq_of_else_ne h nofun).2
  | vdecl m dt v =>
    simp only [neverWritten, bne_iff_ne, ne_eq] at hs
    obtain ⟨k, rfl⟩ | ⟨r, rfl⟩ := vdecl_ok_cases x h
    · exact .setIV hs σ k
    · exact .setSV hs σ r
  | adecl m dt sizes c vals =>
    simp only [neverWritten, bne_iff_ne, ne_eq] at hs
    obtain ⟨a, rfl⟩ := adecl_ok_cases x h
    exact .setSA hs σ a

/-- `SameAt n σ ·` is an invariant of the rest of the run -/
theorem exec_sameAt (n : String) (s : Stmt) (σ σ' : St R) (hs : neverWritten n s = true)
    (h : exec x s σ = .ok σ') : SameAt n σ σ' :=
  exec_inv (interp_exec x) (neverWritten_closed n)
    (fun hl hs a b ha hab => ha.trans (leaf_sameAt x n hl hs a b hab))
    (fun hs a v ha => by
      simp only [neverWritten, Bool.and_eq_true, bne_iff_ne, ne_eq] at hs
      exact ha.trans (.setIV hs.1 a v)) s σ σ' hs (.refl n σ) h

theorem execL_sameAt (n : String) (ss : List Stmt) (σ σ' : St R) (hs : neverWrittenL n ss = true)
    (h : execL x ss σ = .ok σ') : SameAt n σ σ' :=
  exec_sameAt x n (.block ss) σ σ' (by simpa only [neverWritten] using hs)
    (by simpa only [exec] using h)

end Ffcx.LNodes
