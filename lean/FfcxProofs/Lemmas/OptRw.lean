/-
Rewriting of part lists up to dead integer variables.  `Rw x Dl a b`: in any part list that reads no
name of `Dl` free, `b` may stand for `a`.  The relation carries the side condition (`DeadFree`) with
it, so that a pass is a chain of steps (`trans`) inside contexts (`append_left`, `append_right`)
each justified by a rule, with no bookkeeping of what reads which dead name.  The rules here:
`of_eq` (lists that run alike), `swap` (two commuting statements) and `hop`, derived from it; the
passes add their own (`Rw.sect`, `Rw.fused` in OptFuseSections, `Rw.fuse` in OptFuseLoops).
-/
import FfcxProofs.Lemmas.OptObs

namespace Ffcx.LNodes
open Ffcx.LNodes.Opt
variable {R : Type} [Add R] [Sub R] [Mul R] [Div R] [Neg R] [IntCast R] (x : Extra R)

theorem bind_ok (r : Except Err (St R)) : r.bind Except.ok = r := by cases r <;> rfl

theorem execL_pair (a t : Stmt) (σ : St R) : execL x [a, t] σ = (exec x a σ).bind (exec x t) :=
  (execL_cons_cons x a t [] σ).trans (bind_ok _)

theorem freeSL_append (n : String) (a b : List Stmt) :
    freeSL n (a ++ b) = (freeSL n a || freeSL n b) := by
  induction a with
  | nil => simp [freeSL]
  | cons s ss ih => simp [freeSL, ih, Bool.or_assoc]

/-- no name of `Dl` is read free (in the form in which `ObsRes.bind_execL` asks for it) -/
def DeadFree (Dl : List String) (ss : List Stmt) : Prop := ∀ n, freeSL n ss = true → n ∉ Dl

theorem deadFree_append {Dl : List String} {a b : List Stmt} :
    DeadFree Dl (a ++ b) ↔ DeadFree Dl a ∧ DeadFree Dl b := by
  simp only [DeadFree, freeSL_append, Bool.or_eq_true]
  exact ⟨fun h => ⟨fun n hn => h n (.inl hn), fun n hn => h n (.inr hn)⟩,
    fun h n hn => hn.elim (h.1 n) (h.2 n)⟩

theorem deadOK_iff (Dl : List String) (ss : List Stmt) : deadOK Dl ss = true ↔ DeadFree Dl ss := by
  simp only [deadOK, List.all_eq_true, Bool.not_eq_true']
  exact ⟨fun h n hn hd => Bool.eq_false_iff.1 (h n hd) hn,
    fun h n hd => Bool.eq_false_iff.2 fun hn => h n hn hd⟩

theorem DeadFree.of_sub {Dl : List String} {a b : List Stmt}
    (hf : ∀ n, freeSL n b = true → freeSL n a = true) (h : DeadFree Dl a) : DeadFree Dl b :=
  fun n hn => h n (hf n hn)

/-- `b` may stand for `a` in a part list that reads no dead name free: it reads none either, and
    runs like `a` up to the dead integer variables -/
def Rw (Dl : List String) (a b : List Stmt) : Prop :=
  DeadFree Dl a → DeadFree Dl b ∧ ∀ σ : St R, ObsRes (fun n => n ∈ Dl) (execL x a σ) (execL x b σ)

-- `x` is implicit for the rules, which carry it in `Rw x Dl a b` (also in OptFuseSections and
-- OptFuseLoops; the last theorem of OptFuseLoops, about `exec x`, makes it explicit again)
variable {x} {Dl : List String}

theorem Rw.refl (a : List Stmt) : Rw x Dl a a := fun h => ⟨h, fun _ => ObsRes.refl _⟩

theorem Rw.trans {a b c : List Stmt} (h1 : Rw x Dl a b) (h2 : Rw x Dl b c) : Rw x Dl a c :=
  fun h => ⟨(h2 (h1 h).1).1, fun σ => ((h1 h).2 σ).trans ((h2 (h1 h).1).2 σ)⟩

theorem Rw.of_eq {a b : List Stmt} (he : ∀ σ : St R, execL x a σ = execL x b σ)
    (hf : ∀ n, freeSL n b = true → freeSL n a = true) : Rw x Dl a b :=
  fun h => ⟨h.of_sub hf, fun σ => ObsRes.of_eq (he σ)⟩

theorem Rw.append_left (pre : List Stmt) {a b : List Stmt} (h : Rw x Dl a b) :
    Rw x Dl (pre ++ a) (pre ++ b) := fun hd => by
  have ⟨hp, ha⟩ := deadFree_append.1 hd
  refine ⟨deadFree_append.2 ⟨hp, (h ha).1⟩, fun σ => ?_⟩
  rw [execL_append', execL_append']
  exact ObsRes.bind_left _ (h ha).2

theorem Rw.cons (s : Stmt) {a b : List Stmt} (h : Rw x Dl a b) : Rw x Dl (s :: a) (s :: b) :=
  h.append_left [s]

/-- what follows must not read a dead name free: it starts in states that differ there -/
theorem Rw.append_right {a b : List Stmt} (h : Rw x Dl a b) (q : List Stmt) :
    Rw x Dl (a ++ q) (b ++ q) := fun hd => by
  have ⟨ha, hq⟩ := deadFree_append.1 hd
  refine ⟨deadFree_append.2 ⟨(h ha).1, hq⟩, fun σ => ?_⟩
  rw [execL_append', execL_append']
  exact ObsRes.bind_execL x ((h ha).2 σ) q hq

/-- two statements change places when `commB` holds: neither writes a name the other reads free, and
    a name both write is a dead loop index -/
theorem Rw.swap {a t : Stmt} (h : commB Dl a t = true) : Rw x Dl [a, t] [t, a] := fun hd =>
  ⟨(deadFree_append (a := [t]) (b := [a])).2 ((deadFree_append (a := [a]) (b := [t])).1 hd).symm, fun σ => by
    rw [execL_pair, execL_pair]
    exact commB_sound x Dl a t h σ⟩

/-- a statement hops to the left over statements it commutes with -/
theorem Rw.hop (t : Stmt) : ∀ (p q : List Stmt), hopB Dl t p = true →
    Rw x Dl (p ++ t :: q) (t :: (p ++ q))
  | [], _, _ => .refl _
  | a :: p, q, hh => by
    simp only [hopB, List.all_cons, Bool.and_eq_true] at hh
    exact ((Rw.hop t p q hh.2).cons a).trans ((Rw.swap hh.1).append_right (p ++ q))

/-- the end of a chain: the part list reads no dead name free, as the certificates check -/
theorem Rw.obsRes {a b : List Stmt} (h : Rw x Dl a b) (hd : deadOK Dl a = true) (σ : St R) :
    ObsRes (fun n => n ∈ Dl) (execL x a σ) (execL x b σ) :=
  (h ((deadOK_iff Dl a).1 hd)).2 σ

end Ffcx.LNodes
