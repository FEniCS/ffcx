/-
Helper lemmas of the geom cluster (C02, C03): `allclose` entrywise, `sigmaOfCode` tabulated, the point maps of the
2-d facets as integer affine maps, codes ↔ symmetry group (finite checks), affinity of the reference-entity maps,
the index maps `xIndex` / `wOffset` of the macro layout (the latter as the model's `coeffOffsets`, whose tiling is `coeff_blocks_tile` in `Lemmas/Tiling.lean`),
the split of a code into rotations and reflections, the rows of `permRows` / `buildTable`.
-/
import FfcxModel.IR.Perm
import FfcxModel.Geometry.RefCell
import FfcxProofs.Lemmas.Tiling

namespace Ffcx.Lemmas.Geom
open Ffcx.Perm Ffcx.Geometry

theorem all2_length {α β : Type} (r : α → β → Bool) :
    ∀ (as : List α) (bs : List β), all2 r as bs = true → as.length = bs.length
  | [], [], _ => rfl
  | a :: as, b :: bs, h => by
    simp only [all2, Bool.and_eq_true] at h
    simp [all2_length r as bs h.2]
  | [], _ :: _, h | _ :: _, [], h => by simp [all2] at h

theorem all2_get {α β : Type} (r : α → β → Bool) (da : α) (db : β) :
    ∀ (as : List α) (bs : List β), all2 r as bs = true →
      ∀ i, i < bs.length → r (as.getD i da) (bs.getD i db) = true
  | [], [], _, i, hi => by simp at hi
  | a :: as, b :: bs, h, i, hi => by
    simp only [all2, Bool.and_eq_true] at h
    cases i with
    | zero => simpa using h.1
    | succ i =>
      have := all2_get r da db as bs h.2 i (by simpa using hi)
      simpa using this
  | [], _ :: _, h, _, _ | _ :: _, [], h, _, _ => by simp [all2] at h

/-! `sigmaOfCode` tabulated: the vertex relabelling of each code, in the order of the codes. -/

theorem sigma_interval : (List.range 2).map (sigmaOfCode .interval) = [[0, 1], [1, 0]] := by
  decide +kernel
theorem sigma_triangle : (List.range 6).map (sigmaOfCode .triangle) =
    [[0, 1, 2], [0, 2, 1], [2, 0, 1], [1, 0, 2], [1, 2, 0], [2, 1, 0]] := by decide +kernel
theorem sigma_quad : (List.range 8).map (sigmaOfCode .quadrilateral) =
    [[0, 1, 2, 3], [0, 2, 1, 3], [2, 0, 3, 1], [1, 0, 3, 2], [3, 2, 1, 0], [3, 1, 2, 0],
     [1, 3, 0, 2], [2, 3, 0, 1]] := by decide +kernel

theorem D4_eq : D4 = [[0, 1, 2, 3], [0, 2, 1, 3], [2, 0, 3, 1], [2, 3, 0, 1], [1, 0, 3, 2],
    [1, 3, 0, 2], [3, 1, 2, 0], [3, 2, 1, 0]] := by decide +kernel

/-! ### Integer affine maps of the plane

The rotation and reflection steps of the 2-d facets, hence their iterates `permuteTriangle`,
`permuteQuad`, and the maps `affT σ`, `affQ σ` of the vertex relabellings are all of the form
`(x, y) ↦ (a + b x + c y, d + e x + f y)` with integer coefficients.  `IAff.app` reads the six
coefficients over any commutative ring and turns `IAff.comp` into composition, so an identity
between such maps *at all points of all rings* follows from an equality of coefficients, which the
kernel evaluates. -/

structure IAff where
  (a b c d e f : Int)
  deriving DecidableEq

section IAff
variable {R : Type} [Lean.Grind.CommRing R]
-- the `IntCast` field of `Lean.Grind.Ring` is not a global instance in core
attribute [local instance] Lean.Grind.Ring.intCast
open Lean.Grind

namespace IAff

def app (A : IAff) (p : R × R) : R × R :=
  ((A.a : R) + (A.b : R) * p.1 + (A.c : R) * p.2, (A.d : R) + (A.e : R) * p.1 + (A.f : R) * p.2)

def comp (A B : IAff) : IAff :=
  ⟨A.a + A.b * B.a + A.c * B.d, A.b * B.b + A.c * B.e, A.b * B.c + A.c * B.f,
   A.d + A.e * B.a + A.f * B.d, A.e * B.b + A.f * B.e, A.e * B.c + A.f * B.f⟩

def one : IAff := ⟨0, 1, 0, 0, 0, 1⟩

/-- `A.pow n` represents `iter A.app n` -/
def pow (A : IAff) : Nat → IAff
  | 0 => one
  | n + 1 => (A.pow n).comp A

/-- the map with `(0,0) ↦ a`, `(1,0) ↦ b`, `(0,1) ↦ c` -/
def ofVerts (a b c : Int × Int) : IAff := ⟨a.1, b.1 - a.1, c.1 - a.1, a.2, b.2 - a.2, c.2 - a.2⟩

theorem app_comp (A B : IAff) (p : R × R) : (A.comp B).app p = A.app (B.app p) := by
  simp only [app, comp]
  congr 1 <;> grind

theorem app_one (p : R × R) : one.app p = p := by
  simp only [app, one]
  congr 1 <;> grind

theorem iter_app {f : R × R → R × R} {A : IAff} (h : ∀ p, f p = A.app p) :
    ∀ n p, iter f n p = (A.pow n).app p
  | 0, p => (app_one p).symm
  | n + 1, p => by rw [iter, iter_app h n, h, pow, app_comp]

theorem ofVerts_app (a b c : Int × Int) (p : R × R) :
    (ofVerts a b c).app p =
      ((a.1 : R) + p.1 * ((b.1 : R) - (a.1 : R)) + p.2 * ((c.1 : R) - (a.1 : R)),
       (a.2 : R) + p.1 * ((b.2 : R) - (a.2 : R)) + p.2 * ((c.2 : R) - (a.2 : R))) := by
  simp only [app, ofVerts]
  congr 1 <;> grind

/-- Conversely the coefficients are determined by the values at the three reference vertices, already
over `Rat`. -/
theorem eq_of_verts {A B : IAff} (h0 : A.app ((0, 0) : Rat × Rat) = B.app (0, 0))
    (h1 : A.app ((1, 0) : Rat × Rat) = B.app (1, 0)) (h2 : A.app ((0, 1) : Rat × Rat) = B.app (0, 1)) :
    A = B := by
  cases A; cases B
  simp only [app, Prod.mk.injEq] at h0 h1 h2
  simp only [mk.injEq, ← Rat.intCast_inj]
  grind

end IAff

def rotT : IAff := ⟨0, 0, 1, 1, -1, -1⟩
def rotQ : IAff := ⟨0, 0, 1, 1, -1, 0⟩
def refl2 : IAff := ⟨0, 0, 1, 0, 1, 0⟩

theorem rotT_app (p : R × R) : rotateTriangle p = rotT.app p := by
  simp only [IAff.app, rotateTriangle, rotT]
  congr 1 <;> grind

theorem rotQ_app (p : R × R) : rotateQuad p = rotQ.app p := by
  simp only [IAff.app, rotateQuad, rotQ]
  congr 1 <;> grind

theorem refl2_app (p : R × R) : reflect2 p = refl2.app p := by
  simp only [IAff.app, reflect2, refl2]
  congr 1 <;> grind

/-- `ref` reflections after `k` rotations `rot`, the order of `permuteTriangle`/`permuteQuad` -/
def permA (rot : IAff) (ref k : Nat) : IAff := (refl2.pow ref).comp (rot.pow k)

theorem permuteTriangle_app (ref rot : Nat) (p : R × R) :
    permuteTriangle ref rot p = (permA rotT ref rot).app p := by
  rw [permA, IAff.app_comp, ← IAff.iter_app rotT_app, ← IAff.iter_app refl2_app]; rfl

theorem permuteQuad_app (ref rot : Nat) (p : R × R) :
    permuteQuad ref rot p = (permA rotQ ref rot).app p := by
  rw [permA, IAff.app_comp, ← IAff.iter_app rotQ_app, ← IAff.iter_app refl2_app]; rfl

/-- `affT σ` (`v = vT`), `affQ σ` (`v = vQ`) from the integer vertex coordinates -/
def affA (v : Nat → Int × Int) (σ : List Nat) : IAff :=
  .ofVerts (v (σ.getD 0 0)) (v (σ.getD 1 0)) (v (σ.getD 2 0))

theorem vT_cast : ∀ n, (vT n : R × R) = (((vT n : Int × Int).1 : R), ((vT n : Int × Int).2 : R))
  | 0 | 1 | _ + 2 => by simp [vT, Ring.intCast_zero, Ring.intCast_one]

theorem vQ_cast : ∀ n, (vQ n : R × R) = (((vQ n : Int × Int).1 : R), ((vQ n : Int × Int).2 : R))
  | 0 | 1 | 2 | _ + 3 => by simp [vQ, Ring.intCast_zero, Ring.intCast_one]

theorem affT_app (σ : List Nat) (p : R × R) : affT σ p = (affA vT σ).app p := by
  simp only [affA, IAff.ofVerts_app, affT, vT_cast (R := R)]

theorem affQ_app (σ : List Nat) (p : R × R) : affQ σ p = (affA vQ σ).app p := by
  simp only [affA, IAff.ofVerts_app, affQ, vQ_cast (R := R)]

theorem affT_id (p : R × R) : affT [0, 1, 2] p = p := by
  rw [affT_app, show affA vT [0, 1, 2] = .one from rfl, IAff.app_one]

/-! From coefficients to points, for both 2-d facets: `hp` is `permuteTriangle_app` and `ha` is `affT_app`, or
`permuteQuad_app` and `affQ_app`. -/

theorem affine_of_coeffs {perm : Nat → Nat → R × R → R × R} {aff : List Nat → R × R → R × R} {rot : IAff}
    {v : Nat → Int × Int} (hp : ∀ ref k p, perm ref k p = (permA rot ref k).app p)
    (ha : ∀ σ p, aff σ p = (affA v σ).app p) {ref k : Nat} {σ : List Nat}
    (h : permA rot ref k = affA v σ) (p : R × R) : perm ref k p = aff σ p := by
  rw [hp, h, ha]

theorem align_of_coeffs {perm : Nat → Nat → R × R → R × R} {aff : List Nat → R × R → R × R} {rot : IAff}
    {v : Nat → Int × Int} (hp : ∀ ref k p, perm ref k p = (permA rot ref k).app p)
    (ha : ∀ σ p, aff σ p = (affA v σ).app p) {ref k : Nat} {τ : List Nat}
    (h : (affA v τ).comp (permA rot ref k) = .one) (p : R × R) : aff τ (perm ref k p) = p := by
  rw [hp, ha, ← IAff.app_comp, h, IAff.app_one]

/-- The interval has one reflection, its own inverse: code `N` exchanges the vertices iff
`codeRef N = 1`. -/
theorem interval_affine (N : Nat) (x : R) :
    permuteInterval (codeRef N) x = affI [codeRef N, 1 - codeRef N] x := by
  rcases Nat.mod_two_eq_zero_or_one N with h | h <;> rw [codeRef, h]
  · show x = 0 + x * (1 - 0); grind
  · show 1 - x = 1 + x * (0 - 1); grind

theorem interval_align (N : Nat) (x : R) :
    affI [codeRef N, 1 - codeRef N] (permuteInterval (codeRef N) x) = x := by
  rcases Nat.mod_two_eq_zero_or_one N with h | h <;> rw [codeRef, h]
  · show 0 + x * (1 - 0) = x; grind
  · show 1 + (1 - x) * (0 - 1) = x; grind

end IAff

/-! ### Codes ↔ group elements

For the 2-d facets both directions go through the coefficients: equal coefficients give the identity
at all points of all rings, and the identity at the reference vertices over `Rat` gives equal
coefficients (`IAff.eq_of_verts`).  What remains finite is which code has which coefficients. -/

/-- How an aligning code is found in practice: code `N` undoes the relabelling `τ` on the reference
*vertices* (`T_τ (permute_N vᵢ) = vᵢ` for the 2/3/4 reference vertices, over `Rat`).
`alignsT_spec`, `alignsQ_spec`: that is alignment at all points of every commutative ring. -/
def alignsI (N : Nat) (τ : List Nat) : Bool :=
  (List.range 2).all fun i =>
    decide (affI τ (permuteInterval (R := Rat) (codeRef N) (vI i)) = vI i)
def alignsT (N : Nat) (τ : List Nat) : Bool :=
  (List.range 3).all fun i =>
    decide (affT τ (permuteTriangle (R := Rat) (codeRef N) (codeRot N) (vT i)) = vT i)
def alignsQ (N : Nat) (τ : List Nat) : Bool :=
  (List.range 4).all fun i =>
    decide (affQ τ (permuteQuad (R := Rat) (codeRef N) (codeRot N) (vQ i)) = vQ i)

/-- the converse of `affine_of_coeffs`, already over `Rat` -/
theorem coeffs_of_affine {perm : Nat → Nat → Rat × Rat → Rat × Rat} {aff : List Nat → Rat × Rat → Rat × Rat}
    {rot : IAff} {v : Nat → Int × Int} (hp : ∀ ref k p, perm ref k p = (permA rot ref k).app p)
    (ha : ∀ σ p, aff σ p = (affA v σ).app p) {ref k : Nat} {σ : List Nat}
    (h : ∀ p, perm ref k p = aff σ p) : permA rot ref k = affA v σ := by
  simp only [hp, ha] at h
  exact IAff.eq_of_verts (h _) (h _) (h _)

theorem coeffs_of_alignsT {N : Nat} {τ : List Nat} (h : alignsT N τ = true) :
    (affA vT τ).comp (permA rotT (codeRef N) (codeRot N)) = .one := by
  simp only [alignsT, List.all_eq_true, List.mem_range, decide_eq_true_eq, permuteTriangle_app,
    affT_app, ← IAff.app_comp] at h
  exact IAff.eq_of_verts ((h 0 (by decide)).trans (IAff.app_one _).symm)
    ((h 1 (by decide)).trans (IAff.app_one _).symm) ((h 2 (by decide)).trans (IAff.app_one _).symm)

theorem coeffs_of_alignsQ {N : Nat} {τ : List Nat} (h : alignsQ N τ = true) :
    (affA vQ τ).comp (permA rotQ (codeRef N) (codeRot N)) = .one := by
  simp only [alignsQ, List.all_eq_true, List.mem_range, decide_eq_true_eq, permuteQuad_app,
    affQ_app, ← IAff.app_comp] at h
  exact IAff.eq_of_verts ((h 0 (by decide)).trans (IAff.app_one _).symm)
    ((h 1 (by decide)).trans (IAff.app_one _).symm) ((h 2 (by decide)).trans (IAff.app_one _).symm)

/-- The vertex test is alignment at all points of all rings, for every code and every relabelling. -/
theorem alignsT_spec (N : Nat) (τ : List Nat) : alignsT N τ = true ↔
    ∀ {R : Type} [Lean.Grind.CommRing R] (p : R × R),
      affT τ (permuteTriangle (codeRef N) (codeRot N) p) = p :=
  ⟨fun h => align_of_coeffs permuteTriangle_app affT_app (coeffs_of_alignsT h),
    fun h => List.all_eq_true.2 fun _ _ => decide_eq_true (h _)⟩

theorem alignsQ_spec (N : Nat) (τ : List Nat) : alignsQ N τ = true ↔
    ∀ {R : Type} [Lean.Grind.CommRing R] (p : R × R),
      affQ τ (permuteQuad (codeRef N) (codeRot N) p) = p :=
  ⟨fun h => align_of_coeffs permuteQuad_app affQ_app (coeffs_of_alignsQ h),
    fun h => List.all_eq_true.2 fun _ _ => decide_eq_true (h _)⟩

/-! Each group element has exactly one code whose map is its affine map (`codes_*`), resp. undoes it
(`align_*`); for the interval uniqueness is checked over `Rat`, at the point `0` (`codes_interval`) resp. at the two
reference vertices (`align_interval`, through `alignsI`). -/

theorem codes_interval : ∀ σ ∈ S2, ∃ N, N < 2 ∧ σ = [codeRef N, 1 - codeRef N] ∧
    ∀ N', N' < 2 → permuteInterval (R := Rat) (codeRef N') 0 = affI σ 0 → N' = N := by
  decide +kernel
theorem codes_triangle : ∀ σ ∈ S3, ∃ N, N < 6 ∧ permA rotT (codeRef N) (codeRot N) = affA vT σ ∧
    ∀ N', N' < 6 → permA rotT (codeRef N') (codeRot N') = affA vT σ → N' = N := by decide +kernel
theorem codes_quad : ∀ σ ∈ D4, ∃ N, N < 8 ∧ permA rotQ (codeRef N) (codeRot N) = affA vQ σ ∧
    ∀ N', N' < 8 → permA rotQ (codeRef N') (codeRot N') = affA vQ σ → N' = N := by
  rw [D4_eq]; decide +kernel

/-! Conversely (`sigma_*_spec`) the map of code `N` is the affine map of `sigmaOfCode N`, a group
element. -/

theorem sigma_interval_spec : ∀ N, N < 2 → sigmaOfCode .interval N ∈ S2 ∧
    sigmaOfCode .interval N = [codeRef N, 1 - codeRef N] := by decide +kernel
theorem sigma_triangle_spec : ∀ N, N < 6 → sigmaOfCode .triangle N ∈ S3 ∧
    permA rotT (codeRef N) (codeRot N) = affA vT (sigmaOfCode .triangle N) := by decide +kernel
theorem sigma_quad_spec : ∀ N, N < 8 → sigmaOfCode .quadrilateral N ∈ D4 ∧
    permA rotQ (codeRef N) (codeRot N) = affA vQ (sigmaOfCode .quadrilateral N) := by
  rw [D4_eq]; decide +kernel

theorem align_interval : ∀ τ ∈ S2, ∃ N, N < 2 ∧ τ = [codeRef N, 1 - codeRef N] ∧
    ∀ N', N' < 2 → alignsI N' τ = true → N' = N := by decide +kernel
theorem align_triangle : ∀ τ ∈ S3, ∃ N, N < 6 ∧
    (affA vT τ).comp (permA rotT (codeRef N) (codeRot N)) = .one ∧
    ∀ N', N' < 6 → (affA vT τ).comp (permA rotT (codeRef N') (codeRot N')) = .one → N' = N := by
  decide +kernel
theorem align_quad : ∀ τ ∈ D4, ∃ N, N < 8 ∧
    (affA vQ τ).comp (permA rotQ (codeRef N) (codeRot N)) = .one ∧
    ∀ N', N' < 8 → (affA vQ τ).comp (permA rotQ (codeRef N') (codeRot N')) = .one → N' = N := by
  rw [D4_eq]; decide +kernel

section Affine
variable {R : Type} [Lean.Grind.CommRing R]

/-- affine combination `t·p + (1-t)·q`, componentwise -/
def mix (t : R) (p q : List R) : List R := List.zipWith (fun a b => t * a + (1 - t) * b) p q

theorem dotEdges_mix (v0 t : R) : ∀ (vs p q : List R), p.length = q.length →
    dotEdges v0 vs (mix t p q) = t * dotEdges v0 vs p + (1 - t) * dotEdges v0 vs q
  | [], _, _, _ | _ :: _, [], [], _ => by show (0 : R) = t * 0 + (1 - t) * 0; grind
  | _ :: _, [], _ :: _, h | _ :: _, _ :: _, [], h => by simp at h
  | v :: vs, x :: p, y :: q, h => by
    have ih := dotEdges_mix v0 t vs p q (Nat.succ.inj h)
    simp only [mix, List.zipWith_cons_cons, dotEdges] at ih ⊢
    rw [ih]; grind

theorem mapComp_mix (vc : List R) (t : R) (p q : List R) (h : p.length = q.length) :
    mapComp vc (mix t p q) = t * mapComp vc p + (1 - t) * mapComp vc q := by
  cases vc with
  | nil => simp [mapComp]; grind
  | cons v0 vs => simp only [mapComp, dotEdges_mix v0 t vs p q h]; grind

/-- `map_facet_points` / `map_edge_points` commute with affine combinations of points, for any
vertex coordinates: the map of any entity of any cell is affine. -/
theorem mapEntityPoint_mix (gdim : Nat) (verts : List (List R)) (t : R) (p q : List R)
    (h : p.length = q.length) :
    mapEntityPoint gdim verts (mix t p q) =
      mix t (mapEntityPoint gdim verts p) (mapEntityPoint gdim verts q) := by
  simp only [mapEntityPoint, mix, List.zipWith_map_left, List.zipWith_map_right, List.zipWith_self]
  apply List.map_congr_left
  intro c _
  exact mapComp_mix _ t p q h

end Affine

/-- `coordinate_dofs` index as a pairing of `(r, node)` with the component -/
theorem xIndex_eq (nodes r node c : Nat) : xIndex nodes r node c = (r * nodes + node) * 3 + c := by
  have : 3 * nodes * r = 3 * (r * nodes) := by rw [Nat.mul_assoc, Nat.mul_comm nodes]
  rw [xIndex, this]; omega

theorem wOffset_eq_sum (width : Nat) : ∀ (dims : List Nat) (k : Nat),
    wOffset width dims k = ((Layout.blockSizes width dims).take k).sum
  | _, 0 => by rw [wOffset, List.take_zero, List.sum_nil]
  | [], _ + 1 => rfl
  | d :: ds, k + 1 => by
    simp only [wOffset, wOffset_eq_sum width ds k, Layout.blockSizes, List.map_cons, List.take_succ_cons, List.sum_cons]

/-- the offsets of `wIndex` are the `coefficient_offsets` of the layout model -/
theorem wOffset_eq (width : Nat) (dims : List Nat) (k : Nat) (hk : k < dims.length) :
    wOffset width dims k = (Layout.coeffOffsets width dims).getD k 0 := by
  rw [wOffset_eq_sum, Layout.coeffOffsets, Layout.offsetsFrom_getD 0 _ k (by simpa [Layout.blockSizes] using hk),
    Nat.zero_add]

theorem sumDims_eq : ∀ dims : List Nat, sumDims dims = dims.sum
  | [] => rfl
  | d :: ds => by rw [sumDims, sumDims_eq ds, List.sum_cons]

/-- A code `N < K·2` is `2·rot + ref` with `rot = N / 2 < K` rotations and `ref = N % 2` reflections (`codeRot`,
`codeRef` are that quotient and remainder). -/
theorem code_split {K N : Nat} (h : N < K * 2) :
    codeRot N < K ∧ codeRef N < 2 ∧ N = 2 * codeRot N + codeRef N :=
  ⟨Nat.div_lt_of_lt_mul (Nat.mul_comm K 2 ▸ h), Nat.mod_lt N (by decide), (Nat.div_add_mod N 2).symm⟩

/-! ### `permRows`: the row index of the nested loops is the pairing `(rot, ref) ↦ rot * nref + ref` -/

theorem permRows_succ {α : Type} (n nref : Nat) (f : Nat → Nat → α) :
    permRows (n + 1) nref f = permRows n nref f ++ (List.range nref).map (fun ref => f ref n) := by
  simp [permRows, List.range_succ, List.flatMap_append]

theorem permRows_length {α : Type} (n nref : Nat) (f : Nat → Nat → α) :
    (permRows n nref f).length = n * nref := by
  induction n with
  | zero => simp [permRows]
  | succ n ih => rw [permRows_succ, List.length_append, ih]; simp [Nat.succ_mul]

theorem permRows_get {α : Type} (n nref : Nat) (f : Nat → Nat → α) (rot ref : Nat)
    (hrot : rot < n) (href : ref < nref) :
    (permRows n nref f)[nref * rot + ref]? = some (f ref rot) := by
  rw [Nat.mul_comm]
  induction n with
  | zero => omega
  | succ n ih =>
    rw [permRows_succ]
    by_cases h : rot < n
    · rw [List.getElem?_append_left (by rw [permRows_length]; exact pair_lt h href)]
      exact ih h
    · obtain rfl : rot = n := by omega
      rw [List.getElem?_append_right (by rw [permRows_length]; omega), permRows_length,
        Nat.add_sub_cancel_left]
      simp [href]

/-- The layout of `buildTable`, for any facet type: row `numRef · rot + ref`, entity `e`, point `q`, dof `d` holds
the basis function `d` at the entity map of the point `q` permuted with `ref` reflections and `rot` rotations
(`dP` is never read: `q` is in range). -/
theorem get_buildTable {P C V : Type} [Inhabited V] (t : FacetType) (perm : Nat → Nat → P → P)
    (F : Nat → P → C) (phi : Nat → C → V) (nent ndof : Nat) (X : List P) (dP : P) {rot ref e q d : Nat}
    (hrot : rot < t.numRot) (href : ref < t.numRef) (he : e < nent) (hq : q < X.length) (hd : d < ndof) :
    (buildTable t perm F phi nent ndof X).get (t.numRef * rot + ref) e q d
      = phi d (F e (perm ref rot (X.getD q dP))) := by
  -- the row is that of `(ref, rot)`; in it, three lookups in range
  simp only [Table.get, buildTable, List.getD_eq_getElem?_getD, permRows_get _ _ _ _ _ hrot href, Option.getD_some]
  simp [he, hq, hd]

end Ffcx.Lemmas.Geom
