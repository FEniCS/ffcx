/-
The main loop of `compute_argument_factorization` (model: `runNodes` over `stepNode`): one iteration, then
the loop.  The invariant `Inv`: for every processed node `j` of `S`, either it is argument free and
`F[sf j] = S[j]`, or `S[j] = Σ_{(k,f) ∈ factors j} F[f]·Π_{a∈k} S[a]`; `F` is closed and only grows.
The invariant is stated per node with `NodeInv`, over the entries of the state; everything else (the
handlers' rules, `Inv.step`, `handler_post`) with `Rep`, over any graph and dictionary; `NodeInv.rep` and
`Rep.nodeInv` go from one to the other.  `facs` only grows by `push`, so the well-formedness conditions
stated on the final `nodeFacs` apply at every step.
-/
import FfcxProofs.Lemmas.FactorizeHandlers
import FfcxProofs.Lemmas.ExceptBind

namespace Ffcx.IR
open Lean.Grind

section
variable {R : Type} [Field R] (ρ : Env R)

/-- argument tables are real valued -/
def RealArgs : Prop := ∀ p, ρ.conj (ρ.argv p) = ρ.argv p

/-- what is known of the members of an argkey (the `Q` of `KeysIn`, `Rep`, `Handled`): node `a` of `S`
is a modified argument, and its value is invariant under conjugation -/
def QReal (S : Array Node) (a : Nat) : Prop :=
  isArgKind (kindAt S a) = true ∧ a < S.size ∧ ρ.conj (val ρ S a) = val ρ S a

def facAt (st : FState) (j : Nat) : Dict := st.facs[j]?.getD []
def sfAt (st : FState) (j : Nat) : Nat := st.sf[j]?.getD 0

/-- what is known about a processed node `j` of `S`: its dictionary is well formed (`ok`, `nodup`, `real`
are `FacOK (QReal ρ S) st.F (facAt st j)`, see `NodeInv.rep`), and it says what `S[j]` is worth —
the scalar factor alone if the node is argument free, else the factorised sum -/
structure NodeInv (S : Array Node) (st : FState) (j : Nat) : Prop where
  ok : DictOK st.F (facAt st j)
  nodup : (facAt st j).keys.Nodup
  real : KeysIn (QReal ρ S) (facAt st j)
  free : facAt st j = [] → sfAt st j < st.F.size ∧ val ρ st.F (sfAt st j) = val ρ S j
  dep : facAt st j ≠ [] → val ρ S j = factSum ρ st.F (val ρ S) (facAt st j)

/-- the loop invariant of `runNodes`: the nodes `< i` of `S` have been processed, one entry of `facs`
and `sf` each; `F` is closed and holds the literal `1.0` at `one` -/
structure Inv (S : Array Node) (st : FState) (i : Nat) : Prop where
  nfacs : st.facs.size = i
  nsf : st.sf.size = i
  closed : Closed st.F
  one_lt : st.one < st.F.size
  one_val : val ρ st.F st.one = 1
  node : ∀ j, j < i → NodeInv ρ S st j

def nextState (st : FState) (F' : Array Node) (d : Dict) (s : Nat) : FState :=
  { F := F', facs := st.facs.push d, sf := st.sf.push s, one := st.one }

theorem NodeInv.rep {S : Array Node} {st : FState} {j : Nat} (h : NodeInv ρ S st j) :
    Rep ρ (val ρ S) (QReal ρ S) st.F (facAt st j) (sfAt st j) (val ρ S j) :=
  ⟨⟨h.ok, h.nodup, h.real⟩, h.free, h.dep⟩

theorem Rep.nodeInv {S : Array Node} {st : FState} {j : Nat}
    (h : Rep ρ (val ρ S) (QReal ρ S) st.F (facAt st j) (sfAt st j) (val ρ S j)) : NodeInv ρ S st j :=
  ⟨h.ok, h.nodup, h.keysIn, h.free, h.dep⟩

theorem getD_push {α : Type} (xs : Array α) (x dflt : α) (j : Nat) :
    (xs.push x)[j]?.getD dflt = if j = xs.size then x else xs[j]?.getD dflt := by
  rw [Array.getElem?_push]
  split <;> rfl

theorem Inv.step {S : Array Node} {st : FState} {si : Nat} (hinv : Inv ρ S st si)
    {F' : Array Node} {d : Dict} {s : Nat} (hx : Ext st.F F') (hc : Closed F')
    (hrep : Rep ρ (val ρ S) (QReal ρ S) F' d s (val ρ S si)) :
    Inv ρ S (nextState st F' d s) (si + 1) := by
  obtain ⟨hone, eone⟩ := hx.lift ρ hinv.one_lt
  have hnsf := hinv.nsf
  cases hinv.nfacs
  refine ⟨Array.size_push .., (Array.size_push ..).trans (congrArg (· + 1) hnsf), hc, hone,
    eone ▸ hinv.one_val, fun j hj => Rep.nodeInv ρ ?_⟩
  show Rep ρ _ _ F' ((st.facs.push d)[j]?.getD []) ((st.sf.push s)[j]?.getD 0) _
  rw [getD_push, getD_push]
  by_cases hjs : j < st.facs.size
  · rw [if_neg (Nat.ne_of_lt hjs), if_neg (hnsf ▸ Nat.ne_of_lt hjs)]
    exact (hinv.node j hjs).rep.mono hx
  · cases Nat.le_antisymm (Nat.le_of_lt_succ hj) (Nat.le_of_not_lt hjs)
    rw [if_pos rfl, if_pos hnsf.symm]
    exact hrep

/-- the handler `stepNode` dispatches to for a node with an argument-dependent operand.  `stepNode` matches
on the operands' dictionaries and writes `sfAt i` for the scalar node of the `i`-th OPERAND; here the
match is on the operand indices, and `facAt st a`, `sfAt st a` are the entries of NODE `a`. -/
def handlerCall (st : FState) (n : Node) : Except FErr (Array Node × Dict) :=
  match n.kind, n.deps with
  | .sum, [a, b] => handleSum st.F (facAt st a) (facAt st b)
  | .prod, [a, b] => handleProduct st.F (facAt st a) (facAt st b) (sfAt st a) (sfAt st b)
  | .conj, [a] => handleConj st.F (facAt st a)
  | .div, [a, b] => handleDivision st.F (facAt st a) (facAt st b) (sfAt st b)
  | .cond, [c, t, f] =>
    handleConditional st.F (facAt st c) (facAt st t) (facAt st f) (sfAt st c)
      ((facAt st t).isEmpty && kindAt st.F (sfAt st t) == .zero)
      ((facAt st f).isEmpty && kindAt st.F (sfAt st f) == .zero)
  | k, _ => .error (.nonlinear k.clsName)

theorem stepNode_eq (avIndex : Nat → Nat) (st : FState) (si : Nat) (n : Node) :
    stepNode avIndex st si n =
      if !(n.deps.all fun d => d < si) then .error (.malformed "operand order")
      else if !(n.kind.arityOk n.deps.length) then .error (.malformed "arity")
      else if isArgKind n.kind then .ok (nextState st st.F [([si], st.one)] (avIndex si))
      else if (n.deps.map (facAt st)).all (·.isEmpty) then
        .ok (nextState st (graphInsert st.F (toFNode st.F st.sf n)).1 []
          (graphInsert st.F (toFNode st.F st.sf n)).2)
      else (handlerCall st n).map fun r => nextState st r.1 r.2 0 := by
  obtain ⟨k, ds⟩ := n
  unfold stepNode
  dsimp only
  refine ite_congr_right (ite_congr_right (ite_congr_right (ite_congr_right ?_)))
  unfold handlerCall
  -- as in `evalNode_eq`: the class decides alone, or with the length of the operand list; a class given a
  -- handler in `stepNode` and not in `handlerCall` fails here
  cases k <;> first | rfl | (rcases ds with _ | ⟨a, _ | ⟨b, _ | ⟨c, _ | ⟨d, t⟩⟩⟩⟩ <;> rfl)

theorem all_free_iff (st : FState) (ds : List Nat) :
    ((ds.map (facAt st)).all (·.isEmpty)) = true ↔ ∀ d ∈ ds, facAt st d = [] := by
  rw [List.all_map, List.all_eq_true]
  exact forall₂_congr fun d _ => List.isEmpty_iff

theorem stepNode_dep (avIndex : Nat → Nat) (st : FState) (si : Nat) (n : Node)
    (hord : n.deps.all (fun d => d < si) = true) (har : n.kind.arityOk n.deps.length = true)
    (harg : isArgKind n.kind = false) (hdep : ∃ d ∈ n.deps, facAt st d ≠ []) :
    stepNode avIndex st si n = (handlerCall st n).map fun r => nextState st r.1 r.2 0 := by
  rw [stepNode_eq, hord, har, harg, if_neg (by decide), if_neg (by decide), if_neg (by decide),
    if_neg]
  intro hall
  obtain ⟨d, hd, hne⟩ := hdep
  exact hne ((all_free_iff st _).1 hall d hd)

theorem stepNode_ok (avIndex : Nat → Nat) (st : FState) (si : Nat) (n : Node) (st1 : FState)
    (h : stepNode avIndex st si n = .ok st1) :
    (∃ d, st1.facs = st.facs.push d) ∧
    (n.deps.all fun d => d < si) = true ∧ n.kind.arityOk n.deps.length = true := by
  rw [stepNode_eq] at h
  obtain ⟨h1, h⟩ := ite_eq_of_ne h nofun
  obtain ⟨h2, h⟩ := ite_eq_of_ne h nofun
  refine ⟨?_, by simpa using h1, by simpa using h2⟩
  split at h
  · cases h; exact ⟨_, rfl⟩
  split at h
  · cases h; exact ⟨_, rfl⟩
  · obtain ⟨r, _, rfl⟩ := except_map_ok _ _ _ h; exact ⟨_, rfl⟩

/-- the operators without a factorisation handler -/
def isNonlinear : Kind → Bool
  | .real | .imag | .abs | .condition _ | .op _ => true
  | _ => false

/-- The default handler: a math function, power, condition, `Abs/Real/Imag` with an
argument-dependent operand raises `RuntimeError("Assuming that a <class> cannot be applied to
arguments …")`. -/
theorem stepNode_rejects_nonlinear (avIndex : Nat → Nat) (st : FState) (si : Nat) (n : Node)
    (hord : n.deps.all (fun d => d < si) = true) (har : n.kind.arityOk n.deps.length = true)
    (hk : isNonlinear n.kind = true)
    (hdep : ∃ d ∈ n.deps, facAt st d ≠ []) :
    stepNode avIndex st si n = .error (.nonlinear n.kind.clsName) := by
  obtain ⟨k, ds⟩ := n
  rw [stepNode_dep avIndex st si _ hord har (by cases k <;> first | rfl | cases hk) hdep]
  cases k <;> first | rfl | cases hk

/-- Division by an argument-dependent expression raises `AssertionError("Cannot divide by
arguments.")`. -/
theorem stepNode_rejects_divisor (avIndex : Nat → Nat) (st : FState) (si : Nat) (a b : Nat)
    (ha : a < si) (hb : b < si) (hdep : facAt st b ≠ []) :
    stepNode avIndex st si ⟨.div, [a, b]⟩ = .error .divByArg := by
  rw [stepNode_dep avIndex st si _ (by simp [ha, hb]) rfl rfl ⟨b, by simp, hdep⟩]
  show (handleDivision st.F (facAt st a) (facAt st b) (sfAt st b)).map _ = _
  unfold handleDivision
  rw [if_pos (by simpa using hdep)]
  rfl

/-- A sum of an argument-dependent and an argument-free operand is rejected with
`RuntimeError("Expecting all summands to depend on the arguments.")` (DESIGN F10, fixed by commit
d075f67: before, the argument-free summand was silently dropped). -/
theorem stepNode_rejects_sum_argfree (avIndex : Nat → Nat) (st : FState) (si : Nat) (a b : Nat)
    (ha : a < si) (hb : b < si)
    (hdep : (facAt st a).isEmpty ≠ (facAt st b).isEmpty) :
    stepNode avIndex st si ⟨.sum, [a, b]⟩ = .error .sumArgFree := by
  have hne : ∃ d ∈ [a, b], facAt st d ≠ [] :=
    Decidable.byContradiction fun hno => hdep (by simp at hno; rw [hno.1, hno.2])
  rw [stepNode_dep avIndex st si _ (by simp [ha, hb]) rfl rfl hne]
  show (handleSum st.F (facAt st a) (facAt st b)).map _ = _
  unfold handleSum
  rw [if_pos ((by decide : ∀ x y : Bool, x ≠ y → (x || y) = true)
    (facAt st a).isEmpty (facAt st b).isEmpty hdep)]
  rfl

theorem toFNode_cases (F : Array Node) (sf : Array Nat) (n : Node) :
    toFNode F sf n = ⟨n.kind, n.deps.map fun d => sf[d]?.getD 0⟩ ∨
    ∃ a b, n.deps = [a, b] ∧ (n.kind = .sum ∨ n.kind = .prod) ∧
      toFNode F sf n = ⟨n.kind, normPair F (sf[a]?.getD 0) (sf[b]?.getD 0)⟩ := by
  obtain ⟨k, ds⟩ := n
  unfold toFNode
  dsimp only
  split
  · rename_i a b hds
    rcases ds with _ | ⟨x, _ | ⟨y, _ | ⟨z, t⟩⟩⟩ <;> cases hds
    exact .inr ⟨x, y, rfl, .inl rfl, rfl⟩
  · rename_i a b hds
    rcases ds with _ | ⟨x, _ | ⟨y, _ | ⟨z, t⟩⟩⟩ <;> cases hds
    exact .inr ⟨x, y, rfl, .inr rfl, rfl⟩
  · exact .inl rfl

theorem evalNode_toFNode (look : Nat → R) (F : Array Node) (sf : Array Nat) (n : Node) :
    evalNode ρ look (toFNode F sf n) = evalNode ρ (fun d => look (sf[d]?.getD 0)) n := by
  obtain ⟨k, ds⟩ := n
  rcases toFNode_cases F sf ⟨k, ds⟩ with e | ⟨a, b, rfl, rfl | rfl, e⟩ <;> rw [e]
  · exact evalNode_map ρ look _ _ ds
  · exact evalNode_sum_normPair ρ F look _ _
  · exact evalNode_prod_normPair ρ F look _ _

theorem toFNode_deps (F : Array Node) (sf : Array Nat) (n : Node) (d : Nat)
    (hd : d ∈ (toFNode F sf n).deps) : ∃ x ∈ n.deps, d = sf[x]?.getD 0 := by
  rcases toFNode_cases F sf n with e | ⟨a, b, hab, _, e⟩ <;> rw [e] at hd
  · obtain ⟨x, hx, rfl⟩ := List.mem_map.1 hd
    exact ⟨x, hx, rfl⟩
  · rw [hab]
    rcases normPair_mem F _ _ d hd with h | h
    · exact ⟨a, List.mem_cons_self .., h⟩
    · exact ⟨b, List.mem_cons_of_mem _ (List.mem_cons_self ..), h⟩

theorem handler_post (hρ : LawfulEnv ρ) {look : Nat → R} {Q : Nat → Prop} (st : FState) (n : Node)
    (hc : Closed st.F) (hQ : ∀ a, Q a → ρ.conj (look a) = look a)
    (node : ∀ d ∈ n.deps, Rep ρ look Q st.F (facAt st d) (sfAt st d) (look d))
    (hwf : wfNode st.facs n = true)
    (hdep : ¬ ∀ d ∈ n.deps, facAt st d = []) (F' : Array Node) (d' : Dict)
    (hr : handlerCall st n = .ok (F', d')) : Handled ρ look Q st.F F' d' (evalNode ρ look n) := by
  obtain ⟨k, ds⟩ := n
  unfold handlerCall at hr
  dsimp only at hr node hdep
  -- in each case `hdep` speaks of a literal list of operands: `simp` opens it into the implication the rule takes
  split at hr
  · exact handleSum_rep ρ hρ hc (node _ (by simp)) (node _ (by simp)) hr
  · exact handleProduct_rep ρ hρ hc (node _ (by simp)) (node _ (by simp)) (by simpa using hdep)
      (of_decide_eq_true hwf) hr
  · exact handleConj_rep ρ hρ hc (node _ (by simp)) hQ (by simpa using hdep) hr
  · exact handleDivision_rep ρ hρ hc (node _ (by simp)) (node _ (by simp)) (by simpa using hdep) hr
  · exact handleConditional_rep ρ hc (node _ (by simp)) (node _ (by simp)) (node _ (by simp))
      (by simpa using hdep) (fun h => beq_iff_eq.1 (Bool.and_eq_true_iff.1 h).2)
      (fun h => beq_iff_eq.1 (Bool.and_eq_true_iff.1 h).2) hr
  · cases hr

theorem stepNode_post (hρ : LawfulEnv ρ) (hreal : RealArgs ρ) (S : Array Node) (hcS : Closed S)
    (avIndex : Nat → Nat) (st : FState) (si : Nat) (hsi : si < S.size)
    (hinv : Inv ρ S st si) (hwf : wfNode st.facs S[si] = true) (st' : FState)
    (h : stepNode avIndex st si S[si] = .ok st') : Inv ρ S st' (si + 1) ∧ Ext st.F st'.F := by
  have hval := val_eq_evalNode ρ S hcS si hsi
  have node := fun d hd => hinv.node d (hcS si hsi d hd)
  have done : ∀ {F' d s}, Ext st.F F' → Closed F' →
      Rep ρ (val ρ S) (QReal ρ S) F' d s (val ρ S si) →
      Inv ρ S (nextState st F' d s) (si + 1) ∧ Ext st.F (nextState st F' d s).F :=
    fun hx hc hrep => ⟨hinv.step ρ hx hc hrep, hx⟩
  rw [stepNode_eq] at h
  obtain ⟨_, h⟩ := ite_eq_of_ne h nofun
  obtain ⟨_, h⟩ := ite_eq_of_ne h nofun
  split at h
  · -- a modified argument: `factors = {(si,): one_index}`
    rename_i harg
    cases h
    refine done (Ext.refl _) hinv.closed ⟨⟨?_, ?_, ?_⟩, (fun h => by cases h), fun _ => ?_⟩
    · intro e he; cases List.mem_singleton.1 he; exact hinv.one_lt
    · exact List.pairwise_singleton _ _
    · intro k hk a ha
      cases List.mem_singleton.1 hk
      cases List.mem_singleton.1 ha
      have hk' : isArgKind (kindAt S si) = true := by
        unfold kindAt; rw [nodeAt_eq S _ hsi]; exact harg
      refine ⟨hk', hsi, ?_⟩
      rw [hval, evalNode_arg ρ _ _ harg]
      exact hreal _
    · show val ρ S si = val ρ st.F st.one * (val ρ S si * 1) + 0
      rw [hinv.one_val, Semiring.one_mul, Semiring.mul_one, AddCommMonoid.add_zero]
  split at h
  · -- no operand depends on arguments: `graph_insert(F, v)`
    rename_i hall
    cases h
    have hfree := fun d hd => (node d hd).free ((all_free_iff st _).1 hall d hd)
    have y := Yields.insert ρ hinv.closed (toFNode st.F st.sf S[si]) fun d hd => by
      obtain ⟨x, hx, rfl⟩ := toFNode_deps _ _ _ d hd
      exact (hfree x hx).1
    refine done y.ext y.closed ⟨⟨fun _ h => (nomatch h), List.nodup_nil, fun _ h => (nomatch h)⟩,
      fun _ => ⟨y.lt, ?_⟩, fun h => absurd rfl h⟩
    rw [y.eq, evalNode_toFNode, hval]
    exact evalNode_congr ρ _ _ _ fun d hd => (hfree d hd).2
  · rename_i hnall
    obtain ⟨⟨F', d'⟩, hr, rfl⟩ := except_map_ok _ _ _ h
    have hh := handler_post ρ hρ st _ hinv.closed (fun a h => h.2.2) (fun d hd => (node d hd).rep) hwf
      (mt (all_free_iff st _).2 hnall) F' d' hr
    exact done hh.ext hh.closed (by rw [hval]; exact hh.rep 0)

theorem wfNode_congr (facs facs' : Array Dict) (n : Node)
    (h : ∀ d ∈ n.deps, facs[d]?.getD [] = facs'[d]?.getD []) : wfNode facs n = wfNode facs' n := by
  obtain ⟨k, ds⟩ := n
  unfold wfNode
  dsimp only
  split
  · rename_i a b
    rw [h a (by simp), h b (by simp)]
  · rfl

theorem runNodes_steps (avIndex : Nat → Nat) (fin : FState) :
    ∀ (rest : List Node) (st : FState) (si : Nat), runNodes avIndex st si rest = .ok fin →
      fin.facs.size = st.facs.size + rest.length ∧
      (∀ j, j < st.facs.size → fin.facs[j]? = st.facs[j]?) ∧
      ∀ k (hk : k < rest.length), (rest[k].deps.all fun d => d < si + k) = true ∧
        rest[k].kind.arityOk rest[k].deps.length = true := by
  intro rest
  induction rest with
  | nil => intro st si h; cases h; exact ⟨rfl, fun _ _ => rfl, fun k hk => nomatch hk⟩
  | cons n rest ih =>
    intro st si h
    unfold runNodes at h
    split at h
    · cases h
    rename_i st1 hstep
    obtain ⟨⟨d, hd⟩, hchk⟩ := stepNode_ok avIndex st si n st1 hstep
    obtain ⟨hs, hst, hk⟩ := ih st1 (si + 1) h
    rw [hd, Array.size_push] at hs hst
    refine ⟨by rw [hs, List.length_cons]; omega, fun j hj => ?_, fun k hk' => ?_⟩
    · rw [hst j (by omega), Array.getElem?_push, if_neg (by omega)]
    · cases k with
      | zero => exact hchk
      | succ k =>
        have := hk k (by simpa using hk')
        simp only [List.getElem_cons_succ]
        rwa [Nat.add_right_comm] at this

theorem runNodes_append (avIndex : Nat → Nat) :
    ∀ (pre rest : List Node) (st : FState) (si : Nat),
      runNodes avIndex st si (pre ++ rest) =
        match runNodes avIndex st si pre with
        | .error e => .error e
        | .ok st1 => runNodes avIndex st1 (si + pre.length) rest := by
  intro pre
  induction pre with
  | nil => intro rest st si; simp [runNodes]
  | cons m pre ih =>
    intro rest st si
    rw [List.cons_append, runNodes, runNodes]
    cases stepNode avIndex st si m with
    | error e => rfl
    | ok st2 =>
      dsimp only
      rw [ih rest st2 (si + 1), List.length_cons, Nat.add_right_comm, Nat.add_assoc]

theorem runNodes_at (avIndex : Nat → Nat) (S : Array Node) (i : Nat) (hi : i < S.size)
    (st0 : FState) :
    runNodes avIndex st0 0 S.toList =
      match runNodes avIndex st0 0 (S.toList.take i) with
      | .error e => .error e
      | .ok st1 => runNodes avIndex st1 i (S[i] :: S.toList.drop (i + 1)) := by
  have hsplit : S.toList.take i ++ S[i] :: S.toList.drop (i + 1) = S.toList := by
    rw [← Array.getElem_toList, ← List.drop_eq_getElem_cons (by simpa using hi),
      List.take_append_drop]
  have h := runNodes_append avIndex (S.toList.take i) (S[i] :: S.toList.drop (i + 1)) st0 0
  rw [hsplit, List.length_take, Array.length_toList, Nat.min_eq_left (Nat.le_of_lt hi),
    Nat.zero_add] at h
  exact h

/-- The well-formedness of node `si`, stated on the final `facs`, holds of the current `facs` since its
operands come before it.  The induction is on the number `n` of nodes left and not on the list (as in
`runNodes_steps`): `stepNode_post` and `hwfall` need the node as `S[si]` with `si < S.size`, which a tail of
`S.toList` has forgotten. -/
theorem runNodes_inv (hρ : LawfulEnv ρ) (hreal : RealArgs ρ) (S : Array Node) (hcS : Closed S)
    (avIndex : Nat → Nat) (fin : FState)
    (hwfall : ∀ i (h : i < S.size), wfNode fin.facs S[i] = true) :
    ∀ (n si : Nat) (st : FState), si + n = S.size → Inv ρ S st si →
      runNodes avIndex st si (S.toList.drop si) = .ok fin →
      Inv ρ S fin S.size ∧ Ext st.F fin.F := by
  intro n
  induction n with
  | zero =>
    intro si st hn hinv h
    rw [List.drop_of_length_le (by rw [Array.length_toList]; omega)] at h
    cases h
    exact ⟨(hn : si = S.size) ▸ hinv, Ext.refl _⟩
  | succ n ih =>
    intro si st hn hinv h
    have hsi : si < S.size := by omega
    rw [List.drop_eq_getElem_cons (by rw [Array.length_toList]; exact hsi),
      Array.getElem_toList] at h
    unfold runNodes at h
    split at h
    · cases h
    rename_i st1 hstep
    obtain ⟨d, hd⟩ := (stepNode_ok avIndex st si _ st1 hstep).1
    have hwf_now : wfNode st.facs S[si] = true := by
      rw [← hwfall si hsi]
      apply wfNode_congr
      intro x hx
      have hxlt : x < si := hcS si hsi x hx
      rw [(runNodes_steps avIndex fin _ st1 (si + 1) h).2.1 x
        (by rw [hd, Array.size_push, hinv.nfacs]; omega), hd, Array.getElem?_push,
        if_neg (by rw [hinv.nfacs]; omega)]
    obtain ⟨hinv1, hx1⟩ := stepNode_post ρ hρ hreal S hcS avIndex st si hsi hinv hwf_now st1 hstep
    obtain ⟨hfin, hx2⟩ := ih (si + 1) st1 (by omega) hinv1 h
    exact ⟨hfin, hx1.trans hx2⟩

end
end Ffcx.IR
