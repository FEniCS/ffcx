/-
An accumulate-only array keeps its shape (dims, const flag, number of entries) through `exec`.
-/
import FfcxProofs.Lemmas.ExecSim
import FfcxModel.LNodes.Static

namespace Ffcx.LNodes
variable {R : Type} [Add R] [Sub R] [Mul R] [Div R] [Neg R] [IntCast R] (x : Extra R)

/-- the scalar array `A` exists with these dimensions, constness and number of entries -/
def ShapeAt (A : String) (dims : List Nat) (c : Bool) (sz : Nat) (σ : St R) : Prop :=
  ∃ a, σ.sa.get A = some a ∧ a.dims = dims ∧ a.const = c ∧ a.data.size = sz

variable {A : String} {dims : List Nat} {c : Bool} {sz : Nat}

omit [Add R] [Sub R] [Mul R] [Div R] [Neg R] [IntCast R] in
theorem ShapeAt.of_sa {σ σ' : St R} (hp : ShapeAt A dims c sz σ) (h : σ'.sa = σ.sa) :
    ShapeAt A dims c sz σ' := by
  obtain ⟨a, ha, r⟩ := hp
  exact ⟨a, h ▸ ha, r⟩

omit [Add R] [Sub R] [Mul R] [Div R] [Neg R] [IntCast R] in
theorem ShapeAt.setSA_ne {σ : St R} (hp : ShapeAt A dims c sz σ) {m : String} (hm : m ≠ A)
    (b : Arr R) : ShapeAt A dims c sz (σ.setSA m b) := by
  obtain ⟨a, ha, r⟩ := hp
  exact ⟨a, (AList.get_set_ne _ _ _ _ hm).trans ha, r⟩

omit [Add R] [Sub R] [Mul R] [Div R] [Neg R] in
theorem store_shapeA (σ σ' : St R) (lhs : Expr) (f : R → R) (hp : ShapeAt A dims c sz σ)
    (h : store x σ lhs f = .ok σ') : ShapeAt A dims c sz σ' := by
  obtain ⟨n, dt, v, rfl, _, rfl⟩ | ⟨arr, dt, ix, b, k, rfl, hb, _, rfl⟩ := store_ok_cases x h
  · exact hp.of_sa rfl
  · by_cases hA : arr = A
    · -- an entry of `A` itself is overwritten: dims, const flag and size stay
      subst hA
      obtain ⟨a, ha, hd, hc, hs⟩ := hp
      cases hb.symm.trans ha
      exact ⟨_, AList.get_set_self .., hd, hc, Array.size_setIfInBounds.trans hs⟩
    · exact hp.setSA_ne hA _

theorem onlyAccum_closed (A : String) : SubClosed (onlyAccum A · = true) (onlyAccumL A · = true) where
  cons h := by simpa only [onlyAccumL, Bool.and_eq_true] using h
  block h := by simpa only [onlyAccum] using h
  sect h := by simpa only [onlyAccum, Bool.and_eq_true] using h
  body h := by simp only [onlyAccum, Bool.and_eq_true] at h; exact h.2

/-- of `onlyAccum A s` only this is used: `s` is no array declaration of `A` -/
theorem leaf_shapeA {s : Stmt} (hl : Leaf s) (hs : onlyAccum A s = true) (σ σ' : St R)
    (hp : ShapeAt A dims c sz σ) (h : exec x s σ = .ok σ') : ShapeAt A dims c sz σ' := by
  cases hl with
  | assign l r | addAssign l r =>
    simp only [exec] at h
    exact store_shapeA x σ σ' l _ hp (ite_eq_of_else_ne h nofun).2
  | vdecl m dt v => obtain ⟨k, rfl⟩ | ⟨r, rfl⟩ := vdecl_ok_cases x h <;> exact hp.of_sa rfl
  | adecl m dt sizes cc vals =>
    simp only [onlyAccum, Bool.and_eq_true, bne_iff_ne, ne_eq] at hs
    obtain ⟨a, rfl⟩ := adecl_ok_cases x h
    exact hp.setSA_ne hs.1 _

theorem exec_shapeA (s : Stmt) (σ σ' : St R) (hs : onlyAccum A s = true)
    (hp : ShapeAt A dims c sz σ) (h : exec x s σ = .ok σ') : ShapeAt A dims c sz σ' :=
  exec_inv (interp_exec x) (onlyAccum_closed A) (leaf_shapeA x) (fun _ _ _ hp => hp.of_sa rfl)
    s σ σ' hs hp h

theorem execL_shapeA : ∀ (ss : List Stmt) (σ σ' : St R), onlyAccumL A ss = true →
    ShapeAt A dims c sz σ → execL x ss σ = .ok σ' → ShapeAt A dims c sz σ' :=
  fun ss σ σ' hs hp h => exec_shapeA x (.block ss) σ σ' (by simpa only [onlyAccum] using hs) hp
    (by simpa only [exec] using h)

end Ffcx.LNodes
