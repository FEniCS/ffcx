/-
Observational equivalence of kernels up to dead integer variables (loop indices) and temporaries.

`ObsRes D` (Lemmas/Commute): both runs fail, or both succeed in states that agree on every scalar
variable and every array (so on `A`) and on every integer variable outside `D`.  `ObsRes2 D T` also
ignores the names in `T`, in all four stores.  Both are `SimRes Q` — `OutRel` with any two errors
related — at `Q = ObsEq D` resp. `Obs2 D T` (`obsRes_iff`, `obsRes2_iff`), and a lemma about them is the
`SimRes` lemma carried across.  `Refines D T` asks `Obs2` only when the new run succeeds; it is
one-sided, so no `OutRel`: its lemmas go through `refines_iff`.
First the relations by themselves, with no operations of `R` in scope; then, with them in scope, the
rest of the families (six of them, `ObsRes.symm/.mono/.of_eq`, `Refines.trans/.mono/.bind_left`, need none but
keep the class arguments their statements have) `ObsRes` and `Refines` and what runs code: a statement list after related outcomes
(`bind_execL`), and `commB_sound`: the finite certificate `commB` gives the hypotheses of
`exec_commute_obs` for ALL names.
-/
import FfcxProofs.Lemmas.Threads
import FfcxProofs.Lemmas.Commute

namespace Ffcx.LNodes
open Ffcx.LNodes.Opt

section Relations
variable {R : Type}

/-- both runs fail, or both succeed in `Q`-related states -/
abbrev SimRes (Q : St R → St R → Prop) : Except Err (St R) → Except Err (St R) → Prop :=
  OutRel (fun _ _ => True) Q

namespace SimRes
variable {Q : St R → St R → Prop} {a b c : Except Err (St R)}

theorem refl (hQ : ∀ σ, Q σ σ) (r : Except Err (St R)) : SimRes Q r r :=
  OutRel.refl (fun _ => trivial) hQ r

theorem symm (h : SimRes Q a b) (hQ : ∀ σ τ, Q σ τ → Q τ σ) : SimRes Q b a :=
  OutRel.symm h (fun _ _ _ => trivial) hQ

theorem trans (h1 : SimRes Q a b) (h2 : SimRes Q b c) (hQ : ∀ σ τ υ, Q σ τ → Q τ υ → Q σ υ) :
    SimRes Q a c :=
  OutRel.trans h1 h2 (fun _ _ _ _ _ => trivial) hQ

theorem bind_left (a : Except Err (St R)) {f g : St R → Except Err (St R)}
    (h : ∀ σ, SimRes Q (f σ) (g σ)) : SimRes Q (a.bind f) (a.bind g) :=
  OutRel.bind_left (fun _ => trivial) a h

end SimRes

variable {D : String → Prop}

theorem obsRes_iff {a b : Except Err (St R)} : ObsRes D a b ↔ SimRes (ObsEq D) a b := by
  cases a <;> cases b <;> exact Iff.rfl

theorem ObsRes.refl (r : Except Err (St R)) : ObsRes D r r :=
  obsRes_iff.2 (SimRes.refl AgreeOnQ.refl r)

theorem ObsRes.trans {a b c : Except Err (St R)} (h1 : ObsRes D a b) (h2 : ObsRes D b c) :
    ObsRes D a c :=
  obsRes_iff.2 ((obsRes_iff.1 h1).trans (obsRes_iff.1 h2) fun _ _ _ => AgreeOnQ.trans)

theorem ObsRes.bind_left (a : Except Err (St R)) {f g : St R → Except Err (St R)}
    (h : ∀ σ, ObsRes D (f σ) (g σ)) : ObsRes D (a.bind f) (a.bind g) :=
  obsRes_iff.2 (SimRes.bind_left a fun σ => obsRes_iff.1 (h σ))

/-- integer variables agree outside `D ∪ T`; scalar variables and arrays agree outside `T` -/
def Obs2 (D T : List String) (σ τ : St R) : Prop :=
  AgreeOnQ (fun m => m ∉ D ∧ m ∉ T) (fun m => m ∉ T) σ τ

/-- both runs fail, or both succeed in `Obs2`-related states -/
def ObsRes2 (D T : List String) : Except Err (St R) → Except Err (St R) → Prop
  | .ok a, .ok b => Obs2 D T a b
  | .error _, .error _ => True
  | _, _ => False

theorem obsRes2_iff {D T : List String} {a b : Except Err (St R)} :
    ObsRes2 D T a b ↔ SimRes (Obs2 D T) a b := by
  cases a <;> cases b <;> exact Iff.rfl

theorem Obs2.mono {D T D' T' : List String} {σ τ : St R} (h : Obs2 D T σ τ)
    (hd : ∀ n, n ∈ D → n ∈ D') (ht : ∀ n, n ∈ T → n ∈ T') : Obs2 D' T' σ τ :=
  AgreeOnQ.mono h (fun n hn => ⟨fun hdn => hn.1 (hd n hdn), fun htn => hn.2 (ht n htn)⟩)
    (fun n hn htn => hn (ht n htn))

theorem ObsRes.toObsRes2 {Dl : List String} (T : List String) {a b : Except Err (St R)}
    (h : ObsRes (fun n => n ∈ Dl) a b) : ObsRes2 Dl T a b :=
  obsRes2_iff.2 ((obsRes_iff.1 h).mono fun _ _ hst =>
    AgreeOnQ.mono hst (fun _ h => h.1) (fun _ _ => trivial))

theorem ObsRes2.refl {D T : List String} (r : Except Err (St R)) : ObsRes2 D T r r :=
  obsRes2_iff.2 (SimRes.refl AgreeOnQ.refl r)

theorem ObsRes2.trans {D T : List String} {a b c : Except Err (St R)} (h1 : ObsRes2 D T a b)
    (h2 : ObsRes2 D T b c) : ObsRes2 D T a c :=
  obsRes2_iff.2 ((obsRes2_iff.1 h1).trans (obsRes2_iff.1 h2) fun _ _ _ => AgreeOnQ.trans)

theorem ObsRes2.mono {D T D' T' : List String} {a b : Except Err (St R)} (h : ObsRes2 D T a b)
    (hd : ∀ n, n ∈ D → n ∈ D') (ht : ∀ n, n ∈ T → n ∈ T') : ObsRes2 D' T' a b :=
  obsRes2_iff.2 ((obsRes2_iff.1 h).mono fun _ _ hst => hst.mono hd ht)

theorem ObsRes2.bind_left {D T : List String} (a : Except Err (St R))
    {f g : St R → Except Err (St R)} (h : ∀ σ, ObsRes2 D T (f σ) (g σ)) :
    ObsRes2 D T (a.bind f) (a.bind g) :=
  obsRes2_iff.2 (SimRes.bind_left a fun σ => obsRes2_iff.1 (h σ))

/-- whenever the new run succeeds, so does the old one, in an `Obs2`-related state -/
def Refines (D T : List String) (old new : Except Err (St R)) : Prop :=
  match new with
  | .ok b => ∃ a, old = .ok a ∧ Obs2 D T a b
  | .error _ => True

theorem refines_iff {D T : List String} {old new : Except Err (St R)} :
    Refines D T old new ↔ ∀ b, new = .ok b → ∃ a, old = .ok a ∧ Obs2 D T a b := by
  cases new with
  | error e => exact ⟨fun _ _ h => (nomatch h), fun _ => trivial⟩
  | ok b => exact ⟨fun h _ hb => Except.ok.inj hb ▸ h, fun h => h b rfl⟩

theorem Refines.refl {D T : List String} (r : Except Err (St R)) : Refines D T r r :=
  refines_iff.2 fun b hb => ⟨b, hb, AgreeOnQ.refl b⟩

theorem ObsRes2.toRefines {D T : List String} {a b : Except Err (St R)} (h : ObsRes2 D T a b) :
    Refines D T a b := by
  cases b with
  | error e => trivial
  | ok bb =>
    cases a with
    | error e => exact h.elim
    | ok aa => exact ⟨aa, rfl, h⟩

end Relations

variable {R : Type} [Add R] [Sub R] [Mul R] [Div R] [Neg R] [IntCast R] (x : Extra R)
variable {D : String → Prop}

theorem ObsRes.symm {a b : Except Err (St R)} (h : ObsRes D a b) : ObsRes D b a :=
  obsRes_iff.2 ((obsRes_iff.1 h).symm fun _ _ => AgreeOnQ.symm)

theorem ObsRes.mono {D' : String → Prop} {a b : Except Err (St R)} (h : ObsRes D a b)
    (hd : ∀ n, D n → D' n) : ObsRes D' a b :=
  obsRes_iff.2 ((obsRes_iff.1 h).mono fun _ _ hst =>
    AgreeOnQ.mono hst (fun n hn hdn => hn (hd n hdn)) (fun _ h => h))

theorem ObsRes.of_eq {a b : Except Err (St R)} (h : a = b) : ObsRes D a b := h ▸ ObsRes.refl a

theorem Refines.trans {D T : List String} {a b c : Except Err (St R)} (h1 : Refines D T a b)
    (h2 : Refines D T b c) : Refines D T a c :=
  refines_iff.2 fun cc hc =>
    let ⟨bb, hb, hbc⟩ := refines_iff.1 h2 cc hc
    let ⟨aa, ha, hab⟩ := refines_iff.1 h1 bb hb
    ⟨aa, ha, AgreeOnQ.trans hab hbc⟩

theorem Refines.mono {D T D' T' : List String} {a b : Except Err (St R)} (h : Refines D T a b)
    (hd : ∀ n, n ∈ D → n ∈ D') (ht : ∀ n, n ∈ T → n ∈ T') : Refines D' T' a b :=
  refines_iff.2 fun bb hb =>
    let ⟨aa, ha, hab⟩ := refines_iff.1 h bb hb
    ⟨aa, ha, hab.mono hd ht⟩

theorem Refines.bind_left {D T : List String} (a : Except Err (St R))
    {f g : St R → Except Err (St R)} (h : ∀ σ, Refines D T (f σ) (g σ)) :
    Refines D T (a.bind f) (a.bind g) := by
  cases a with
  | error e => trivial
  | ok s => exact h s

theorem ObsRes.bind_execL {a b : Except Err (St R)} (h : ObsRes D a b) (ss : List Stmt)
    (hd : ∀ n, freeSL n ss = true → ¬ D n) :
    ObsRes D (a.bind (execL x ss)) (b.bind (execL x ss)) :=
  obsRes_iff.2 ((obsRes_iff.1 h).bind fun σ τ hst =>
    (execL_agreeOnQ x ss (fun n => ¬ D n) σ τ hd (fun _ _ => trivial) hst).anyErr)

theorem execL_obs2 {D T : List String} (ss : List Stmt) (hd : ∀ n, freeSL n ss = true → n ∉ D)
    (ht : ∀ n, mentionsSL n ss = true → n ∉ T) (σ τ : St R) (h : Obs2 D T σ τ) :
    OutRel Eq (Obs2 D T) (execL x ss σ) (execL x ss τ) :=
  execL_agreeOnQ x ss (fun m => m ∉ D ∧ m ∉ T) σ τ
    (fun n hn => ⟨hd n hn, ht n (mentionsL_of_free n ss hn)⟩) ht h

theorem ObsRes2.bind_execL {D T : List String} {a b : Except Err (St R)} (h : ObsRes2 D T a b)
    (ss : List Stmt) (hd : ∀ n, freeSL n ss = true → n ∉ D) (ht : ∀ n, mentionsSL n ss = true → n ∉ T) :
    ObsRes2 D T (a.bind (execL x ss)) (b.bind (execL x ss)) :=
  obsRes2_iff.2 ((obsRes2_iff.1 h).bind fun σ τ hst => (execL_obs2 x ss hd ht σ τ hst).anyErr)

theorem Refines.bind_execL {D T : List String} {a b : Except Err (St R)} (h : Refines D T a b)
    (ss : List Stmt) (hd : ∀ n, freeSL n ss = true → n ∉ D) (ht : ∀ n, mentionsSL n ss = true → n ∉ T) :
    Refines D T (a.bind (execL x ss)) (b.bind (execL x ss)) := by
  refine refines_iff.2 fun b' hb' => ?_
  obtain ⟨bb, rfl, h2⟩ := bind_eq_ok.mp hb'
  obtain ⟨aa, rfl, hab⟩ := refines_iff.1 h bb rfl
  have := execL_obs2 x ss hd ht aa bb hab
  rw [h2] at this
  cases h1 : execL x ss aa with
  | error e => rw [h1] at this; exact this.elim
  | ok a' => rw [h1] at this; exact ⟨a', h1, this⟩

theorem commB_sound (Dl : List String) (s₁ s₂ : Stmt) (h : commB Dl s₁ s₂ = true) (σ : St R) :
    ObsRes (fun n => n ∈ Dl) ((exec x s₁ σ).bind (exec x s₂)) ((exec x s₂ σ).bind (exec x s₁)) := by
  simp only [commB, List.all_eq_true, List.mem_append] at h
  -- `commAt` at a mentioned name, as implications
  have key : ∀ n, (mentionsS n s₁ = true ∨ mentionsS n s₂ = true) →
      (freeS n s₁ = true → neverWritten n s₂ = true) ∧
      (freeS n s₂ = true → neverWritten n s₁ = true) ∧
      (mentionsS n s₁ = true → neverWritten n s₂ = true ∨ noStore n s₂ = true) ∧
      (mentionsS n s₂ = true → neverWritten n s₁ = true ∨ noStore n s₁ = true) ∧
      (neverWritten n s₁ = false → neverWritten n s₂ = false →
        n ∈ Dl ∧ noStore n s₁ = true ∧ noStore n s₂ = true) := by
    intro n hn
    have := h n (hn.imp (mem_namesS s₁) (mem_namesS s₂))
    simp only [commAt, Bool.and_eq_true, Bool.or_eq_true, Bool.not_eq_true',
      List.contains_iff_mem] at this
    obtain ⟨⟨⟨⟨c1, c2⟩, c3⟩, c4⟩, c5⟩ := this
    have no : ∀ {b : Bool} {p : Prop}, b = false ∨ p → b = true → p :=
      fun hb ht => hb.resolve_left (by simp [ht])
    refine ⟨no c1, no c2, fun hm => no (or_assoc.mp c3) hm, fun hm => no (or_assoc.mp c4) hm,
      fun h1 h2 => ?_⟩
    rcases c5 with (c5 | c5) | c5
    · rw [h1] at c5; cases c5
    · rw [h2] at c5; cases c5
    · exact ⟨c5.1.1, c5.1.2, c5.2⟩
  refine exec_commute_obs x s₁ s₂ (fun n hn => (key n (Or.inl (mentions_of_free n s₁ hn))).1 hn)
    (fun n hn => (key n (Or.inr (mentions_of_free n s₂ hn))).2.1 hn)
    (fun n hn => (key n (Or.inl hn)).2.2.1 hn) (fun n hn => (key n (Or.inr hn)).2.2.2.1 hn) ?_ σ
  intro n h1 h2
  have hm : mentionsS n s₁ = true := by
    cases hm : mentionsS n s₁
    · rw [neverWritten_of_not_mentions n s₁ hm] at h1; cases h1
    · rfl
  exact (key n (Or.inl hm)).2.2.2.2 h1 h2

end Ffcx.LNodes
