/-
Agreement of two states on names, and what depends only on it.  An expression looks up symbols
(integer and scalar variables) among the names it mentions (`mentionsE`) and arrays among the names it
subscripts (`Perm.readsE`); if two states agree on a set `Ps` for symbols and on a set `Pa` for arrays —
in the `*_congr` lemmas `hiv`, `hsv` (integer and scalar variables) range over `Ps`, `hia`, `hsa` (integer
and scalar arrays) over `Pa` — and `Ps`, `Pa` cover the names mentioned resp. subscripted, then its value
(`evalI_congr`, `evalEB_congr`), the cell an access resolves to (`resolve_congr`) and its safety
(`safeE_congr`) are the same in both.  `AgreeOn P` is the case `Ps = Pa = P ⊇` the names mentioned
(`*_agreeOn`); replacing one integer array that is not subscripted is the case `Ps = all`, `Pa = (· ≠ a)`
(Lemmas/GeomIndep).  The statement-level lemma is `exec_agreeOn` (Lemmas/AgreeOnExec).
-/
import FfcxModel.LNodes.Sem
import FfcxModel.LNodes.Static
import FfcxModel.IR.Perm
import FfcxProofs.Lemmas.Basics

namespace Ffcx.LNodes

section
variable {R : Type}

structure AgreeOn (P : String → Prop) (σ τ : St R) : Prop where
  iv : ∀ n, P n → σ.iv.get n = τ.iv.get n
  sv : ∀ n, P n → σ.sv.get n = τ.sv.get n
  ia : ∀ n, P n → σ.ia.get n = τ.ia.get n
  sa : ∀ n, P n → σ.sa.get n = τ.sa.get n

variable {P : String → Prop}

theorem mentionsL_eq_false_iff {n : String} : ∀ {es : List Expr},
    mentionsL n es = false ↔ ∀ e ∈ es, mentionsE n e = false
  | [] => by simp [mentionsL]
  | e :: es => by
    simp only [mentionsL, Bool.or_eq_false_iff, List.forall_mem_cons, mentionsL_eq_false_iff (es := es)]

theorem mentionsL_mem {n : String} : ∀ {es : List Expr} {e : Expr}, e ∈ es → mentionsE n e = true →
    mentionsL n es = true
  | es, e, hmem, h => by
    cases hl : mentionsL n es
    · rw [mentionsL_eq_false_iff.1 hl e hmem] at h; cases h
    · rfl

theorem safeL_eq_true_iff {σ : St R} : ∀ {es : List Expr},
    safeE.safeL σ es = true ↔ ∀ e ∈ es, safeE σ e = true
  | [] => by simp [safeE.safeL]
  | e :: es => by
    simp only [safeE.safeL, Bool.and_eq_true, List.forall_mem_cons, safeL_eq_true_iff (es := es)]

-- "the array `n` is subscripted in `e`"; not `LNodes.readsE` (FfcxModel/LNodes/Reads), which records indices
open Ffcx.Perm (readsE readsL)

mutual
theorem mentions_of_reads {n : String} : ∀ (e : Expr), readsE n e = true → mentionsE n e = true
  | .litF .., h | .litI _, h | .sym .., h => nomatch h
  | .mi s z gi, h => by
    simp only [readsE, Bool.or_eq_true] at h
    simp only [mentionsE, Bool.or_eq_true]
    exact h.imp (mentionsL_of_reads s) (mentions_of_reads gi)
  | .neg a, h | .not a, h => by
    simp only [readsE] at h
    simp only [mentionsE, mentions_of_reads a h]
  | .bin _ a b, h => by
    simp only [readsE, Bool.or_eq_true] at h
    simp only [mentionsE, Bool.or_eq_true]
    exact h.imp (mentions_of_reads a) (mentions_of_reads b)
  | .sum es, h | .prod es, h | .call _ _ es, h => by
    simp only [readsE] at h
    simp only [mentionsE, mentionsL_of_reads es h]
  | .idx arr _ ix, h => by
    simp only [readsE, Bool.or_eq_true] at h
    simp only [mentionsE, Bool.or_eq_true]
    exact h.imp id (mentionsL_of_reads ix)
  | .cond c t f, h => by
    simp only [readsE, Bool.or_eq_true] at h
    simp only [mentionsE, Bool.or_eq_true]
    exact h.imp (Or.imp (mentions_of_reads c) (mentions_of_reads t)) (mentions_of_reads f)

theorem mentionsL_of_reads {n : String} : ∀ (es : List Expr), readsL n es = true → mentionsL n es = true
  | [], h => nomatch h
  | e :: es, h => by
    simp only [readsL, Bool.or_eq_true] at h
    simp only [mentionsL, Bool.or_eq_true]
    exact h.imp (mentions_of_reads e) (mentionsL_of_reads es)
end

theorem covers_reads {e : Expr} (hp : ∀ n, mentionsE n e = true → P n) (n : String)
    (hn : readsE n e = true) : P n := hp n (mentions_of_reads e hn)

theorem covers_readsL {es : List Expr} (hp : ∀ n, mentionsL n es = true → P n) (n : String)
    (hn : readsL n es = true) : P n := hp n (mentionsL_of_reads es hn)

section IntEval
variable {iv iv' : AList Int} {ia ia' : AList (Array Int)} {Ps Pa : String → Prop}
  (hiv : ∀ n, Ps n → iv.get n = iv'.get n) (hia : ∀ n, Pa n → ia.get n = ia'.get n)
include hiv hia

-- in a `mutual` block a theorem may use a section hypothesis only through its calls of the others
set_option linter.unusedSectionVars false in
mutual
theorem evalI_congr : ∀ (e : Expr), (∀ n, mentionsE n e = true → Ps n) →
    (∀ n, readsE n e = true → Pa n) → evalI iv ia e = evalI iv' ia' e
  | .litI _, _, _ | .litF .., _, _ | .not _, _, _ | .call .., _, _ | .cond .., _, _ => by
    simp only [evalI]
  | .sym n dt, hp, _ => by simp only [evalI, hiv n (forall_beq_true.mp hp)]
  | .mi s z gi, hp, hq => by
    simp only [evalI, evalI_congr gi (forall_or_true.mp hp).2 (forall_or_true.mp hq).2]
  | .neg a, hp, hq => by simp only [evalI, evalI_congr a hp hq]
  | .bin op a b, hp, hq => by
    have ⟨ha, hb⟩ := forall_or_true.mp hp
    have ⟨ha', hb'⟩ := forall_or_true.mp hq
    cases op <;> simp only [evalI, evalI_congr a ha ha', evalI_congr b hb hb']
  | .sum args, hp, hq => by simp only [evalI, evalISum_congr args hp hq]
  | .prod args, hp, hq => by simp only [evalI, evalIProd_congr args hp hq]
  | .idx arr dt [], _, _ | .idx arr dt (_ :: _ :: _), _, _ => by simp only [evalI]
  | .idx arr dt [i], hp, hq => by
    have hp := forall_or_true.mp hp
    have hq := forall_or_true.mp hq
    simp only [evalI, hia arr (forall_beq_true.mp hq.1),
      evalI_congr i (forall_or_true.mp hp.2).1 (forall_or_true.mp hq.2).1]

theorem evalISum_congr : ∀ (es : List Expr), (∀ n, mentionsL n es = true → Ps n) →
    (∀ n, readsL n es = true → Pa n) → evalI.evalISum iv ia es = evalI.evalISum iv' ia' es
  | [], _, _ => rfl
  | e :: es, hp, hq => by
    have hp := forall_or_true.mp hp
    have hq := forall_or_true.mp hq
    simp only [evalI.evalISum, evalI_congr e hp.1 hq.1, evalISum_congr es hp.2 hq.2]

theorem evalIProd_congr : ∀ (es : List Expr), (∀ n, mentionsL n es = true → Ps n) →
    (∀ n, readsL n es = true → Pa n) → evalI.evalIProd iv ia es = evalI.evalIProd iv' ia' es
  | [], _, _ => rfl
  | e :: es, hp, hq => by
    have hp := forall_or_true.mp hp
    have hq := forall_or_true.mp hq
    simp only [evalI.evalIProd, evalI_congr e hp.1 hq.1, evalIProd_congr es hp.2 hq.2]
end

theorem evalIs_congr : ∀ (es : List Expr), (∀ n, mentionsL n es = true → Ps n) →
    (∀ n, readsL n es = true → Pa n) → evalIs iv ia es = evalIs iv' ia' es
  | [], _, _ => rfl
  | e :: es, hp, hq => by
    have hp := forall_or_true.mp hp
    have hq := forall_or_true.mp hq
    simp only [evalIs, evalI_congr hiv hia e hp.1 hq.1, evalIs_congr es hp.2 hq.2]

end IntEval

section Congr
variable {Ps Pa : String → Prop} (x : Extra R) {σ τ : St R}
  (hiv : ∀ n, Ps n → σ.iv.get n = τ.iv.get n) (hsv : ∀ n, Ps n → σ.sv.get n = τ.sv.get n)
  (hia : ∀ n, Pa n → σ.ia.get n = τ.ia.get n) (hsa : ∀ n, Pa n → σ.sa.get n = τ.sa.get n)
include hiv hsv hia hsa

omit hsv in
theorem resolve_congr (arr : String) (ix : List Expr) (harr : Pa arr)
    (hp : ∀ n, mentionsL n ix = true → Ps n) (hq : ∀ n, readsL n ix = true → Pa n) :
    resolve σ arr ix = resolve τ arr ix := by
  simp only [resolve, hsa arr harr, evalIs_congr hiv hia ix hp hq]

-- as in `evalI_congr`
set_option linter.unusedSectionVars false in
mutual
theorem safeE_congr : ∀ (e : Expr), (∀ n, mentionsE n e = true → Ps n) →
    (∀ n, readsE n e = true → Pa n) → safeE σ e = safeE τ e
  | .litF .., _, _ | .litI .., _, _ => by simp only [safeE]
  | .sym n dt, hp, _ => by
    have hn := forall_beq_true.mp hp
    simp only [safeE, hiv n hn, hsv n hn]
  | .mi s z gi, hp, hq => by
    simp only [safeE, evalI_congr hiv hia gi (forall_or_true.mp hp).2 (forall_or_true.mp hq).2]
  | .neg a, hp, hq | .not a, hp, hq => by simp only [safeE, safeE_congr a hp hq]
  | .bin op a b, hp, hq => by
    have hp := forall_or_true.mp hp
    have hq := forall_or_true.mp hq
    simp only [safeE, safeE_congr a hp.1 hq.1, safeE_congr b hp.2 hq.2]
  | .sum args, hp, hq | .prod args, hp, hq | .call _ _ args, hp, hq => by
    simp only [safeE, safeL_congr args hp hq]
  | .idx arr dt ix, hp, hq => by
    have ⟨_, hix⟩ := forall_or_true.mp hp
    have ⟨harr, hix'⟩ := forall_or_true.mp hq
    simp only [safeE, evalI_congr hiv hia (.idx arr dt ix) hp hq,
      evalIs_congr hiv hia ix hix hix', hsa arr (forall_beq_true.mp harr)]
  | .cond c t f, hp, hq => by
    have ⟨hct, hf⟩ := forall_or_true.mp hp
    have ⟨hc, ht⟩ := forall_or_true.mp hct
    have ⟨hct', hf'⟩ := forall_or_true.mp hq
    have ⟨hc', ht'⟩ := forall_or_true.mp hct'
    simp only [safeE, safeE_congr c hc hc', safeE_congr t ht ht', safeE_congr f hf hf']

theorem safeL_congr : ∀ (es : List Expr), (∀ n, mentionsL n es = true → Ps n) →
    (∀ n, readsL n es = true → Pa n) → safeE.safeL σ es = safeE.safeL τ es
  | [], _, _ => rfl
  | e :: es, hp, hq => by
    have hp := forall_or_true.mp hp
    have hq := forall_or_true.mp hq
    simp only [safeE.safeL, safeE_congr e hp.1 hq.1, safeL_congr es hp.2 hq.2]
end

variable [Add R] [Sub R] [Mul R] [Div R] [Neg R] [IntCast R]

-- as in `evalI_congr`
set_option linter.unusedSectionVars false in
mutual
/-- value and truth value together: `eval` and `evalB` call each other -/
theorem evalEB_congr : ∀ (e : Expr), (∀ n, mentionsE n e = true → Ps n) →
    (∀ n, readsE n e = true → Pa n) → eval x σ e = eval x τ e ∧ evalB x σ e = evalB x τ e
  | .litF .., _, _ | .litI .., _, _ => by simp only [eval, evalB, and_self]
  | .sym n dt, hp, _ => by
    have hn := forall_beq_true.mp hp
    simp only [eval, evalB, hiv n hn, hsv n hn, and_self]
  | .mi s z gi, hp, hq => by
    simp only [eval, evalB, evalI_congr hiv hia (.mi s z gi) hp hq, and_self]
  | .neg a, hp, hq => by simp only [eval, evalB, (evalEB_congr a hp hq).1, and_self]
  | .not a, hp, hq => by simp only [eval, evalB, (evalEB_congr a hp hq).2, and_self]
  | .bin op a b, hp, hq => by
    have ⟨ha, hb⟩ := forall_or_true.mp hp
    have ⟨ha', hb'⟩ := forall_or_true.mp hq
    have ⟨ha, hba⟩ := evalEB_congr a ha ha'
    have ⟨hb, hbb⟩ := evalEB_congr b hb hb'
    cases op <;> simp only [eval, evalB, ha, hb, hba, hbb, and_self]
  | .sum args, hp, hq | .prod args, hp, hq | .call _ _ args, hp, hq => by
    simp only [eval, evalB, evalL_congr args hp hq, and_self]
  | .idx arr dt ix, hp, hq => by
    have ⟨_, hix⟩ := forall_or_true.mp hp
    have ⟨harr, hix'⟩ := forall_or_true.mp hq
    simp only [eval, evalB, readArr, evalI_congr hiv hia (.idx arr dt ix) hp hq,
      evalIs_congr hiv hia ix hix hix', hsa arr (forall_beq_true.mp harr), and_self]
  | .cond c t f, hp, hq => by
    have ⟨hct, hf⟩ := forall_or_true.mp hp
    have ⟨hc, ht⟩ := forall_or_true.mp hct
    have ⟨hct', hf'⟩ := forall_or_true.mp hq
    have ⟨hc', ht'⟩ := forall_or_true.mp hct'
    simp only [eval, evalB, (evalEB_congr c hc hc').2, (evalEB_congr t ht ht').1,
      (evalEB_congr f hf hf').1, and_self]

theorem evalL_congr : ∀ (es : List Expr), (∀ n, mentionsL n es = true → Ps n) →
    (∀ n, readsL n es = true → Pa n) → evalL x σ es = evalL x τ es
  | [], _, _ => rfl
  | e :: es, hp, hq => by
    have hp := forall_or_true.mp hp
    have hq := forall_or_true.mp hq
    simp only [evalL, (evalEB_congr e hp.1 hq.1).1, evalL_congr es hp.2 hq.2]
end

end Congr

theorem evalI_agreeOn {σ τ : St R} (h : AgreeOn P σ τ) (e : Expr)
    (hp : ∀ n, mentionsE n e = true → P n) : evalI σ.iv σ.ia e = evalI τ.iv τ.ia e :=
  evalI_congr h.iv h.ia e hp (covers_reads hp)

variable (x : Extra R) {σ τ : St R} (h : AgreeOn P σ τ)
include h

theorem resolve_agreeOn (arr : String) (ix : List Expr)
    (harr : P arr) (hix : ∀ n, mentionsL n ix = true → P n) :
    resolve σ arr ix = resolve τ arr ix :=
  resolve_congr h.iv h.ia h.sa arr ix harr hix (covers_readsL hix)

theorem safeE_agreeOn (e : Expr) (hp : ∀ n, mentionsE n e = true → P n) : safeE σ e = safeE τ e :=
  safeE_congr h.iv h.sv h.ia h.sa e hp (covers_reads hp)

theorem safeL_agreeOn (es : List Expr) (hp : ∀ n, mentionsL n es = true → P n) :
    safeE.safeL σ es = safeE.safeL τ es :=
  safeL_congr h.iv h.sv h.ia h.sa es hp (covers_readsL hp)

variable [Add R] [Sub R] [Mul R] [Div R] [Neg R] [IntCast R]

theorem eval_agreeOn (e : Expr) (hp : ∀ n, mentionsE n e = true → P n) :
    eval x σ e = eval x τ e :=
  (evalEB_congr x h.iv h.sv h.ia h.sa e hp (covers_reads hp)).1

theorem evalB_agreeOn (e : Expr) (hp : ∀ n, mentionsE n e = true → P n) :
    evalB x σ e = evalB x τ e :=
  (evalEB_congr x h.iv h.sv h.ia h.sa e hp (covers_reads hp)).2

theorem evalL_agreeOn (es : List Expr) (hp : ∀ n, mentionsL n es = true → P n) :
    evalL x σ es = evalL x τ es :=
  evalL_congr x h.iv h.sv h.ia h.sa es hp (covers_readsL hp)

end

section
-- `evalI` uses no operation of `R`; these two are stated with the six instances all the same
set_option linter.unusedSectionVars false
variable {R : Type} [Add R] [Sub R] [Mul R] [Div R] [Neg R] [IntCast R] {P : String → Prop}

theorem evalISum_agreeOn {σ τ : St R} (h : AgreeOn P σ τ) :
    ∀ (es : List Expr), (∀ n, mentionsL n es = true → P n) →
      evalI.evalISum σ.iv σ.ia es = evalI.evalISum τ.iv τ.ia es :=
  fun es hp => evalISum_congr h.iv h.ia es hp (covers_readsL hp)

theorem evalIProd_agreeOn {σ τ : St R} (h : AgreeOn P σ τ) :
    ∀ (es : List Expr), (∀ n, mentionsL n es = true → P n) →
      evalI.evalIProd σ.iv σ.ia es = evalI.evalIProd τ.iv τ.ia es :=
  fun es hp => evalIProd_congr h.iv h.ia es hp (covers_readsL hp)

end

end Ffcx.LNodes
