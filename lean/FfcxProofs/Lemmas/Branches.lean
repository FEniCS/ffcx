/-
Branch rules for the folding operators of `lnodes.LExpr` (`__add__`, `__radd__`, `__sub__`, `__rsub__`,
`__mul__`, `__rmul__`): a property that holds of the result of every branch, under that branch's
guard, holds of the operator's result.  A fact about `lMul a b` (its value, the names it mentions,
its safety, …) is then one application of `lMul_elim` with one line per branch.  Likewise for the
literal tests `isZero`, `isOne`, `isNegOne` in the guards: what holds of the two literals a test
accepts holds of every expression that passes it (`litTest_elim`).
-/
import FfcxModel.LNodes.Simplify
import FfcxProofs.Lemmas.Basics

namespace Ffcx.LNodes

theorem lAdd_elim {P : Expr → Prop} (a b : Expr)
    (h1 : isZero a = true → P b) (h2 : isZero b = true → P a)
    (h3 : ∀ c, b = .neg c → P (.bin .sub a c)) (h4 : P (.bin .add a b)) : P (lAdd a b) :=
  ite_elim h1 fun _ => ite_elim h2 fun _ => by
    split
    · exact h3 _ rfl
    · exact h4

theorem lRAdd_elim {P : Expr → Prop} (a b : Expr)
    (h1 : isZero a = true → P b) (h2 : isZero b = true → P a)
    (h3 : ∀ c, a = .neg c → P (.bin .sub b c)) (h4 : P (.bin .add b a)) : P (lRAdd a b) :=
  ite_elim h1 fun _ => ite_elim h2 fun _ => by
    split
    · exact h3 _ rfl
    · exact h4

theorem lSub_elim {P : Expr → Prop} (a b : Expr)
    (h1 : isZero a = true → P (lNeg b)) (h2 : isZero b = true → P a)
    (h3 : ∀ c, b = .neg c → P (.bin .add a c))
    (h4 : ∀ u v, a = .litI u → b = .litI v → P (.litI (u - v))) (h5 : P (.bin .sub a b)) :
    P (lSub a b) :=
  ite_elim h1 fun _ => ite_elim h2 fun _ => by
    split
    · exact h3 _ rfl
    · split
      · exact h4 _ _ rfl rfl
      · exact h5

theorem lRSub_elim {P : Expr → Prop} (a b : Expr)
    (h1 : isZero a = true → P b) (h2 : isZero b = true → P (lNeg a))
    (h3 : ∀ c, a = .neg c → P (.bin .add b c)) (h4 : P (.bin .sub b a)) : P (lRSub a b) :=
  ite_elim h1 fun _ => ite_elim h2 fun _ => by
    split
    · exact h3 _ rfl
    · exact h4

theorem lMul_elim {P : Expr → Prop} (a b : Expr)
    (h1 : isZero a = true → P a) (h2 : isZero b = true → P b) (h3 : isOne a = true → P b)
    (h4 : isOne b = true → P a) (h5 : isNegOne b = true → P (.neg a))
    (h6 : isNegOne a = true → P (.neg b))
    (h7 : ∀ u v, a = .litI u → b = .litI v → P (.litI (u * v))) (h8 : P (.bin .mul a b)) :
    P (lMul a b) :=
  ite_elim h1 fun _ => ite_elim h2 fun _ => ite_elim h3 fun _ => ite_elim h4 fun _ =>
    ite_elim h5 fun _ => ite_elim h6 fun _ => by
      split
      · exact h7 _ _ rfl rfl
      · exact h8

theorem lRMul_elim {P : Expr → Prop} (a b : Expr)
    (h1 : isZero a = true → P a) (h2 : isZero b = true → P b) (h3 : isOne a = true → P b)
    (h4 : isOne b = true → P a) (h5 : isNegOne b = true → P (.neg a))
    (h6 : isNegOne a = true → P (.neg b)) (h7 : P (.bin .mul b a)) : P (lRMul a b) :=
  ite_elim h1 fun _ => ite_elim h2 fun _ => ite_elim h3 fun _ => ite_elim h4 fun _ =>
    ite_elim h5 fun _ => ite_elim h6 fun _ => h7

/-- `isZero`, `isOne`, `isNegOne` are one test at `v = 0, 1, -1`: it accepts the float literal `v + 0i`
    and the integer literal `v`, nothing else (so `h` may be `isZero e = true` at `r = v = 0`, …). -/
theorem litTest_elim {P : Expr → Prop} (r : Rat) (v : Int) {e : Expr}
    (h : (match e with
      | .litF re im _ => re == r && im == 0
      | .litI w => w == v
      | _ => false) = true)
    (hF : ∀ c, P (.litF r 0 c)) (hI : P (.litI v)) : P e := by
  split at h
  · simp only [Bool.and_eq_true, beq_iff_eq] at h
    exact h.1 ▸ h.2 ▸ hF _
  · exact beq_iff_eq.1 h ▸ hI
  · cases h

theorem isZero_litI (c : Int) : isZero (.litI c) = true ↔ c = 0 := by simp [isZero]
theorem isOne_litI (c : Int) : isOne (.litI c) = true ↔ c = 1 := by simp [isOne]
theorem isNegOne_litI (c : Int) : isNegOne (.litI c) = true ↔ c = -1 := by simp [isNegOne]

end Ffcx.LNodes
