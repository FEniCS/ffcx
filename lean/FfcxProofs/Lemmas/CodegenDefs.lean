/-
The definition sections `s = 0.0; for (ic…) s += dofs[D(ic)] * FE[…][iq][ic]` of `definitions.py`:
the frame `SFrame` (only `ic` and `s` change), a scalar accumulation loop rule (`scalar_accumulate`), the
value of a generated linear-combination section (`lincombSection_spec`), and its instance for a table
access on a one-symbol dof index (`lincomb_core`), the common core of `coeff_lincomb` / `coord_lincomb`; its
hypothesis on the dof array (`DofsOk`) and the array's entries pass to any state that `Agree`s on the arrays.
-/
import FfcxModel.Codegen.Definitions
import FfcxProofs.Lemmas.CodegenBlock
import FfcxProofs.C17

namespace Ffcx.Codegen
open Ffcx.LNodes Lean.Grind
attribute [local instance] Lean.Grind.Ring.intCast
variable {R : Type}

/-- `τ` is `σ` up to the integer variable `ic` and the scalar variable `a` -/
structure SFrame (a ic : String) (σ τ : St R) : Prop where
  ia : τ.ia = σ.ia
  sa : τ.sa = σ.sa
  iv : ∀ n, n ≠ ic → τ.iv.get n = σ.iv.get n
  sv : ∀ n, n ≠ a → τ.sv.get n = σ.sv.get n

theorem SFrame.refl (a ic : String) (σ : St R) : SFrame a ic σ σ :=
  ⟨rfl, rfl, fun _ _ => rfl, fun _ _ => rfl⟩

theorem SFrame.setIV {a ic : String} {σ τ : St R} (h : SFrame a ic σ τ) (v : Int) :
    SFrame a ic σ (τ.setIV ic v) := by
  refine ⟨h.ia, h.sa, ?_, h.sv⟩
  intro n hn
  simp only [St.setIV, AList.get_set_ne _ _ _ _ (fun e => hn e.symm)]
  exact h.iv n hn

theorem SFrame.setSV {a ic : String} {σ τ : St R} (h : SFrame a ic σ τ) (v : R) :
    SFrame a ic σ (τ.setSV a v) := by
  refine ⟨h.ia, h.sa, h.iv, ?_⟩
  intro n hn
  simp only [St.setSV, AList.get_set_ne _ _ _ _ (fun e => hn e.symm)]
  exact h.sv n hn

variable [Field R] (x : Extra R)

-- needs no field either, but is stated with `[Field R]`
set_option linter.unusedSectionVars false in
theorem SFrame.trans {a ic : String} {σ τ υ : St R} (h₁ : SFrame a ic σ τ) (h₂ : SFrame a ic τ υ) :
    SFrame a ic σ υ :=
  ⟨h₂.ia.trans h₁.ia, h₂.sa.trans h₁.sa, fun n hn => (h₂.iv n hn).trans (h₁.iv n hn),
    fun n hn => (h₂.sv n hn).trans (h₁.sv n hn)⟩

/-- `for (ic = lo; ic < lo+n; ++ic) a += rhs`, where in every state that
    differs from `σ` only in `ic` and `a` the right-hand side is safe and has the value `g ic`:
    afterwards `a` holds its old value plus `Σ g`; only `ic` and `a` have changed. -/
theorem scalar_accumulate (a ic : String) (dt : DType) (hdt : (dt == DType.int) = false) (rhs : Expr)
    (g : Int → R) (σ : St R) (n : Nat) (lo : Int) (τ : St R) (v₀ : R) (hf : SFrame a ic σ τ)
    (hv : τ.sv.get a = some v₀)
    (hr : ∀ (t : Nat) (υ : St R), t < n → SFrame a ic σ υ → υ.iv.get ic = some (lo + t) →
      safeE υ rhs = true ∧ eval x υ rhs = g (lo + t)) :
    ∃ τ', loopN (fun s => execL x [.addAssign (.sym a dt) rhs] s) ic lo n τ = .ok τ' ∧
      SFrame a ic σ τ' ∧ τ'.sv.get a = some (v₀ + isum lo n g) := by
  refine loopN_inv _ ic n (fun t υ => SFrame a ic σ υ ∧ υ.sv.get a = some (v₀ + isum lo t g)) lo τ
    ⟨hf, by rw [hv, isum, Semiring.add_zero]⟩ fun t υ ht ⟨hυ, hvυ⟩ => ?_
  obtain ⟨hs, he⟩ := hr t (υ.setIV ic (lo + t)) ht (hυ.setIV _) (by simp [St.setIV])
  refine ⟨(υ.setIV ic (lo + t)).setSV a (v₀ + isum lo t g + g (lo + t)), ?_, (hυ.setIV _).setSV _, ?_⟩
  · have hv₁ : (υ.setIV ic (lo + t)).sv.get a = some (v₀ + isum lo t g) := hvυ
    rw [execL_singleton]
    simp only [exec, hs, if_true, store, hdt, hv₁]
    simp [he]
  · rw [isum_succ_right, ← Semiring.add_assoc]
    simp [St.setSV]

/-- the right-hand side `dofs[D] * FE` of a linear-combination section -/
def Lincomb.rhs (l : Lincomb) : Expr := lMul (.idx l.arr l.arrDt [l.dofIdx]) l.fe

/-- `scalar_accumulate` for the generated section `s = 0.0; for (ic < n) s += dofs[D] * FE` -/
theorem lincombSection_spec (hlaw : LawfulExtra x) (l : Lincomb) (n : Nat)
    (hic : l.ic = { syms := ["ic"], sizes := [n] })
    (hdt1 : (l.dtype == DType.int) = false) (hdt2 : (l.dtype == DType.bool) = false)
    (g : Int → R) (σ : St R)
    (hr : ∀ (t : Nat) (υ : St R), t < n → SFrame l.access "ic" σ υ → υ.iv.get "ic" = some (t : Int) →
      safeE υ l.rhs = true ∧ eval x υ l.rhs = g t) :
    ∃ σ', exec x (lincombSection l) σ = .ok σ' ∧ SFrame l.access "ic" σ σ' ∧
      σ'.sv.get l.access = some (isum 0 n g) := by
  have hdecl : execL x [.vdecl l.access l.dtype (.litF 0 0 false)] σ = .ok (σ.setSV l.access 0) := by
    rw [execL_singleton]
    simp [exec, hdt1, hdt2, safeE, eval, hlaw.ofRat_zero]
  obtain ⟨σ', hl, hf, hv⟩ := scalar_accumulate x l.access "ic" l.dtype hdt1 l.rhs g σ n 0
    (σ.setSV l.access 0) 0 ((SFrame.refl _ _ σ).setSV 0) (by simp [St.setSV])
    (fun t υ ht hυ hic' => by
      have := hr t υ ht hυ (by simpa using hic')
      simpa using this)
  refine ⟨σ', ?_, hf, by rw [hv, Semiring.add_comm, Semiring.add_zero]⟩
  simp only [lincombSection, exec, hdecl, hic, List.zip_cons_cons, List.zip_nil_right, nestStmt, asStmt]
  rw [execL_singleton]
  simpa [exec, evalI, Lincomb.rhs] using hl

/-- the dof array is declared and the subscripts `D d`, `d < n`, are inside it -/
def DofsOk (σ : St R) (arr : String) (n : Nat) (D : Int → Int) : Prop :=
  ∃ a, σ.sa.get arr = some a ∧ ∀ d : Nat, d < n → (flatIdx a.dims [D d]).isSome = true

omit [Field R] in
theorem DofsOk_agree {A : String} {Pi Ps : String → Prop} {σ τ : St R} (h : Agree A Pi Ps σ τ) (arr : String)
    (hn : arr ≠ A) (n : Nat) (D : Int → Int) (hd : DofsOk σ arr n D) : DofsOk τ arr n D := by
  obtain ⟨a, ha, hin⟩ := hd
  exact ⟨a, by rw [h.sa arr hn]; exact ha, hin⟩

theorem readArr_agree {A : String} {Pi Ps : String → Prop} {σ τ : St R} (h : Agree A Pi Ps σ τ) (arr : String)
    (hn : arr ≠ A) (ix : List Int) : readArr τ arr ix = readArr σ arr ix := by
  simp only [readArr, h.sa arr hn]

/-- the common core of `coeff_lincomb` / `coord_lincomb`: a `Lincomb` whose table access comes from
    `table_access` on a one-symbol dof index and whose dof subscript evaluates to `D ic` -/
theorem lincomb_core (hlaw : LawfulExtra x) (l : Lincomb) (et : String) (t : TableRef) (r : Restr)
    (nq : Nat) (tabs : List String) (D : Int → Int)
    (hic : l.ic = { syms := ["ic"], sizes := [t.ndofs] })
    (hdt1 : (l.dtype == DType.int) = false) (hdt2 : (l.dtype == DType.bool) = false)
    (hadt : (l.arrDt == DType.int) = false)
    (hta : tableAccess t et r { syms := ["iq"], sizes := [nq] } { syms := ["ic"], sizes := [t.ndofs] } =
      .ok (l.fe, tabs))
    (ho : (t.ttype == "ones") = false)
    (hD : ∀ (iv : AList Int) (ia : AList (Array Int)) (d : Int), iv.get "ic" = some d →
      evalI iv ia l.dofIdx = some (D d))
    (σ : St R) (q : Int) (hq : σ.iv.get "iq" = some q)
    (htab : ArgOk σ et q { table := t, restriction := r })
    (hdofs : DofsOk σ l.arr t.ndofs D) :
    ∃ σ', exec x (lincombSection l) σ = .ok σ' ∧ SFrame l.access "ic" σ σ' ∧
      σ'.sv.get l.access = some (isum 0 t.ndofs (fun d =>
        readArr σ l.arr [D d] * argVal σ et q { table := t, restriction := r } d)) := by
  refine lincombSection_spec x hlaw l t.ndofs hic hdt1 hdt2 _ σ ?_
  intro d υ hd hυ hicv
  have hqυ : υ.iv.get "iq" = some q := by rw [hυ.iv "iq" (by decide)]; exact hq
  obtain ⟨f1, f2, _⟩ := tableAccess_sem x t et r "ic" t.ndofs nq l.fe tabs hta ho υ q d hqυ hicv
    (ArgOk_congr hυ.ia et q _ (by rw [hυ.sa]) htab)
  obtain ⟨arr, harr, hin⟩ := hdofs
  have hidx := hD υ.iv υ.ia d hicv
  have hsafeI : safeE υ (.idx l.arr l.arrDt [l.dofIdx]) = true := by
    simp only [safeE, hadt, hυ.sa, harr, evalIs, hidx]
    simpa using hin d hd
  have hevalI : eval x υ (.idx l.arr l.arrDt [l.dofIdx]) = readArr σ l.arr [D d] := by
    simp only [eval, hadt, evalIs, hidx, readArr, hυ.sa]
    rfl
  refine ⟨safe_lMul υ _ _ hsafeI (f2 ⟨Int.natCast_nonneg d, Int.ofNat_lt.mpr hd⟩), ?_⟩
  simp only [Lincomb.rhs]
  rw [mul_sound hlaw, hevalI]
  rw [f1, argVal_congr hυ.ia et q _ d (by rw [hυ.sa])]

end Ffcx.Codegen
