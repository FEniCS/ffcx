/-
C16 — numba statements, text level: items of bracketed lists (`PyItem`: nested list displays, shape
tuples), the pieces of every statement line (`for` headers, assignments with what stands on either
side of `=`, `np.empty/full/array` declarations), comment lines, then `stmt_lx` / `stmt_lex_py`:
the Python lexer reads the text of every well-formed statement back to its intended token stream
with NEWLINE / INDENT / DEDENT. No proof file about the numba parser is imported.
-/
import FfcxProofs.Lemmas.FormatStmtText
import FfcxProofs.Lemmas.FormatPyStmtLx
namespace Ffcx.LNodes.Fmt

/-- an item of a bracketed comma-separated list: separated (line breaks allowed), first token
    well-shaped, last token closed by `,` `]` `)`, and balanced from depth 1: it stands inside a
    bracket, so it may hold line breaks (`nlp`) outside brackets of its own -/
structure PyItem (ps : List Piece) : Prop where
  sepd : Sepd pySepNL pyTokOK (closedBy pySepTok [.comma, .rbrack, .rpar]) ps
  bal : Bal 1 ps

theorem pyItem_of_psp {ps} (h : PSP ps) (hb : Bal 0 ps) : PyItem ps :=
  ⟨h.mono (fun hs => (pySepNL_of_sep _ hs).1) pyIsFirst_ok fun hl => List.all_eq_true.2 fun q hq =>
    pyLaws.before_closer hl ((by decide : ∀ q ∈ [P.comma, .rbrack, .rpar], q ∈ closers) q hq),
    hb.mono (Nat.zero_le 1)⟩

/-- join with `, ` or `,` + line break -/
theorem pyItem_join (w : Piece) (hw : w = sp ∨ w = nlp) (xs : List (List Piece)) (hne : xs ≠ [])
    (hall : ∀ x ∈ xs, PyItem x) : PyItem (joinP [pp .comma, w] xs) := by
  have hsep : pySepNL [pp .comma, w] = true ∧ lastP [pp .comma, w] = none ∧ Bal 1 [pp .comma, w] := by
    rcases hw with rfl | rfl
    · exact ⟨rfl, rfl, bal_cons rfl (bal_cons rfl bal_nil)⟩
    · exact ⟨rfl, rfl, bal_cons rfl bal_nlp⟩
  exact ⟨sepd_join nlEqs hsep.1 (List.cons_ne_nil _ _) (fun x y hx hy => by cases hy; exact closedBy_mem hx (by decide))
    (fun x y hx => by rw [hsep.2.1] at hx; cases hx) xs hne fun x hx => (hall x hx).sepd,
    bal_joinP hsep.2.2 xs fun x hx => (hall x hx).bal⟩

/-- `[ … ]` or `( … )` around a (possibly empty) list -/
theorem pyItem_bracks {o c : P} (hoc : (o = .lbrack ∧ c = .rbrack) ∨ (o = .lpar ∧ c = .rpar))
    {ps : List Piece} (h : ps = [] ∨ PyItem ps) : PyItem ([pp o] ++ ps ++ [pp c]) := by
  have hs : ps = [] ∨ Sepd pySepNL pyTokOK (closedBy pySepTok [.comma, .rbrack, .rpar]) ps := h.imp_right PyItem.sepd
  have hb : Bal 1 ps := by
    rcases h with rfl | h
    · exact bal_nil
    · exact h.bal
  rcases hoc with ⟨rfl, rfl⟩ | ⟨rfl, rfl⟩ <;>
    exact ⟨sepd_bracks nlEqs rfl rfl rfl rfl rfl (fun y hy => pySepTok_start rfl hy)
      (fun x hx => closedBy_mem hx (by decide)) hs, (bal_brackets (by decide) (by decide) hb).mono (Nat.zero_le 1)⟩

abbrev initPiecesPy := initPiecesG .lbrack .rbrack nlp pyNumber

theorem render_initPiecesPy : ∀ (shape : List Nat) (vals : List Expr),
    render (initPiecesPy shape vals) = initListPy shape vals
  | [], _ => rfl
  | [_], _ => by
    simp only [initPiecesG, initListPy, render_append, render_joinP, List.map_map]
    rfl
  | d :: d' :: ds, vals => by
    simp only [initPiecesG, initListPy, render_append, render_joinP, List.map_map]
    rw [show render ∘ initPiecesPy (d' :: ds) = initListPy (d' :: ds) from funext (render_initPiecesPy (d' :: ds))]
    rfl

theorem toks_initPiecesPy : ∀ (shape : List Nat) (vals : List Expr),
    toks (initPiecesPy shape vals) = initToksPy shape vals
  | [], _ => rfl
  | [_], _ => by
    simp only [initPiecesG, initToksPy, toks_append, toks_joinP, List.map_map]
    rfl
  | d :: d' :: ds, vals => by
    simp only [initPiecesG, initToksPy, toks_append, toks_joinP, List.map_map]
    rw [show toks ∘ initPiecesPy (d' :: ds) = initToksPy (d' :: ds) from funext (toks_initPiecesPy (d' :: ds))]
    rfl

theorem pyItem_lit (v : Expr) (hl : isLit v = true) (hwf : wfPy v = true) : PyItem (pyNumber v) := by
  have hs := psp_pieces v hwf
  have e : piecesPy v = pyNumber v := by cases v <;> simp [isLit] at hl <;> simp [piecesPy]
  rw [e] at hs
  exact pyItem_of_psp hs (bal_number v)

theorem pyItem_list {o c : P} (hoc : (o = .lbrack ∧ c = .rbrack) ∨ (o = .lpar ∧ c = .rpar)) (w : Piece)
    (hw : w = sp ∨ w = nlp) (xs : List (List Piece)) (hall : ∀ x ∈ xs, PyItem x) :
    PyItem ([pp o] ++ joinP [pp .comma, w] xs ++ [pp c]) := by
  refine pyItem_bracks hoc ?_
  by_cases hne : xs = []
  · left; subst hne; rfl
  · exact Or.inr (pyItem_join w hw xs hne hall)

theorem pyItem_initPieces (shape : List Nat) (vals : List Expr)
    (hv : ∀ v ∈ vals, isLit v = true ∧ wfPy v = true) : PyItem (initPiecesPy shape vals) :=
  initPiecesG_ind (fun w' hw' xs hall => pyItem_list (Or.inl ⟨rfl, rfl⟩) w' hw' xs hall) shape vals
    fun v hvm => pyItem_lit v (hv v hvm).1 (hv v hvm).2

def numP (n : Nat) : Piece := .t (.num (String.ofList (natDigits n)))

def tuplePiecesPy : List Nat → List Piece
  | [] => [pp .lpar, pp .rpar]
  | [n] => [pp .lpar, numP n, pp .comma, pp .rpar]
  | n :: m :: ns => [pp .lpar] ++ joinP [pp .comma, sp] ((n :: m :: ns).map (fun k => [numP k])) ++ [pp .rpar]

theorem pyTokOK_nat (n : Nat) : pyTokOK (.num (String.ofList (natDigits n))) = true :=
  pyTokOK_num_ofList (pyNumShape_digits _ (natDigits_ne _) (natDigits_digits _))

theorem pyItem_nat (n : Nat) : PyItem [numP n] :=
  pyItem_of_psp ⟨by simp [pySeparated, numP, pyTokOK_nat], ⟨_, rfl, by simp [pyIsFirst, pyTokOK_nat]⟩,
    ⟨_, rfl, by simp [pyIsLast, pyTokOK_nat]⟩⟩ (bal_cons (plain_num _) bal_nil)

theorem render_tuplePiecesPy (sizes : List Nat) : render (tuplePiecesPy sizes) = tupleRepr sizes := by
  cases sizes with
  | nil => rfl
  | cons n l =>
    cases l with
    | nil => simp [tuplePiecesPy, tupleRepr, render, numP, pp, Tok.text, P.text, String.toList_ofList]
    | cons m ns =>
      simp only [tuplePiecesPy, tupleRepr, render_append, render_joinP, List.map_map]
      simp [render, numP, pp, sp, Tok.text, P.text, String.toList_ofList, Function.comp_def]

theorem toks_tuplePiecesPy (sizes : List Nat) : toks (tuplePiecesPy sizes) = tupleToks sizes := by
  cases sizes with
  | nil => rfl
  | cons n l =>
    cases l with
    | nil => rfl
    | cons m ns =>
      simp only [tuplePiecesPy, tupleToks, toks_append, toks_joinP, List.map_map]
      simp [toks, numP, pp, sp, Function.comp_def]

theorem pyItem_tuple (sizes : List Nat) : PyItem (tuplePiecesPy sizes) := by
  cases sizes with
  | nil => exact pyItem_bracks (ps := []) (Or.inr ⟨rfl, rfl⟩) (Or.inl rfl)
  | cons n l =>
    cases l with
    | nil =>
      -- `(n,)`: the item is `n,`
      have : PyItem [numP n, pp .comma] :=
        ⟨⟨sepd_closer nlEqs (pyItem_nat n).sepd (by decide) rfl, ⟨_, rfl, pyTokOK_nat n⟩, ⟨.p .comma, rfl, rfl⟩⟩,
          bal_cons (plain_num _) (bal_cons rfl bal_nil)⟩
      exact pyItem_bracks (Or.inr ⟨rfl, rfl⟩) (Or.inr this)
    | cons m ns =>
      refine pyItem_list (Or.inr ⟨rfl, rfl⟩) sp (Or.inl rfl) _ ?_
      intro x hx
      simp only [List.mem_map] at hx
      obtain ⟨k, _, rfl⟩ := hx
      exact pyItem_nat k

/-- `lhs op rhs` -/
def assignLinePy (lhs : List Piece) (o : P) (rhs : List Piece) : List Piece := lhs ++ ([sp, pp o, sp] ++ rhs)

/-- the dtype name as pieces (`np`, `.`, `float64`) -/
def tyPiecesPy (ty : String) : List Piece := (lexPyFlat ty.toList).map Piece.t

def kwTail (ty : String) : List Piece :=
  [pp .comma, sp, .t (.id "dtype"), pp .assign] ++ (tyPiecesPy ty ++ [pp .rpar])

theorem toks_map_t (ts : List Tok) : toks (ts.map Piece.t) = ts := by
  induction ts with
  | nil => rfl
  | cons t ts ih => simp [ih]

/-- the end of an `np.*` call, `, dtype=np.b)`: its text; it is separated (`=` may touch the name
    `np`, and `)` closes a dotted name); it closes the bracket that the call opened, so it is the one
    piece list here that is not balanced by itself -/
structure KwTailOK (ty : String) : Prop where
  text : render (kwTail ty) = strL ", dtype=" ++ strL ty ++ [')']
  sep : pySepNL (kwTail ty) = true
  closes : ∀ {ps : List Piece}, Bal 1 ps → Bal 0 (pp .lpar :: (ps ++ kwTail ty))

theorem kwTail_ok {sc : Scalar} {dt : DType} {ty : String} (hty : pyTypeName sc dt = some ty) : KwTailOK ty := by
  obtain ⟨b, rfl, hb⟩ := pyTypeName_dotted hty
  have hD := psp_np hb
  refine ⟨?_, ?_, ?_⟩ <;> rw [kwTail, tyPiecesPy, lex_np hb]
  · simp [render, pp, sp, Tok.text, P.text, strL, String.toList_append]
  · exact nlEqs.append (by decide +kernel) (nlEqs.append (pySepNL_of_sep _ hD.sep).1 rfl fun x y hx hy => by
        cases hy; exact pyLaws.before_closer (hD.last_of hx) (by decide))
      fun x y hx hy => by cases hx; cases hy; decide +kernel
  · intro ps h
    have hmid : Bal 1 [pp .comma, sp, .t (.id "dtype"), pp .assign, .t (.id "np"), pp .dot, .t (.id b)] :=
      bal_cons rfl (bal_cons rfl (bal_cons (plain_id _) (bal_cons rfl (bal_cons (plain_id _) (bal_cons rfl
        (bal_cons (plain_id b) bal_nil))))))
    simpa [pp] using bal_brackets (o := .lpar) (c := .rpar) (by decide) (by decide) (bal_append h hmid)

def callP (f : String) (args : List Piece) (ty : String) : List Piece :=
  [.t (.id "np"), pp .dot, .t (.id f), pp .lpar] ++ (args ++ kwTail ty)

def forP (i : String) (lo hi : Expr) : List Piece :=
  [.t (.id "for"), sp, .t (.id i), sp, .t (.id "in"), sp, .t (.id "range"), pp .lpar] ++ (piecesPy lo ++
    ([pp .comma, sp] ++ (piecesPy hi ++ [pp .rpar, pp .colon])))

theorem forP_line (i : String) (lo hi : Expr) (hi' : validIdentPy i = true) (hlo : wfPy lo = true) (hhi : wfPy hi = true) :
    LineOK (forP i lo hi) := by
  have qlo := pyItem_of_psp (psp_pieces lo hlo) (bal_pieces lo)
  have qhi := pyItem_of_psp (psp_pieces hi hhi) (bal_pieces hi)
  have hiok := validIdentPy_tokOK hi'
  refine ⟨⟨?_, ?_⟩, ⟨"for", rfl⟩⟩
  · have h1 := sepd_closer nlEqs qhi.sepd (q := .rpar) (rest := [pp .colon]) (by decide) rfl
    have h3 := sepd_closer nlEqs qlo.sepd (by decide) (nlEqs.tok_ws (t := .p .comma) rfl (nlEqs.sp_cons rfl h1))
    simp only [forP, List.cons_append, List.nil_append, pp]
    have hfor : pyTokOK (.id "for") = true := by decide +kernel
    have hin : pyTokOK (.id "in") = true := by decide +kernel
    have hrange : pyTokOK (.id "range") = true := by decide +kernel
    refine nlEqs.tok_ws hfor (nlEqs.sp_cons rfl (nlEqs.tok_ws hiok (nlEqs.sp_cons rfl (nlEqs.tok_ws hin (nlEqs.sp_cons rfl
      (nlEqs.tok_cons hrange ?_ (nlEqs.free_cons rfl (fun _ => pySepTok_start rfl) h3)))))))
    intro b e; cases e
    exact pySepTok_last (by simp [pyIsLast, hrange]) (c := '(') (cs := []) rfl rfl
  · -- `for i in range` `(lo, hi)` `:`
    have hsep : Bal 1 [pp .comma, sp] := bal_cons rfl (bal_cons rfl bal_nil)
    have hb := bal_brackets (o := .lpar) (c := .rpar) (by decide) (by decide) (bal_append qlo.bal (bal_append hsep qhi.bal))
    have hhd : Bal 0 [.t (.id "for"), sp, .t (.id i), sp, .t (.id "in"), sp, .t (.id "range")] :=
      bal_cons (plain_id _) (bal_cons rfl (bal_cons (plain_id i) (bal_cons rfl (bal_cons (plain_id _)
        (bal_cons rfl (bal_cons (plain_id _) bal_nil))))))
    have hc : Bal 0 [pp .colon] := bal_cons rfl bal_nil
    simpa [forP] using bal_append hhd (bal_append hb hc)

theorem toks_forP (i : String) (lo hi : Expr) :
    toks (forP i lo hi) = [.id "for", .id i, .id "in", .id "range", .p .lpar] ++ tokExprPy lo ++ [.p .comma]
      ++ tokExprPy hi ++ [.p .rpar, .p .colon] := by
  simp [forP, toks_append, toks, sp, pp, tokExprPy]

theorem render_forP (i : String) (lo hi : Expr) :
    render (forP i lo hi) = strL "for " ++ strL i ++ strL " in range(" ++ fmtExprPy lo ++ strL ", " ++ fmtExprPy hi
      ++ strL "):" := by
  simp [forP, render_append, render, sp, pp, Tok.text, P.text, strL, fmtExprPy]

/-- the lines of `_format_comment_str` -/
def commentLines (t : List Char) : List (List Char) := (splitLines [] t).map (fun l => '#' :: ' ' :: l ++ [' '])

theorem unl_commentLines (t : List Char) : unl (commentLines t) = pyComment t := by
  simp [unl, commentLines, pyComment, List.flatMap_map]

theorem lx_comment (t : List Char) : Lx (commentLines t) [] := by
  refine lx_blanks _ ?_ ?_
  · intro l hl
    simp only [commentLines, List.mem_map] at hl
    obtain ⟨x, _, rfl⟩ := hl
    rfl
  · intro l hl
    simp only [commentLines, List.mem_map] at hl
    obtain ⟨x, hx, rfl⟩ := hl
    have := splitLines_no_nl t x hx
    simp [this]

/-- `pass` is printed exactly when the body carries no token -/
theorem pass_iff {lsb : List (List Char)} {Tb : List Tok} (hb : Lx lsb Tb) :
    (splitLines [] (unl lsb)).all isBlankLine = decide (Tb = []) := by
  rw [splitLines_unl lsb hb.nonl]
  by_cases hT : Tb = []
  · simp only [hT, decide_true, List.all_append, List.all_cons, List.all_nil, Bool.and_true]
    have : isBlankLine [] = true := rfl
    rw [this, Bool.and_true, List.all_eq_true]
    exact hb.empty hT
  · have := hb.first hT 0 []
    rw [map_ind_zero, List.append_nil] at this
    obtain ⟨x, hx, hxb⟩ := firstAt_exists this
    simp only [hT, decide_false, List.all_append, Bool.and_eq_false_iff]
    left
    rw [List.all_eq_false]
    exact ⟨x, hx, by simp [hxb]⟩

theorem indentAll_unl {lsb : List (List Char)} (hn : ∀ l ∈ lsb, '\n' ∉ l) :
    indentAllLines (unl lsb) = unl ((lsb ++ [[]]).map (ind 4)) := by
  unfold indentAllLines
  rw [splitLines_unl lsb hn]
  simp [unl, List.flatMap_map, ind, List.replicate]

theorem lhs_name (n : String) (hn : validIdentPy n = true) : LhsOK [.t (.id n)] :=
  ⟨pyLaws.single (validIdentPy_tokOK hn) ⟨n, Or.inl rfl⟩, ⟨n, rfl⟩, bal_cons (plain_id n) bal_nil⟩

theorem lhs_lvalue (l : Expr) (hlv : isLvalue l = true) (hl : wfPy l = true) : LhsOK (piecesPy l) :=
  ⟨psp_pieces l hl, by
    cases l with
    | sym n dt => exact ⟨n, by simp [piecesPy, firstP]⟩
    | idx arr dt ix => exact ⟨arr, by simp [piecesPy, firstP]⟩
    | _ => simp [isLvalue] at hlv,
  bal_pieces l⟩

theorem rhs_expr (e : Expr) (hwf : wfPy e = true) : RhsOK (piecesPy e) :=
  ⟨(pySepNL_of_sep _ (psp_pieces e hwf).sep).1, bal_pieces e⟩

theorem lx_assignLine {lhs rhs : List Piece} (o : P) (ho : o = .assign ∨ o = .plusAssign)
    (hl : LhsOK lhs) (hr : RhsOK rhs) :
    ∃ ls, unl ls = render lhs ++ [' '] ++ (P.text o) ++ [' '] ++ render rhs ++ ['\n']
      ∧ Lx ls (toks lhs ++ [.p o] ++ toks rhs ++ [.newline]) := by
  have ⟨hplain, hok⟩ : plainP (pp o) = true ∧ pyTokOK (.p o) = true := by
    rcases ho with rfl | rfl <;> exact ⟨rfl, rfl⟩
  have hsep : pySepNL (assignLinePy lhs o rhs) = true :=
    nlEqs.append ((pySepNL_of_sep _ hl.psp.sep).1) (nlEqs.sp_cons rfl (nlEqs.tok_ws hok (nlEqs.sp_cons rfl hr.sep)))
      fun x y _ hy => by cases hy
  have hbal : Bal 0 (assignLinePy lhs o rhs) := bal_append hl.bal (bal_append (bal_mid hplain) hr.bal)
  refine ⟨splitLines [] (render (assignLinePy lhs o rhs)), ?_, ?_⟩
  · rw [unl_splitLines]
    simp [assignLinePy, render_append, render, sp, pp, Tok.text]
  · have := lx_pieces _ ⟨⟨hsep, hbal⟩, by rw [assignLinePy, firstP_append _ hl.psp.ne_nil]; exact hl.first⟩
    rwa [show toks (assignLinePy lhs o rhs) = toks lhs ++ [.p o] ++ toks rhs by
      simp [assignLinePy, toks_append, toks, sp, pp]] at this

/-- a line `n = np.f(args, dtype=ty)`; `hd` is the literal ` = np.f(` of the formatter -/
theorem lx_npdecl (n f hd : String) (ehd : strL hd = strL " = np." ++ strL f ++ ['(']) (hn : validIdentPy n = true)
    (hf : pyTokOK (.id f) = true) (args : List Piece) (hq : PyItem args)
    {sc : Scalar} {dt : DType} {ty : String} (hty : pyTypeName sc dt = some ty) :
    ∃ ls, unl ls = strL n ++ strL hd ++ render args ++ strL ", dtype=" ++ strL ty ++ strL ")\n"
      ∧ Lx ls ([.id n, .p .assign, .id "np", .p .dot, .id f, .p .lpar] ++ toks args ++ [.p .comma] ++ dtypeKwToks ty
          ++ [.p .rpar, .newline]) := by
  have hk := kwTail_ok hty
  have hnp := psp_np hf
  -- `(` may follow the dotted name `np.f`
  have hhd : pySepNL ([.t (.id "np"), pp .dot, .t (.id f)] ++ [pp .lpar]) = true :=
    nlEqs.append (pySepNL_of_sep _ hnp.sep).1 rfl fun x y hx hy => by
      cases hy; exact pySepTok_last (hnp.last_of hx) (c := '(') (cs := []) rfl rfl
  have hsep : pySepNL (callP f args ty) = true := by
    refine nlEqs.append hhd (sepd_closer nlEqs hq.sepd (by decide) hk.sep) fun x y hx hy => ?_
    cases hx
    rw [firstP_append _ hq.sepd.ne_nil] at hy
    exact pySepTok_start rfl (hq.sepd.first_of hy)
  have hbal : Bal 0 (callP f args ty) :=
    bal_cons (plain_id "np") (bal_cons rfl (bal_cons (plain_id f) (hk.closes hq.bal)))
  obtain ⟨ls, h1, h2⟩ := lx_assignLine .assign (Or.inl rfl) (lhs_name n hn) ⟨hsep, hbal⟩
  refine ⟨ls, ?_, ?_⟩
  · rw [h1, ehd]
    simp only [callP, render_append, hk.text]
    simp [render, pp, Tok.text, P.text, strL]
  · simpa [callP, kwTail, tyPiecesPy, dtypeKwToks, toks_append, toks_map_t, toks, pp] using h2

mutual
/-- the text of a statement as a list of physical lines (`unl ls`), read in any context (`Lx`) -/
theorem stmt_lx (sc : Scalar) : ∀ (s : Stmt), wfSPy sc s = true →
    ∃ ls, fmtStmtPy sc s = some (unl ls) ∧ Lx ls (tokStmtPy sc s)
  | .assign l r, hwf => by
    simp only [wfSPy, Bool.and_eq_true] at hwf
    obtain ⟨⟨hlv, hl⟩, hr⟩ := hwf
    obtain ⟨ls, h1, h2⟩ := lx_assignLine .assign (Or.inl rfl) (lhs_lvalue l hlv hl) (rhs_expr r hr)
    refine ⟨ls, ?_, by simpa [tokStmtPy, tokExprPy] using h2⟩
    rw [h1]; simp [fmtStmtPy, fmtExprPy, strL, P.text]
  | .addAssign l r, hwf => by
    simp only [wfSPy, Bool.and_eq_true] at hwf
    obtain ⟨⟨hlv, hl⟩, hr⟩ := hwf
    obtain ⟨ls, h1, h2⟩ := lx_assignLine .plusAssign (Or.inr rfl) (lhs_lvalue l hlv hl) (rhs_expr r hr)
    refine ⟨ls, ?_, by simpa [tokStmtPy, tokExprPy] using h2⟩
    rw [h1]; simp [fmtStmtPy, fmtExprPy, strL, P.text]
  | .vdecl n dt v, hwf => by
    simp only [wfSPy, Bool.and_eq_true] at hwf
    obtain ⟨hn, hv⟩ := hwf
    obtain ⟨ls, h1, h2⟩ := lx_assignLine .assign (Or.inl rfl) (lhs_name n hn) (rhs_expr v hv)
    refine ⟨ls, ?_, by simpa [tokStmtPy, tokExprPy, toks] using h2⟩
    rw [h1]; simp [fmtStmtPy, fmtExprPy, strL, P.text, render, Tok.text]
  | .adecl n dt sizes c vals, hwf => by
    simp only [wfSPy, Bool.and_eq_true, Option.isSome_iff_exists] at hwf
    obtain ⟨⟨hn, ⟨ty, hty⟩⟩, hvals⟩ := hwf
    have hqt := pyItem_tuple sizes
    cases vals with
    | none =>
      obtain ⟨ls, h1, h2⟩ := lx_npdecl n "empty" " = np.empty(" (by simp only [strL, toList_lit rfl]; rfl) hn
        (by decide +kernel) _ hqt hty
      refine ⟨ls, ?_, ?_⟩
      · simp only [fmtStmtPy, hty, h1, render_tuplePiecesPy, List.append_assoc]
      · simpa only [tokStmtPy, hty, Option.getD_some, toks_tuplePiecesPy, List.append_assoc, List.cons_append,
          List.nil_append] using h2
    | some vs =>
      have hvs : ∀ v ∈ vs, isLit v = true ∧ wfPy v = true := by
        intro v hv
        simp only [List.all_eq_true, Bool.and_eq_true] at hvals
        exact hvals v hv
      -- `np.full` for one value, `np.array` otherwise: `arr.values.size == 1` in the numba formatter
      by_cases h1v : ∃ v, vs = [v]
      · obtain ⟨v, rfl⟩ := h1v
        have hv1 := hvs v (by simp)
        have hmem : ∀ x ∈ [tuplePiecesPy sizes, pyNumber v], PyItem x := by
          intro x hx
          simp only [List.mem_cons, List.mem_nil_iff, or_false] at hx
          rcases hx with rfl | rfl
          · exact hqt
          · exact pyItem_lit v hv1.1 hv1.2
        obtain ⟨ls, h1, h2⟩ := lx_npdecl n "full" " = np.full(" (by simp only [strL, toList_lit rfl]; rfl) hn
          (by decide +kernel) _ (pyItem_join sp (Or.inl rfl) _ (by simp) hmem) hty
        have e2 : render [pp .comma, sp] = strL ", " := (toList_lit rfl).symm
        refine ⟨ls, ?_, ?_⟩
        · simp only [fmtStmtPy, hty, h1, joinP, render_append, render_tuplePiecesPy, e2, List.append_assoc]
        · simpa only [tokStmtPy, hty, Option.getD_some, joinP, toks_append, toks_tuplePiecesPy, toks, sp, pp,
            List.append_assoc, List.cons_append, List.nil_append] using h2
      · obtain ⟨ls, h1, h2⟩ := lx_npdecl n "array" " = np.array(" (by simp only [strL, toList_lit rfl]; rfl) hn
          (by decide +kernel) _ (pyItem_initPieces (initShape sizes vs) vs hvs) hty
        rw [render_initPiecesPy] at h1
        rw [toks_initPiecesPy] at h2
        -- the case split only lets the model's overlapping match `| some [v] => … | some vs => …`
        -- (in `fmtStmtPy` and in `tokStmtPy`) reduce to its last arm
        cases vs with
        | nil =>
          exact ⟨ls, by simp only [fmtStmtPy, hty, h1, List.append_assoc], by
            simpa only [tokStmtPy, hty, Option.getD_some, List.append_assoc, List.cons_append, List.nil_append] using h2⟩
        | cons a l =>
          cases l with
          | nil => exact absurd ⟨a, rfl⟩ h1v
          | cons b l =>
            exact ⟨ls, by simp only [fmtStmtPy, hty, h1, List.append_assoc], by
              simpa only [tokStmtPy, hty, Option.getD_some, List.append_assoc, List.cons_append, List.nil_append] using h2⟩
  | .forRange i lo hi body, hwf => by
    simp only [wfSPy, Bool.and_eq_true] at hwf
    obtain ⟨⟨⟨hi', hlo⟩, hhi⟩, hbody⟩ := hwf
    obtain ⟨lsb, hb1, hb2⟩ := stmts_lx sc body hbody
    have hfor := lx_for (forP i lo hi) (forP_line i lo hi hi' hlo hhi) hb2
    -- the lines: the header, the body one level deeper — with the empty last string of
    -- `body.split("\n")`, which gets its four blanks too —, and `pass` if the body carries no token
    refine ⟨splitLines [] (render (forP i lo hi)) ++ (List.map (ind 4) (lsb ++ [[]]) ++
      if tokStmtsPy sc body = [] then [ind 4 "pass".toList] else []), ?_, ?_⟩
    · simp only [fmtStmtPy, hb1, pass_iff hb2]
      rw [unl_append, unl_append, unl_splitLines, render_forP, indentAll_unl hb2.nonl]
      have hp : unl (if tokStmtsPy sc body = [] then [ind 4 "pass".toList] else [])
          = if decide (tokStmtsPy sc body = []) = true then strL "    pass\n" else [] := by
        have e1 : unl [ind 4 "pass".toList] = strL "    pass\n" := by simp only [strL, toList_lit rfl]; rfl
        by_cases hT : tokStmtsPy sc body = [] <;> simp only [hT, if_true, if_false, decide_true, decide_false, e1] <;> rfl
      have e : strL "):\n" = strL "):" ++ ['\n'] := by simp only [strL, toList_lit rfl]; rfl
      simp only [hp, e, List.append_assoc]
    · rw [toks_forP] at hfor
      by_cases hT : tokStmtsPy sc body = [] <;> simpa [tokStmtPy, hT] using hfor
  | .comment t, _ => ⟨commentLines (strL t), by simp [fmtStmtPy, unl_commentLines], by simpa [tokStmtPy] using lx_comment (strL t)⟩
  | .block ss, hwf => by
    simp only [wfSPy] at hwf
    obtain ⟨ls, h1, h2⟩ := stmts_lx sc ss hwf
    exact ⟨ls, by simp only [fmtStmtPy, h1], by simpa [tokStmtPy] using h2⟩
  | .sect name decls stmts inp out an, hwf => by
    simp only [wfSPy, Bool.and_eq_true] at hwf
    obtain ⟨d, hd1, hd2⟩ := stmts_lx sc decls hwf.1
    obtain ⟨b, hb1, hb2⟩ := stmts_lx sc stmts hwf.2
    have hbar := lx_comment (strL "------------------------")
    have hc1 := lx_comment (strL "Section: " ++ strL name)
    have hc2 := lx_comment (strL "Inputs: " ++ commaNames inp)
    have hc3 := lx_comment (strL "Outputs: " ++ commaNames out)
    have hall := lx_append hbar (lx_append hc1 (lx_append hc2 (lx_append hc3 (lx_append hd2 (lx_append hb2 hbar)))))
    refine ⟨_, ?_, by simpa [tokStmtPy] using hall⟩
    simp only [fmtStmtPy, hd1, hb1, unl_append, unl_commentLines, List.append_assoc]
theorem stmts_lx (sc : Scalar) : ∀ (ss : List Stmt), wfSLPy sc ss = true →
    ∃ ls, fmtStmtsPy sc ss = some (unl ls) ∧ Lx ls (tokStmtsPy sc ss)
  | [], _ => ⟨[], rfl, lx_blanks [] nofun nofun⟩
  | s :: ss, hwf => by
    simp only [wfSLPy, Bool.and_eq_true] at hwf
    obtain ⟨a, ha1, ha2⟩ := stmt_lx sc s hwf.1
    obtain ⟨b, hb1, hb2⟩ := stmts_lx sc ss hwf.2
    exact ⟨a ++ b, by simp only [fmtStmtsPy, ha1, hb1, unl_append], by simpa [tokStmtsPy] using lx_append ha2 hb2⟩
end

theorem stmt_lex_py (sc : Scalar) (s : Stmt) (hwf : wfSPy sc s = true) :
    ∃ text, fmtStmtPy sc s = some text ∧ lexPy text = some (tokStmtPy sc s) := by
  obtain ⟨ls, h1, h2⟩ := stmt_lx sc s hwf
  refine ⟨unl ls, h1, ?_⟩
  unfold lexPy
  rw [splitLines_unl ls h2.nonl]
  -- the text ends in a line break, so `splitLines` gives one more, empty, line: the rest `[[]]`
  have := h2.run 0 [] [[]] (by unfold LowFirst; rw [if_pos (show isBlankLine [] = true from rfl)]; trivial)
  rw [map_ind_zero] at this
  rw [this]
  have h0 : pyLines [0] 0 [[]] = some [] := by
    rw [pyLines_blank _ rfl]; simp [pyLines]
  rw [h0]; simp

end Ffcx.LNodes.Fmt
