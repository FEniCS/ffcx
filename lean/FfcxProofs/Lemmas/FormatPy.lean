/-
C16 — numba: a kernel-reducible equality on parse trees with its soundness (used to evaluate the
round trip on single trees: regression examples and counterexamples), and the family of
comparisons nested directly under comparisons.
-/
import FfcxModel.LNodes.ParsePy
namespace Ffcx.LNodes.Fmt

mutual
/-- structural equality test on parse trees (kernel-reducible, unlike the derived `BEq`) -/
def PT.eqb : PT → PT → Bool
  | .num a, .num b => a == b
  | .id a, .id b => a == b
  | .call f as, .call g bs => f == g && PT.eqbL as bs
  | .idx a as, .idx b bs => PT.eqb a b && PT.eqbL as bs
  | .un o a, .un p b => decide (o = p) && PT.eqb a b
  | .bin o a1 a2, .bin p b1 b2 => decide (o = p) && PT.eqb a1 b1 && PT.eqb a2 b2
  | .cond a1 a2 a3, .cond b1 b2 b3 => PT.eqb a1 b1 && PT.eqb a2 b2 && PT.eqb a3 b3
  | .chain a as, .chain b bs => PT.eqb a b && PT.eqbC as bs
  | .kw k a, .kw l b => k == l && PT.eqb a b
  | .tuple as, .tuple bs => PT.eqbL as bs
  | .list as, .list bs => PT.eqbL as bs
  | _, _ => false
def PT.eqbL : List PT → List PT → Bool
  | [], [] => true
  | a :: as, b :: bs => PT.eqb a b && PT.eqbL as bs
  | _, _ => false
def PT.eqbC : List (BinOp × PT) → List (BinOp × PT) → Bool
  | [], [] => true
  | (o, a) :: as, (p, b) :: bs => decide (o = p) && PT.eqb a b && PT.eqbC as bs
  | _, _ => false
end

/-- By functional induction: all pairs of different constructors are the one last case of each
    function, where the test is `false`. The conjuncts and motives run `eqb`, `eqbC`, `eqbL` although
    the definitions and the case bullets run `eqb`, `eqbL`, `eqbC`: that is the order in which
    `PT.eqb.mutual_induct_unfolding` takes its motives (the auxiliary types of the nested inductive).
    Cases as the clauses: `eqb` num, id, call, idx, un, bin, cond, chain, kw, tuple, list, catch-all;
    `eqbL` nil, cons, catch-all; `eqbC` nil, cons, catch-all. -/
theorem PT.eqb_sound_all :
    (∀ a b : PT, PT.eqb a b = true → a = b)
    ∧ (∀ as bs : List (BinOp × PT), PT.eqbC as bs = true → as = bs)
    ∧ (∀ as bs : List PT, PT.eqbL as bs = true → as = bs) := by
  apply PT.eqb.mutual_induct_unfolding (motive_1 := fun a b r => r = true → a = b)
    (motive_2 := fun as bs r => r = true → as = bs) (motive_3 := fun as bs r => r = true → as = bs)
  · intro a b h; rw [eq_of_beq h]
  · intro a b h; rw [eq_of_beq h]
  · intro f as g bs ih h
    rw [Bool.and_eq_true] at h; rw [eq_of_beq h.1, ih h.2]
  · intro a as b bs ih1 ih2 h
    rw [Bool.and_eq_true] at h; rw [ih1 h.1, ih2 h.2]
  · intro o a p b ih h
    rw [Bool.and_eq_true] at h; rw [of_decide_eq_true h.1, ih h.2]
  · intro o a1 a2 p b1 b2 ih1 ih2 h
    rw [Bool.and_eq_true, Bool.and_eq_true] at h; rw [of_decide_eq_true h.1.1, ih1 h.1.2, ih2 h.2]
  · intro a1 a2 a3 b1 b2 b3 ih1 ih2 ih3 h
    rw [Bool.and_eq_true, Bool.and_eq_true] at h; rw [ih1 h.1.1, ih2 h.1.2, ih3 h.2]
  · intro a as b bs ih1 ih2 h
    rw [Bool.and_eq_true] at h; rw [ih1 h.1, ih2 h.2]
  · intro k a l b ih h
    rw [Bool.and_eq_true] at h; rw [eq_of_beq h.1, ih h.2]
  · intro as bs ih h; rw [ih h]
  · intro as bs ih h; rw [ih h]
  · intros; contradiction
  · intro _; rfl
  · intro a as b bs ih1 ih2 h
    rw [Bool.and_eq_true] at h; rw [ih1 h.1, ih2 h.2]
  · intros; contradiction
  · intro _; rfl
  · intro o a as p b bs ih1 ih2 h
    rw [Bool.and_eq_true, Bool.and_eq_true] at h; rw [of_decide_eq_true h.1.1, ih1 h.1.2, ih2 h.2]
  · intros; contradiction

theorem PT.eqb_sound : ∀ a b : PT, PT.eqb a b = true → a = b := PT.eqb_sound_all.1
theorem PT.eqbL_sound : ∀ as bs : List PT, PT.eqbL as bs = true → as = bs := PT.eqb_sound_all.2.2
theorem PT.eqbC_sound : ∀ as bs : List (BinOp × PT), PT.eqbC as bs = true → as = bs := PT.eqb_sound_all.2.1

def sx : Expr := .sym "x" .real
def sy : Expr := .sym "y" .scalar
def sz : Expr := .sym "z" .real

def cmpOps : List BinOp := [.eq, .ne, .lt, .gt, .le, .ge]

/-- ill-typed but constructible: every comparison directly under every comparison, as left child,
    as right child, and as left child beside a right child with the parent's own operator
    (Python would chain `a < b == c`; the formatter parenthesises the inner comparison) -/
def cmpNested : List Expr :=
  cmpOps.flatMap (fun op => cmpOps.flatMap (fun op2 =>
    [.bin op (.bin op2 sx sy) sz, .bin op sz (.bin op2 sx sy), .bin op (.bin op2 sx sy) (.bin op sz sx)]))

/-- the numba text of `e` parses to the tree `t` (kernel-reducible verdict) -/
def pyParsesTo (e : Expr) (t : PT) : Bool :=
  match parseExprPy (lexPyExpr (fmtExprPy e)) with
  | some u => PT.eqb u t
  | none => false

theorem pyParsesTo_sound {e : Expr} {t : PT} (h : pyParsesTo e t = true) :
    parseExprPy (lexPyExpr (fmtExprPy e)) = some t := by
  simp only [pyParsesTo] at h
  split at h
  · rename_i u hu; rw [hu, PT.eqb_sound _ _ h]
  · simp at h

end Ffcx.LNodes.Fmt
