/-
The code of one quadrature-loop iteration that runs before the tensor computation: definition sections, `fw = 0`
declarations, partition intermediates.  A definition section is characterised by what it establishes (`IsDef`,
proved for the coefficient and coordinate sections); `prefix_run` runs the three parts one after the other from any
state with the arrays of `σ` and establishes `PrefixPost`.  `ssa_values_agree` says that the values of SSA
temporaries are determined by what the list reads from outside.
-/
import FfcxProofs.C01Definitions
import FfcxProofs.C01Partition
import FfcxProofs.C01Codegen

namespace Ffcx.Codegen
open Ffcx.LNodes Lean.Grind
attribute [local instance] Lean.Grind.Ring.intCast
variable {R : Type} [Field R] (x : Extra R)

/-- **What a definition section establishes**: in every state with the arrays of `σ` and `iq = q`
    (`q < nq`), executing `s` succeeds, sets the scalar `a` to `val q` and otherwise changes only `ic`. -/
def IsDef (σ : St R) (nq : Nat) (s : Stmt) (a : String) (val : Nat → R) : Prop :=
  ∀ (q : Nat) (υ : St R), q < nq → ArrAgree σ υ → υ.iv.get "iq" = some (q : Int) →
    ∃ υ', exec x s υ = .ok υ' ∧ SFrame a "ic" υ υ' ∧ υ'.sv.get a = some (val q)

/-- a coefficient section is a definition of `Σ_d w[off + d·bs + begin]·FE[…][q][d]` -/
theorem coeff_isDef (hlaw : LawfulExtra x) (ctx : DefCtx) (mt : MtDesc) (t : TableRef) (access : MSym)
    (l : Lincomb) (h : coeffLincomb ctx mt t access = .ok (some l))
    (hnf : t.factors = none) (nq : Nat)
    (hiq : quadIndexOpt ctx.rule = { syms := ["iq"], sizes := [nq] })
    (ho : (t.ttype == "ones") = false)
    (hdt1 : (l.dtype == DType.int) = false) (hdt2 : (l.dtype == DType.bool) = false)
    (hname : t.name ≠ aName) (off : Int) (hoff : ctx.coeffOffset = some off)
    (σ : St R)
    (htab : ∀ q : Nat, q < nq → ArgOk σ ctx.entityType q { table := t, restriction := mt.restriction })
    (hdofs : DofsOk σ "w" t.ndofs (fun d => off + (d * t.blockSize + t.offset))) :
    IsDef x σ nq (lincombSection l) l.access (fun q => isum 0 t.ndofs (fun d =>
      readArr σ "w" [off + (d * t.blockSize + t.offset)] *
        argVal σ ctx.entityType q { table := t, restriction := mt.restriction } d)) := by
  intro q υ hq hag hiqv
  obtain ⟨off', hoff', hrun⟩ := coeff_lincomb x hlaw ctx mt t access l h hnf nq hiq ho hdt1 hdt2 υ q hiqv
    (ArgOk_agree hag ctx.entityType q _ hname (htab q hq))
  rw [hoff] at hoff'; cases hoff'
  obtain ⟨υ', he, hf, hv⟩ := hrun (DofsOk_agree hag "w" (by decide) _ _ hdofs)
  refine ⟨υ', he, hf, ?_⟩
  rw [hv]; congr 1
  apply isum_congr
  intro d _ _
  rw [readArr_agree hag "w" (by decide), argVal_agree hag ctx.entityType q _ d hname]

/-- a Jacobian / SpatialCoordinate section is a definition of
    `Σ_d coordinate_dofs[3d + begin + offset]·FE[…][q][d]` -/
theorem coord_isDef (hlaw : LawfulExtra x) (ctx : DefCtx) (mt : MtDesc) (t : TableRef) (access : MSym)
    (l : Lincomb) (h : coordLincomb ctx mt t access = .ok l)
    (hnf : t.factors = none) (nq : Nat)
    (hiq : quadIndexOpt ctx.rule = { syms := ["iq"], sizes := [nq] })
    (hdt1 : (l.dtype == DType.int) = false) (hdt2 : (l.dtype == DType.bool) = false)
    (hname : t.name ≠ aName) (σ : St R)
    (htab : ∀ q : Nat, q < nq → ArgOk σ ctx.entityType q { table := t, restriction := mt.restriction })
    (hdofs : DofsOk σ "coordinate_dofs" t.ndofs (fun d => d * 3 + t.offset +
      (if mt.restriction == .minus then (ctx.numScalarDofs : Int) * 3 else 0))) :
    IsDef x σ nq (lincombSection l) l.access (fun q => isum 0 t.ndofs (fun d =>
      readArr σ "coordinate_dofs" [d * 3 + t.offset +
          (if mt.restriction == .minus then (ctx.numScalarDofs : Int) * 3 else 0)] *
        argVal σ ctx.entityType q { table := t, restriction := mt.restriction } d)) := by
  intro q υ hq hag hiqv
  obtain ⟨υ', he, hf, hv⟩ := coord_lincomb x hlaw ctx mt t access l h hnf nq hiq hdt1 hdt2 υ q hiqv
    (ArgOk_agree hag ctx.entityType q _ hname (htab q hq))
    (DofsOk_agree hag "coordinate_dofs" (by decide) _ _ hdofs)
  refine ⟨υ', he, hf, ?_⟩
  rw [hv]; congr 1
  apply isum_congr
  intro d _ _
  rw [readArr_agree hag "coordinate_dofs" (by decide), argVal_agree hag ctx.entityType q _ d hname]

structure DefItem (R : Type) where
  stmt : Stmt
  name : String
  val : Nat → R

/-- `υ'` is `υ` up to `ic` and the scalars in `names` -/
structure LFrame (names : List String) (υ υ' : St R) : Prop where
  ia : υ'.ia = υ.ia
  sa : υ'.sa = υ.sa
  iv : ∀ n, n ≠ "ic" → υ'.iv.get n = υ.iv.get n
  sv : ∀ n, n ∉ names → υ'.sv.get n = υ.sv.get n

omit [Field R] in
theorem LFrame.refl (names : List String) (υ : St R) : LFrame names υ υ :=
  ⟨rfl, rfl, fun _ _ => rfl, fun _ _ => rfl⟩

omit [Field R] in
theorem LFrame.trans {ns ms : List String} {υ υ' υ'' : St R} (h₁ : LFrame ns υ υ') (h₂ : LFrame ms υ' υ'') :
    LFrame (ns ++ ms) υ υ'' :=
  ⟨h₂.ia.trans h₁.ia, h₂.sa.trans h₁.sa, fun n hn => (h₂.iv n hn).trans (h₁.iv n hn), fun n hn =>
    (h₂.sv n fun h => hn (List.mem_append_right _ h)).trans (h₁.sv n fun h => hn (List.mem_append_left _ h))⟩

-- needs no field either, but is stated with `[Field R]`
set_option linter.unusedSectionVars false in
theorem LFrame.arrAgree {names : List String} {σ υ υ' : St R} (h : LFrame names υ υ')
    (hag : ArrAgree σ υ) : ArrAgree σ υ' :=
  arrAgree_of (h.ia.trans hag.ia) fun n hn => by rw [h.sa]; exact hag.sa n hn

theorem defs_run (σ : St R) (nq : Nat) (ds : List (DefItem R))
    (hdef : ∀ d ∈ ds, IsDef x σ nq d.stmt d.name d.val) (hnd : (ds.map (·.name)).Nodup)
    (q : Nat) (υ : St R) (hq : q < nq) (hag : ArrAgree σ υ) (hiq : υ.iv.get "iq" = some (q : Int)) :
    ∃ υ', execL x (ds.map (·.stmt)) υ = .ok υ' ∧ LFrame (ds.map (·.name)) υ υ' ∧
      ∀ d ∈ ds, υ'.sv.get d.name = some (d.val q) := by
  induction ds generalizing υ with
  | nil => exact ⟨υ, rfl, LFrame.refl _ υ, fun _ h => (List.not_mem_nil h).elim⟩
  | cons d ds ih =>
    simp only [List.map_cons, List.nodup_cons] at hnd
    obtain ⟨υ₁, he, hf, hv⟩ := hdef d List.mem_cons_self q υ hq hag hiq
    have hf₁ : LFrame [d.name] υ υ₁ :=
      ⟨hf.ia, hf.sa, hf.iv, fun n hn => hf.sv n fun e => hn (List.mem_singleton.2 e)⟩
    obtain ⟨υ', he', hf', hv'⟩ := ih (fun d' hd' => hdef d' (List.mem_cons_of_mem _ hd')) hnd.2 υ₁
      (hf₁.arrAgree hag) ((hf.iv "iq" (by decide)).trans hiq)
    exact ⟨υ', by simp only [List.map_cons, execL, he, he'], hf₁.trans hf',
      List.forall_mem_cons.2 ⟨(hf'.sv _ hnd.1).trans hv, hv'⟩⟩

/-- the names an SSA list reads from outside: mentioned by a defining expression, not declared by
    the list -/
def ssaReads (ss : List Stmt) (m : String) : Prop :=
  (∃ t ∈ declTriples ss, mentionsE m t.2.2 = true) ∧ m ∉ declNames ss

/-- Two states in which the defining equations of an SSA list hold and which
    agree on everything the list reads from outside agree on all its temporaries. -/
theorem ssa_values_agree (ss : List Stmt) (hok : ssaOk ss = true) (τ τ' : St R) (P : String → Prop)
    (hag : AgreeOn P τ τ') (hP : ∀ m, ssaReads ss m → P m)
    (hX : ∀ m ∈ declNames ss,
      τ.iv.get m = τ'.iv.get m ∧ τ.ia.get m = τ'.ia.get m ∧ τ.sa.get m = τ'.sa.get m)
    (h1 : ∀ t ∈ declTriples ss, τ.sv.get t.1 = some (eval x τ t.2.2))
    (h2 : ∀ t ∈ declTriples ss, τ'.sv.get t.1 = some (eval x τ' t.2.2)) :
    ∀ t ∈ declTriples ss, τ.sv.get t.1 = τ'.sv.get t.1 := by
  induction ss generalizing P with
  | nil => exact fun _ h => nomatch h
  | cons s ss ih =>
    obtain ⟨n, dt, v, rfl⟩ := ssaOk_head hok
    simp only [ssaOk, Bool.and_eq_true, bne_iff_ne, ne_eq, Bool.not_eq_true', List.all_eq_true] at hok
    obtain ⟨⟨⟨⟨⟨_, _⟩, _⟩, hnv⟩, hlater⟩, hrest⟩ := hok
    -- the head: `v` reads only outside names
    have hPv : ∀ m, mentionsE m v = true → P m := fun m hm =>
      hP m ⟨⟨(n, dt, v), List.mem_cons_self, hm⟩, fun h => (List.mem_cons.mp h).elim
        (ne_of_mentions hnv hm) (not_mem_of_mentions (fun m' hm' => (hlater m' hm').2) hm)⟩
    have hhead : τ.sv.get n = τ'.sv.get n := by
      rw [h1 (n, dt, v) List.mem_cons_self, h2 (n, dt, v) List.mem_cons_self, eval_agreeOn x hag v hPv]
    -- the tail, with `n` added to the agreement
    obtain ⟨x1, x2, x3⟩ := hX n List.mem_cons_self
    have hag' : AgreeOn (fun m => P m ∨ m = n) τ τ' :=
      ⟨fun m hm => hm.elim (hag.iv m) fun e => e ▸ x1, fun m hm => hm.elim (hag.sv m) fun e => e ▸ hhead,
        fun m hm => hm.elim (hag.ia m) fun e => e ▸ x2, fun m hm => hm.elim (hag.sa m) fun e => e ▸ x3⟩
    intro t ht
    rcases List.mem_cons.mp ht with rfl | ht
    · exact hhead
    · refine ih hrest _ hag' ?_ (fun m hm => hX m (List.mem_cons_of_mem _ hm))
        (fun t ht => h1 t (List.mem_cons_of_mem _ ht)) (fun t ht => h2 t (List.mem_cons_of_mem _ ht)) t ht
      intro m ⟨⟨t', ht', hm⟩, hnot⟩
      by_cases e : m = n
      · exact Or.inr e
      · exact Or.inl (hP m ⟨⟨t', List.mem_cons_of_mem _ ht', hm⟩,
          fun h => (List.mem_cons.mp h).elim e hnot⟩)

theorem fwDecls_run (fw : List Stmt) (h : fwShape fw = true) (υ : St R) :
    ∃ υ', execL x (fwDecls fw) υ = .ok υ' ∧ LFrame (declNames fw) υ υ' ∧
      ∀ n ∈ declNames fw, (υ'.sv.get n).isSome = true := by
  induction fw generalizing υ with
  | nil => exact ⟨υ, rfl, LFrame.refl _ υ, fun _ h => nomatch h⟩
  | cons s ss ih =>
    obtain ⟨n, dt, v, rfl⟩ := fwShape_head h
    simp only [fwShape, Bool.and_eq_true, bne_iff_ne, ne_eq] at h
    have hdt : (dt == DType.int) = false := by simpa using h.1
    obtain ⟨r, he⟩ : ∃ r : R, exec x (.vdecl n dt (.litI 0)) υ = .ok (υ.setSV n r) := by
      simp only [exec, hdt, safeE]
      exact ⟨_, rfl⟩
    have hf : LFrame [n] υ (υ.setSV n r) := ⟨rfl, rfl, fun _ _ => rfl, fun m hm =>
      AList.get_set_ne _ _ _ _ fun e : n = m => hm (List.mem_singleton.2 e.symm)⟩
    obtain ⟨υ', he', hf', h5⟩ := ih h.2 (υ.setSV n r)
    refine ⟨υ', by simp only [fwDecls, execL, he, he'], hf.trans hf', fun m hm => ?_⟩
    by_cases hin : m ∈ declNames ss
    · exact h5 m hin
    · obtain rfl : m = n := (List.mem_cons.mp hm).resolve_right hin
      rw [hf'.sv m hin]
      exact congrArg Option.isSome (AList.get_set_self ..)

/-- the state after definitions and `fw = 0` declarations, at point `q` -/
structure AfterDefs (σ : St R) (ds : List (DefItem R)) (fw : List Stmt) (q : Nat) (υ : St R) : Prop where
  arr : ArrAgree σ υ
  iq : υ.iv.get "iq" = some (q : Int)
  defs : ∀ d ∈ ds, υ.sv.get d.name = some (d.val q)
  fwd : ∀ n ∈ declNames fw, (υ.sv.get n).isSome = true

/-- what holds after `definitions ++ (fw = 0) ++ intermediates`, started from `τ` with `iq := q` -/
structure PrefixPost (σ : St R) (ds : List (DefItem R)) (fw i0 : List Stmt) (q : Nat) (τ τ₁ : St R) : Prop where
  after : AfterDefs σ ds fw q τ₁
  ia : τ₁.ia = τ.ia
  sa : τ₁.sa = τ.sa
  iv : ∀ n, n ≠ "ic" → n ≠ "iq" → τ₁.iv.get n = τ.iv.get n
  sv : ∀ n, n ∉ ds.map (·.name) → n ∉ declNames fw → n ∉ declNames i0 → τ₁.sv.get n = τ.sv.get n
  eqs : ∀ t ∈ declTriples i0, τ₁.sv.get t.1 = some (eval x τ₁ t.2.2)

structure PrefixDisjoint (ds : List (DefItem R)) (fw i0 : List Stmt) : Prop where
  dnodup : (ds.map (·.name)).Nodup
  d_fw : ∀ n ∈ ds.map (·.name), n ∉ declNames fw
  d_i0 : ∀ n ∈ ds.map (·.name), n ∉ declNames i0
  fw_i0 : ∀ n ∈ declNames fw, n ∉ declNames i0

/-- `hsafe`: the intermediates `i0` can be evaluated in every state after the definitions and the `fw = 0`
    declarations (`AfterDefs`) whose other scalars are those of the start state `τ`. -/
theorem prefix_run (σ : St R) (nq : Nat) (ds : List (DefItem R)) (fw i0 : List Stmt)
    (hdef : ∀ d ∈ ds, IsDef x σ nq d.stmt d.name d.val) (hdis : PrefixDisjoint ds fw i0)
    (hfw : fwShape fw = true) (hssa : ssaOk i0 = true)
    (q : Nat) (hq : q < nq) (τ : St R) (hag : ArrAgree σ τ)
    (hsafe : ∀ υ : St R, AfterDefs σ ds fw q υ →
      (∀ n, n ∉ ds.map (·.name) → n ∉ declNames fw → υ.sv.get n = τ.sv.get n) →
      SafeFrom υ (declNames i0) i0) :
    ∃ τ₁, execL x (ds.map (·.stmt) ++ fwDecls fw ++ i0) (τ.setIV "iq" q) = .ok τ₁ ∧
      PrefixPost x σ ds fw i0 q τ τ₁ := by
  have hag0 : ArrAgree σ (τ.setIV "iq" (q : Int)) := arrAgree_of hag.ia hag.sa
  obtain ⟨υ₁, he1, hf1, hv1⟩ := defs_run x σ nq ds hdef hdis.dnodup q _ hq hag0 (by simp [St.setIV])
  obtain ⟨υ₂, he2, hf2, g5⟩ := fwDecls_run x fw hfw υ₁
  have hf12 := hf1.trans hf2
  have hiq0 : (τ.setIV "iq" (q : Int)).iv.get "iq" = some (q : Int) := AList.get_set_self ..
  have hafter₂ : AfterDefs σ ds fw q υ₂ :=
    ⟨hf12.arrAgree hag0, (hf12.iv "iq" (by decide)).trans hiq0,
      fun d hd => (hf2.sv _ (hdis.d_fw _ (List.mem_map_of_mem hd))).trans (hv1 d hd), g5⟩
  obtain ⟨τ₁, he3, hag3, ⟨k1, k2, k3⟩, heq⟩ := partition_ssa x i0 hssa υ₂
    (hsafe υ₂ hafter₂ fun n h1 h2 => hf12.sv n fun h => (List.mem_append.1 h).elim h1 h2)
  have hf3 : LFrame (declNames i0) υ₂ τ₁ :=
    ⟨k2, k3, fun n _ => congrArg (·.get n) k1, fun n hn => (hag3.sv n hn).symm⟩
  have hf := hf12.trans hf3
  refine ⟨τ₁, ?_, ⟨⟨hf.arrAgree hag0, (hf.iv "iq" (by decide)).trans hiq0, ?_, ?_⟩, hf.ia, hf.sa, ?_, ?_, heq⟩⟩
  · rw [execL_append', execL_append', he1]
    show (execL x (fwDecls fw) υ₁).bind _ = _
    rw [he2]; exact he3
  · exact fun d hd => (hf3.sv _ (hdis.d_i0 _ (List.mem_map_of_mem hd))).trans (hafter₂.defs d hd)
  · exact fun n hn => (congrArg Option.isSome (hf3.sv _ (hdis.fw_i0 n hn))).trans (g5 n hn)
  · exact fun n h1 h2 => (hf.iv n h1).trans (AList.get_set_ne _ _ _ _ fun e : "iq" = n => h2 e.symm)
  · exact fun n h1 h2 h3 => hf.sv n fun h => (List.mem_append.1 h).elim
      (fun h => (List.mem_append.1 h).elim h1 h2) h3

end Ffcx.Codegen
