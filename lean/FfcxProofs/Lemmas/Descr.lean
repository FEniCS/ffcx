/-
Helper lemmas for FfcxProofs/C18Descr.lean (descriptor generators of the two backends, model
FfcxModel/Backend/Descriptors.lean): `resEq` (two generators fail together or agree) as an `OutRel`, with the rules
for `>>=` and `mapM` that follow; `Enc.toList`; what a successful `mapM` / `foldlM` in `Except` says
(`mapM_ok_forall`, `foldlM_invariant`); the loop invariants of `integral_data` (`IntegralData.Aligned`, offsets) and
of `_compute_form_ir` (`GroupsOk`); the C conversions `wrap32` / `wrap64` are the identity on values that fit.
-/
import FfcxModel.Backend.Descriptors
import FfcxProofs.Lemmas.ExceptBind
import FfcxProofs.Lemmas.Basics

namespace Ffcx.Backend

/-- `resEq eq` is `OutRel` with any two errors related: its rules are those of `OutRel`. -/
theorem resEq_iff {δ : Type} {eq : δ → δ → Prop} {r s : Except String δ} :
    resEq eq r s ↔ OutRel (fun _ _ => True) eq r s := by
  cases r <;> cases s <;> exact Iff.rfl

theorem resEq_refl {δ : Type} {eq : δ → δ → Prop} (hrefl : ∀ d, eq d d) (r : Except String δ) :
    resEq eq r r :=
  resEq_iff.2 (OutRel.refl (fun _ => trivial) hrefl r)

theorem resEq_ok_left {δ : Type} {eq : δ → δ → Prop} {r s : Except String δ} {c : δ}
    (h : resEq eq r s) (hc : r = .ok c) : ∃ n, s = .ok n ∧ eq c n :=
  (resEq_iff.1 (hc ▸ h)).ok_left

theorem resEq_bind {α δ : Type} {eq : δ → δ → Prop} {x y : Except String α} {f g : α → Except String δ}
    (hxy : resEq Eq x y) (hfg : ∀ a, resEq eq (f a) (g a)) : resEq eq (x >>= f) (y >>= g) :=
  resEq_iff.2 ((resEq_iff.1 hxy).bind fun s _ h => h ▸ resEq_iff.1 (hfg s))

theorem mapM_resEq {α β : Type} (f g : α → Except String β) (l : List α)
    (h : ∀ x ∈ l, resEq Eq (f x) (g x)) : resEq Eq (l.mapM f) (l.mapM g) := by
  induction l with
  | nil => exact rfl
  | cons a l ih =>
    rw [List.mapM_cons, List.mapM_cons]
    exact resEq_bind (h a (by simp)) fun b =>
      resEq_bind (ih fun x hx => h x (by simp [hx])) fun bs => rfl

@[simp] theorem Enc.toList_absent {α} : (Enc.absent : Enc α).toList = [] := rfl
@[simp] theorem Enc.toList_arr {α} (xs : List α) : (Enc.arr xs).toList = xs := rfl

theorem Enc.map_id_of_forall {α} (f : α → α) (e : Enc α) (h : ∀ x ∈ e.toList, f x = x) : e.map f = e := by
  cases e with
  | absent => rfl
  | arr xs =>
    simp only [Enc.map, Enc.arr.injEq]
    exact map_fixes (by simpa using h)

theorem mapM_ok_forall {α β : Type} (f : α → Except String β) (Q : β → Prop) (l : List α) (ys : List β)
    (h : l.mapM f = .ok ys) (hf : ∀ x ∈ l, ∀ y, f x = .ok y → Q y) :
    ys.length = l.length ∧ ∀ y ∈ ys, Q y := by
  induction l generalizing ys with
  | nil => simp [pure, Except.pure] at h; subst h; simp
  | cons a l ih =>
    rw [List.mapM_cons] at h
    obtain ⟨b, ha, h⟩ := bind_eq_ok.mp h
    obtain ⟨bs, hl, h⟩ := bind_eq_ok.mp h
    cases h
    obtain ⟨hlen, hQ⟩ := ih bs hl (fun x hx => hf x (by simp [hx]))
    refine ⟨by simp [hlen], ?_⟩
    intro y hy
    rcases List.mem_cons.mp hy with rfl | hy
    · exact hf a (by simp) _ ha
    · exact hQ y hy

theorem mapM_pyIndex_length {α : Type} (xs : List α) (is : List Nat) (ys : List α)
    (h : is.mapM (pyIndex xs) = .ok ys) : ys.length = is.length :=
  (mapM_ok_forall (pyIndex xs) (fun _ => True) is ys h (fun _ _ _ _ => trivial)).1

theorem mapM_pyIndex_mem {α : Type} (xs : List α) (is : List Nat) (ys : List α)
    (h : is.mapM (pyIndex xs) = .ok ys) : ∀ y ∈ ys, y ∈ xs := by
  refine (mapM_ok_forall (pyIndex xs) (fun (y : α) => y ∈ xs) is ys h ?_).2
  intro i _ y hy
  unfold pyIndex at hy
  cases hg : xs[i]? with
  | none => simp [hg] at hy
  | some v =>
    simp [hg] at hy
    subst hy
    exact List.mem_of_getElem? hg

/-- the invariant of the loop of `integral_data` -/
structure IntegralData.Aligned (d : IntegralData) : Prop where
  names : d.names.length = d.ids.length
  domains : d.domains.length = d.ids.length
  last : d.offsets.getLast?.getD 0 = (d.domains.map List.length).sum
  len : d.offsets ≠ []

/-- An invariant of a `foldlM` loop in `Except`: `P n acc` after `n` iterations.  The step may use that
its argument is an element of the list. -/
theorem foldlM_invariant {α β : Type} (P : Nat → β → Prop) (step : β → α → Except String β) (l : List α)
    (hstep : ∀ n acc t acc', t ∈ l → P n acc → step acc t = .ok acc' → P (n + 1) acc')
    (init r : β) (hinit : P 0 init) (h : l.foldlM step init = .ok r) : P l.length r := by
  induction l generalizing init P with
  | nil => simp [pure, Except.pure] at h; subst h; exact hinit
  | cons a l ih =>
    rw [List.foldlM_cons] at h
    obtain ⟨acc', hs, h⟩ := bind_eq_ok.mp h
    exact ih (fun n => P (n + 1)) (fun n acc t acc'' ht => hstep (n + 1) acc t acc'' (by simp [ht])) acc'
      (hstep 0 init a acc' (by simp) hinit hs) h

/-- Induction over the loop of `integral_data`: a successful iteration appends to the three lists the
entries of the type in the order `argsort` gives, and one offset. -/
theorem integralData_induct {argsort : List Int → List Nat} {ir : FormIR} {d : IntegralData}
    (h : integralData argsort ir = .ok d) (P : Nat → IntegralData → Prop) (h0 : P 0 ⟨[], [], [0], []⟩)
    (hstep : ∀ n acc t ids names doms, t ∈ ir.integrals → P n acc →
      (argsort t.ids).mapM (pyIndex t.ids) = .ok ids → (argsort t.ids).mapM (pyIndex t.names) = .ok names →
      (argsort t.ids).mapM (pyIndex t.domains) = .ok doms →
      P (n + 1) { names := acc.names ++ names, ids := acc.ids ++ ids, domains := acc.domains ++ doms,
                  offsets := acc.offsets ++ [acc.offsets.getLast?.getD 0 + (doms.map List.length).sum] }) :
    P ir.integrals.length d := by
  refine foldlM_invariant P (integralDataStep argsort) ir.integrals ?_ _ d h0 h
  intro n acc t acc' ht hacc hs
  obtain ⟨ids, h1, hs⟩ := bind_eq_ok.mp hs
  obtain ⟨names, h2, hs⟩ := bind_eq_ok.mp hs
  obtain ⟨doms, h3, hs⟩ := bind_eq_ok.mp hs
  exact Except.ok.inj hs ▸ hstep n acc t ids names doms ht hacc h1 h2 h3

theorem integralData_aligned (argsort : List Int → List Nat) (ir : FormIR) (d : IntegralData)
    (h : integralData argsort ir = .ok d) : d.Aligned := by
  refine integralData_induct h (fun _ => IntegralData.Aligned) ⟨rfl, rfl, rfl, by simp⟩ ?_
  intro _ acc t ids names doms _ hacc h1 h2 h3
  have l1 := mapM_pyIndex_length _ _ _ h1
  have l2 := mapM_pyIndex_length _ _ _ h2
  have l3 := mapM_pyIndex_length _ _ _ h3
  exact ⟨by simp [hacc.names, l1, l2], by simp [hacc.domains, l1, l3], by simp [hacc.last], by simp⟩

theorem integralData_offsets_length (argsort : List Int → List Nat) (ir : FormIR) (d : IntegralData)
    (h : integralData argsort ir = .ok d) : d.offsets.length = ir.integrals.length + 1 :=
  integralData_induct h (fun n acc => acc.offsets.length = n + 1) rfl
    fun _ _ _ _ _ _ _ hacc _ _ _ => by simp [hacc]

/-- length of a per-domain comprehension `[e for x, domains in zip(xs, domains) for _ in domains]` -/
theorem flatMap_zip_length {α β γ : Type} (xs : List α) (doms : List (List γ)) (f : α → γ → β)
    (h : xs.length = doms.length) :
    ((xs.zip doms).flatMap (fun p => p.2.map (f p.1))).length = (doms.map List.length).sum := by
  induction xs generalizing doms with
  | nil => cases doms <;> simp_all
  | cons x xs ih =>
    cases doms with
    | nil => simp at h
    | cons d ds =>
      simp only [List.length_cons, Nat.add_right_cancel_iff] at h
      simp [ih ds h]

theorem wrap32_id (x : Int) (h : FitsInt32 x) : C.wrap32 x = x := by
  unfold FitsInt32 at h; unfold C.wrap32; omega

theorem wrap64_id (x : Nat) (h : x < 18446744073709551616) : C.wrap64 x = x := by
  unfold C.wrap64; omega

theorem integralData_ids_mem (argsort : List Int → List Nat) (ir : FormIR) (d : IntegralData)
    (h : integralData argsort ir = .ok d) : ∀ i ∈ d.ids, ∃ t ∈ ir.integrals, i ∈ t.ids := by
  refine integralData_induct h (fun _ acc => ∀ i ∈ acc.ids, ∃ t ∈ ir.integrals, i ∈ t.ids) (by simp) ?_
  intro _ acc t ids _ _ ht hacc h1 _ _ i hi
  rcases List.mem_append.mp hi with hi | hi
  · exact hacc i hi
  · exact ⟨t, ht, mapM_pyIndex_mem _ _ _ h1 i hi⟩

theorem integralData_offsets_le_last (argsort : List Int → List Nat) (ir : FormIR) (d : IntegralData)
    (h : integralData argsort ir = .ok d) : ∀ x ∈ d.offsets, x ≤ d.offsets.getLast?.getD 0 := by
  refine integralData_induct h (fun _ acc => ∀ x ∈ acc.offsets, x ≤ acc.offsets.getLast?.getD 0) (by simp) ?_
  intro _ acc _ _ _ doms _ hacc _ _ _ x hx
  simp only [List.getLast?_append, List.getLast?_singleton, Option.some_or, Option.getD_some]
  rcases List.mem_append.mp hx with hx | hx
  · have := hacc x hx; omega
  · simp at hx; omega

theorem modifyAt_eq_modify {α} (f : α → α) (k : Nat) (l : List α) : modifyAt f k l = l.modify k f := by
  induction l generalizing k with
  | nil => cases k <;> rfl
  | cons a l ih =>
    cases k with
    | zero => rfl
    | succ k => rw [modifyAt, ih, List.modify_succ_cons]

theorem mem_modifyAt {α} (f : α → α) (k : Nat) (l : List α) (t : α) (h : t ∈ modifyAt f k l) :
    t ∈ l ∨ ∃ t0 ∈ l, t = f t0 := by
  rw [modifyAt_eq_modify] at h
  obtain ⟨i, hi, rfl⟩ := List.mem_iff_getElem.mp h
  rw [List.getElem_modify]
  split
  · exact .inr ⟨_, List.getElem_mem _, rfl⟩
  · exact .inl (List.getElem_mem _)

theorem SubId.toInt_fits (s : SubId) (h1 : s.isNegative = false) (h2 : s.tooLarge = false) : idFits s.toInt := by
  cases s with
  | otherwise => simp [SubId.toInt, idFits]
  | num i =>
    simp [SubId.isNegative, SubId.tooLarge] at h1 h2
    simp only [SubId.toInt, idFits]; omega

/-- the invariant of the loop of `_compute_form_ir` -/
def GroupsOk (gs : List TypeIntegrals) : Prop :=
  ∀ t ∈ gs, (∀ i ∈ t.ids, idFits i) ∧ t.names.length = t.ids.length ∧ t.domains.length = t.ids.length

theorem formIRIntegralsStep_ok (gs gs' : List TypeIntegrals) (d : ItgData) (hg : GroupsOk gs)
    (h : formIRIntegralsStep gs d = .ok gs') : GroupsOk gs' := by
  unfold formIRIntegralsStep at h
  split at h
  · simp at h
  · rename_i hneg
    split at h
    · simp at h
    · rename_i hbig
      split at h
      · simp at h
        subst h
        intro t ht
        rcases mem_modifyAt _ _ _ _ ht with ht | ⟨t0, h0, rfl⟩
        · exact hg t ht
        · obtain ⟨a, b, c⟩ := hg t0 h0
          refine ⟨?_, by simp [TypeIntegrals.extend, b], by simp [TypeIntegrals.extend, c]⟩
          intro i hi
          simp only [TypeIntegrals.extend, List.mem_append, List.mem_map] at hi
          rcases hi with hi | ⟨s, hs, rfl⟩
          · exact a i hi
          · exact SubId.toInt_fits s
              (Bool.eq_false_iff.mpr fun hn => hneg (List.any_eq_true.mpr ⟨s, hs, hn⟩))
              (Bool.eq_false_iff.mpr fun hn => hbig (List.any_eq_true.mpr ⟨s, hs, hn⟩))
      · simp at h

theorem formIRIntegrals_ok (ntypes : Nat) (itgs : List ItgData) (gs : List TypeIntegrals)
    (h : formIRIntegrals ntypes itgs = .ok gs) : GroupsOk gs := by
  unfold formIRIntegrals at h
  refine foldlM_invariant (fun _ => GroupsOk) formIRIntegralsStep itgs
    (fun _ acc t acc' _ hacc hs => formIRIntegralsStep_ok acc acc' t hacc hs) _ gs ?_ h
  intro t ht
  rw [List.mem_replicate] at ht
  obtain ⟨-, rfl⟩ := ht
  simp

end Ffcx.Backend
