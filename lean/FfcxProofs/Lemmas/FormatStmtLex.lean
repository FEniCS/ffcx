/-
C16 — statements, text level (C). The lines of a text (`splitLines`, `joinNL`; no lexer in these).
The C lexer is line-compositional: a line break flushes every pending token (`trans_nl`, `lexC_nl`,
`lexC_lines`), so a text that is empty or ends in a line break (`NLE`) is read independently of what
follows (`lexC_nle_append`), indentation (`indentLines`, `indentAfterNewlines`) does not change the
token stream, and `//` comment lines contribute no tokens (`comment_line`). Statements are about the
model's own `lexC`, `feed`, `trans` (`feed_comment` about `cLexer.feed`); proofs pass to `cLexer` (`lexC_eq`, `feed_eq`) where a lemma of
`Lexer` does the work.
-/
import FfcxProofs.Lemmas.FormatLex
namespace Ffcx.LNodes.Fmt

/-- turns `s.toList` for a string literal `s` into a `List Char` literal (`toList_lit rfl`), the form
    in which `decide` and the lexer lemmas can read it -/
theorem toList_lit {s : String} {l : List Char} (h : s = String.ofList l) : s.toList = l :=
  h ▸ String.toList_ofList

theorem splitLines_acc (acc cs : List Char) :
    ∃ l ls, splitLines acc cs = (acc.reverse ++ l) :: ls ∧ splitLines [] cs = l :: ls := by
  induction cs generalizing acc with
  | nil => exact ⟨[], [], by simp [splitLines], by simp [splitLines]⟩
  | cons c cs ih =>
    by_cases h : c = '\n'
    · subst h
      exact ⟨[], splitLines [] cs, by simp [splitLines], by simp [splitLines]⟩
    · have hc : (c == '\n') = false := by simpa using h
      obtain ⟨l, ls, h1, h2⟩ := ih (c :: acc)
      obtain ⟨l', ls', h1', h2'⟩ := ih [c]
      refine ⟨c :: l', ls', ?_, ?_⟩
      · simp only [splitLines, hc]
        rw [h1]
        rw [h2] at h2'
        injection h2' with e1 e2
        subst e1; subst e2
        simp
      · simp only [splitLines, hc]
        rw [h1']; simp

theorem splitLines_cons_nl (cs : List Char) : splitLines [] ('\n' :: cs) = [] :: splitLines [] cs := by
  simp [splitLines]

theorem splitLines_cons (c : Char) (hc : c ≠ '\n') (cs : List Char) :
    ∃ l ls, splitLines [] cs = l :: ls ∧ splitLines [] (c :: cs) = (c :: l) :: ls := by
  have h : (c == '\n') = false := by simpa using hc
  obtain ⟨l, ls, h1, h2⟩ := splitLines_acc [c] cs
  exact ⟨l, ls, h2, by simp only [splitLines, h]; rw [h1]; simp⟩

/-- the model's `joinC ['\n']` with the separator consed, the form `lexC_nl` and `lexPyFlat_nl` rewrite -/
def joinNL : List (List Char) → List Char
  | [] => []
  | [l] => l
  | l :: l' :: ls => l ++ '\n' :: joinNL (l' :: ls)

theorem joinNL_splitLines (cs : List Char) : joinNL (splitLines [] cs) = cs := by
  induction cs with
  | nil => rfl
  | cons c cs ih =>
    by_cases hc : c = '\n'
    · subst hc
      rw [splitLines_cons_nl]
      obtain ⟨l, ls, _, h2⟩ := splitLines_acc [] cs
      rw [h2] at ih ⊢
      simp [joinNL, ih]
    · obtain ⟨l, ls, h1, h2⟩ := splitLines_cons c hc cs
      rw [h2, ← ih, h1]; cases ls <;> rfl

theorem splitLines_no_nl (cs : List Char) : ∀ l ∈ splitLines [] cs, '\n' ∉ l := by
  induction cs with
  | nil => intro l hl; simp [splitLines] at hl; subst hl; simp
  | cons c cs ih =>
    by_cases hc : c = '\n'
    · subst hc
      rw [splitLines_cons_nl]
      intro l hl
      simp only [List.mem_cons] at hl
      rcases hl with rfl | hl
      · simp
      · exact ih l hl
    · obtain ⟨l0, ls, h1, h2⟩ := splitLines_cons c hc cs
      rw [h2]
      rw [h1] at ih
      intro l hl
      simp only [List.mem_cons] at hl
      rcases hl with rfl | hl
      · have := ih l0 (by simp)
        simp only [List.mem_cons, not_or]
        exact ⟨fun h => hc h.symm, this⟩
      · exact ih l (by simp [hl])

/-- the line break ends every token, and a comment -/
theorem trans_nl (st : LS) : trans st '\n' = (flush st, .start) := by
  by_cases h : st = .comment
  · subst h; rfl
  · exact (trans_sep (sepChar_low h (c := '\n') (by decide))).trans (congrArg (·, LS.start) (List.append_nil _))

theorem lexC_nl (a b : List Char) : lexC (a ++ '\n' :: b) = lexC a ++ lexC b := by
  simp only [lexC_eq]
  exact Lexer.run_break (M := cLexer) (o := []) (fun st => by rw [List.append_nil]; exact trans_nl st) _ a b

theorem lexC_nil : lexC [] = [] := rfl

/-- ends in a newline or is empty: what every statement text looks like -/
def NLE (x : List Char) : Prop := x = [] ∨ ∃ a, x = a ++ ['\n']

theorem nle_append {x y} (hx : NLE x) (hy : NLE y) : NLE (x ++ y) := by
  rcases hy with rfl | ⟨b, rfl⟩
  · simpa using hx
  · exact Or.inr ⟨x ++ b, by simp⟩

theorem lexC_nle_append {x : List Char} (hx : NLE x) (y : List Char) : lexC (x ++ y) = lexC x ++ lexC y := by
  rcases hx with rfl | ⟨a, rfl⟩
  · rfl
  · rw [List.append_assoc, List.singleton_append, lexC_nl, lexC_nl, lexC_nil, List.append_nil]

theorem lexC_snoc_nl (a : List Char) : lexC (a ++ ['\n']) = lexC a :=
  (lexC_nl a []).trans (List.append_nil _)

theorem lexC_spaces {s : List Char} (hs : s.all isSpace = true) (cs : List Char) :
    lexC (s ++ cs) = lexC cs := by
  simp only [lexC_eq]
  exact Lexer.run_reset _ (feed_spaces hs) cs

theorem feed_indentAfterNewlines (st : LS) (cs : List Char) :
    feed st (indentAfterNewlines cs) = feed st cs := by
  induction cs generalizing st with
  | nil => rfl
  | cons c cs ih =>
    by_cases h : c = '\n'
    · subst h
      simp only [indentAfterNewlines, beq_self_eq_true, if_true, feed, trans_nl]
      have : trans .start ' ' = ([], .start) := rfl
      simp only [this, ih, List.nil_append]
    · have : (c == '\n') = false := by simpa using h
      simp only [indentAfterNewlines, this, Bool.false_eq_true, if_false, feed, ih]

theorem lexC_indentAfterNewlines (cs : List Char) : lexC (indentAfterNewlines cs) = lexC cs := by
  simp only [lexC, feed_indentAfterNewlines]

theorem indentAfterNewlines_append (a b : List Char) :
    indentAfterNewlines (a ++ b) = indentAfterNewlines a ++ indentAfterNewlines b := by
  induction a with
  | nil => rfl
  | cons c cs ih =>
    simp only [List.cons_append, indentAfterNewlines, ih]
    split <;> simp

/-- `body.replace("\n", "\n  ")[:-2]` of a text ending in a newline: only the last line's
    indentation is cut off -/
theorem dropLast2_indent_nl (a : List Char) :
    dropLast2 (indentAfterNewlines (a ++ ['\n'])) = indentAfterNewlines a ++ ['\n'] := by
  rw [indentAfterNewlines_append]
  have : indentAfterNewlines ['\n'] = ['\n', ' ', ' '] := rfl
  rw [this]
  simp only [dropLast2, List.length_append, List.length_cons, List.length_nil]
  have h2 : (indentAfterNewlines a).length + (0 + 1 + 1 + 1) - 2 = (indentAfterNewlines a).length + 1 := by omega
  rw [h2]
  rw [show indentAfterNewlines a ++ ['\n', ' ', ' '] = (indentAfterNewlines a ++ ['\n']) ++ [' ', ' '] by simp]
  rw [List.take_append_of_le_length (by simp)]
  rw [List.take_of_length_le (by simp)]

theorem lexC_joinNL (ls : List (List Char)) : lexC (joinNL ls) = ls.flatMap lexC := by
  induction ls with
  | nil => rfl
  | cons l ls ih =>
    cases ls with
    | nil => simp [joinNL]
    | cons l' ls => simp only [joinNL, lexC_nl, ih, List.flatMap_cons]

/-- tokens never span lines -/
theorem lexC_lines (cs : List Char) : lexC cs = (splitLines [] cs).flatMap lexC := by
  rw [← lexC_joinNL, joinNL_splitLines]

/-- `indentLines`: every non-empty line indented by two blanks and terminated -/
theorem lexC_indentLines (b : List Char) : lexC (indentLines b) = lexC b := by
  rw [lexC_lines b]
  unfold indentLines
  induction splitLines [] b with
  | nil => rfl
  | cons l ls ih =>
    by_cases hl : l = []
    · subst hl
      simp only [List.filter_cons, List.isEmpty_nil, Bool.not_true, List.flatMap_cons, lexC_nil, List.nil_append]
      exact ih
    · have : (!l.isEmpty) = true := by simp [hl]
      simp only [List.filter_cons, this, if_true, List.flatMap_cons]
      have e : (' ' :: ' ' :: l ++ ['\n']) = ([' ', ' '] ++ l) ++ ['\n'] := by simp
      rw [e, lexC_nle_append (Or.inr ⟨_, rfl⟩), lexC_snoc_nl, lexC_spaces (by decide), ih]

theorem nle_indentLines (b : List Char) : NLE (indentLines b) := by
  unfold indentLines
  induction (splitLines [] b).filter (fun l => !l.isEmpty) with
  | nil => exact Or.inl rfl
  | cons l ls ih =>
    simp only [List.flatMap_cons]
    exact nle_append (Or.inr ⟨' ' :: ' ' :: l, by simp⟩) ih

theorem feed_comment (l : List Char) (h : '\n' ∉ l) : cLexer.feed .comment l = ([], .comment) := by
  induction l with
  | nil => rfl
  | cons c cs ih =>
    simp only [List.mem_cons, not_or] at h
    have hc : (c == '\n') = false := by simpa using fun e => h.1 e.symm
    simp only [Lexer.feed_cons, cLexer_step, trans, hc, Bool.false_eq_true, if_false, ih h.2, List.append_nil]

theorem comment_line (l : List Char) (h : '\n' ∉ l) : lexC ('/' :: '/' :: l ++ ['\n']) = [] := by
  rw [lexC_snoc_nl, lexC_eq]
  show cLexer.run .start (['/', '/'] ++ l) = []
  rw [Lexer.run_append, show cLexer.feed .start ['/', '/'] = ([], .comment) from rfl, Lexer.run, feed_comment _ h]
  rfl

/-! Not used by the rest of the development; kept for their own sake. -/

def ES (x : List Char) : Prop := (feed .start x).2 = .start

theorem es_append {x y : List Char} (hx : ES x) (hy : ES y) : ES (x ++ y) := by
  simp only [ES, feed_eq] at *
  rw [Lexer.feed_append, hx]; exact hy

end Ffcx.LNodes.Fmt
