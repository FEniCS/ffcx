/-
Soundness of the structural equality test `eqE` / `eqL` on expression trees.  The layout check of the expression
kernels (`exprStoreOK`, C04) uses it, and so does the link check of the generated kernels through its twin
`Codegen.exprEqB`.
-/
import FfcxModel.LNodes.ExprStores

namespace Ffcx.LNodes

/-- Soundness of `eqE`/`eqL`, by their functional induction principle: one case per defining clause; the
catch-all clauses return `false`.  The cases are numbered in the order of the clauses: of `eqE`, 1–12 are
`litF`, `litI`, `sym`, `mi`, `neg`, `not`, `bin`, `sum`, `prod`, `call`, `idx`, `cond` and 13 is the catch-all
(equation `eqE.eq_13`); of `eqL`, 14 is `[]`, 15 is `::` and 16 the catch-all (equation `eqL.eq_3`). -/
theorem eqEL_sound : (∀ a b, eqE a b = true → a = b) ∧ (∀ a b, eqL a b = true → a = b) := by
  apply eqE.mutual_induct (motive_1 := fun a b => eqE a b = true → a = b)
    (motive_2 := fun a b => eqL a b = true → a = b)
  case case1 =>
    intro _ _ _ _ _ _ h
    simp only [eqE, Bool.and_eq_true, decide_eq_true_eq] at h
    rw [h.1.1, h.1.2, h.2]
  case case2 =>
    intro _ _ h
    simp only [eqE, decide_eq_true_eq] at h
    rw [h]
  case case3 =>
    intro _ _ _ _ h
    simp only [eqE, Bool.and_eq_true, decide_eq_true_eq] at h
    rw [h.1, h.2]
  case case4 =>
    intro _ _ _ _ _ _ ihs ihg h
    simp only [eqE, Bool.and_eq_true, decide_eq_true_eq] at h
    rw [ihs h.1.1, h.1.2, ihg h.2]
  case case5 | case6 | case8 | case9 =>
    intro _ _ ih h
    simp only [eqE] at h
    rw [ih h]
  case case7 =>
    intro _ _ _ _ _ _ iha ihb h
    simp only [eqE, Bool.and_eq_true, decide_eq_true_eq] at h
    rw [h.1.1, iha h.1.2, ihb h.2]
  case case10 | case11 =>
    intro _ _ _ _ _ _ ih h
    simp only [eqE, Bool.and_eq_true, decide_eq_true_eq] at h
    rw [h.1.1, h.1.2, ih h.2]
  case case12 =>
    intro _ _ _ _ _ _ ihc iht ihf h
    simp only [eqE, Bool.and_eq_true] at h
    rw [ihc h.1.1, iht h.1.2, ihf h.2]
  case case13 =>
    intro t x h1 h2 h3 h4 h5 h6 h7 h8 h9 h10 h11 h12 h
    rw [eqE.eq_13 t x h1 h2 h3 h4 h5 h6 h7 h8 h9 h10 h11 h12] at h
    cases h
  case case14 => intro _; rfl
  case case15 =>
    intro _ _ _ _ iha ihl h
    simp only [eqL, Bool.and_eq_true] at h
    rw [iha h.1, ihl h.2]
  case case16 =>
    intro t x h1 h2 h
    rw [eqL.eq_3 t x h1 h2] at h
    cases h

end Ffcx.LNodes
