/-
About `FfcxModel/IR/Layout.lean`, in two parts.

1. The C04/C05 layout theorems, on the tilings of `Lemmas/Tiling.lean` (`coeff_blocks_tile` is there) and the row-major
flattening of `Lemmas/Index.lean`: a coefficient access lies in its block; the constant blocks; row-major flattening of
any rank; `original_coefficient_positions`; the expression layout `A[point][component][argument dof]` and its
descriptor; the extents `tensor_sizes` declares for `A`, `w`, `c`, `coordinate_dofs`.

2. Helper lemmas for C06 (`FfcxProofs/C06.lean`) about `integral_data` / `_compute_form_ir`: sorting a group by an
argsort permutes it, and the stable argsort is one; `form_integral_offsets` is the running sum of the kernel counts
(`Delimits`); the slice of the flat id / kernel arrays between two offsets is one group's; what a successful, resp.
rejected, run of the subdomain-id loop says.
-/
import FfcxModel.IR.Layout
import FfcxModel.LNodes.Sem
import FfcxProofs.Lemmas.Index
import FfcxProofs.Lemmas.Tiling

namespace Ffcx.Layout

/-- every `w[offset_k + dof]` with `dof < width·dim_k` is inside block `k` and inside `w`.
`coeffAccess` is tied to the code by `harness/layout_checks._coeff_access_cases`: the index expressions the REAL
`FFCXBackendSymbols.coefficient_dof_access` (call sites of access.py and definitions.py) and
`coefficient_dof_access_blocked` build over the real `coefficient_offsets` of every IntegralIR of the run are
exported and evaluated by the Lean `evalI` (driver command `evali`) and compared with `coeffAccess`
(driver command `coeffaccess`) for a seeded (block size, begin, dof); `Ffcx.LNodes.coeffAccess_reads`
(FfcxProofs/C05.lean) connects it to the per-read block attribution. -/
theorem coeffAccess_in_block (width : Nat) (dims : List Nat) (k dof : Nat)
    (hk : k < dims.length) (hd : dof < width * dims.getD k 0) :
    (coeffOffsets width dims).getD k 0 ≤ coeffAccess width dims k dof
    ∧ coeffAccess width dims k dof < (coeffOffsets width dims).getD k 0 + width * dims.getD k 0
    ∧ coeffAccess width dims k dof < width * dims.sum := by
  obtain ⟨T, hl, hs, _⟩ := coeff_blocks_tile width dims
  exact ⟨Nat.le_add_right _ _, Nat.add_lt_add_left hd _, T.index_lt (hl ▸ hk) (hs k ▸ hd)⟩

/-- width table: on the integral types FFCx supports, `width = 2` exactly for interior facets
(the substring test `in ("interior_facet")` happens to agree with equality there). -/
theorem width_table :
    widthOf "cell" = 1 ∧ widthOf "exterior_facet" = 1 ∧ widthOf "interior_facet" = 2
    ∧ widthOf "vertex" = 1 ∧ widthOf "ridge" = 1 := by decide +kernel

/-- … but it is a substring test: a hypothetical integral type "facet" would get width 2. -/
theorem width_substring_witness : widthOf "facet" = 2 := by decide +kernel

@[simp] theorem shapeProd_nil : shapeProd [] = 1 := rfl
@[simp] theorem shapeProd_cons (d : Nat) (ds : List Nat) : shapeProd (d :: ds) = d * shapeProd ds := rfl

/-- Bridge to the LNodes semantics: the row-major index `flatIdx` computes for an array access
is `flatComponent`, so what `Lemmas/Index.lean` proves of `flatIdx` holds of `flatComponent`, and
`flatten_lt` / `flatten_inj` speak about real `A[...]`, `w[...]`, `c[...]`. -/
theorem flatIdx_eq_flatComponent : ∀ (shape idx : List Nat), InRange shape idx →
    LNodes.flatIdx shape (idx.map Int.ofNat) = some (flatComponent shape idx)
  | [], [], _ => rfl
  | d :: ds, i :: is, ⟨hi, hr⟩ => by
    have hc : (0 : Int) ≤ Int.ofNat i ∧ Int.ofNat i < (d : Int) := ⟨Int.natCast_nonneg i, Int.ofNat_lt.mpr hi⟩
    simp only [List.map_cons, LNodes.flatIdx, hc, and_self, if_true, flatIdx_eq_flatComponent ds is hr,
      flatComponent]
    rfl
  | [], _ :: _, h | _ :: _, [], h => h.elim

/-- `Lemmas/Index.lean` states its bounds with its own `LNodes.sizeProd` (what `flatIdx`, `strides`, `exec` write
inline); it is the layout model's `shapeProd`. -/
theorem sizeProd_eq_shapeProd : LNodes.sizeProd = shapeProd := rfl

/-- Any rank, any sizes. -/
theorem flatten_lt : ∀ (shape idx : List Nat), InRange shape idx →
    flatComponent shape idx < shapeProd shape :=
  fun shape idx h => sizeProd_eq_shapeProd ▸ LNodes.flatIdx_lt shape _ _ (flatIdx_eq_flatComponent shape idx h)

theorem flatten_inj : ∀ (shape i j : List Nat), InRange shape i → InRange shape j →
    flatComponent shape i = flatComponent shape j → i = j :=
  fun shape i j hi hj h =>
    (List.map_inj_right fun _ _ => Int.ofNat.inj).mp
      (LNodes.flatIdx_inj shape _ _ _ (flatIdx_eq_flatComponent shape i hi)
        (h ▸ flatIdx_eq_flatComponent shape j hj))

/-- C05.  The blocks `[off_k, off_k + Πshape_k)` assigned to the constants
of the ORIGINAL form/expression (in that order) tile `[0, ΣΠshape)`, and the row-major flat
component of an in-range component index lies inside the constant's own block. -/
theorem const_blocks_tile (shapes : List (List Nat)) :
    Tiles (constOffsets shapes) (shapes.map shapeProd) (constTotal shapes)
    ∧ (∀ k idx, k < shapes.length → InRange (shapes.getD k []) idx →
        (constOffsets shapes).getD k 0 ≤ constAccess shapes k idx
        ∧ constAccess shapes k idx < (constOffsets shapes).getD k 0 + shapeProd (shapes.getD k [])
        ∧ constAccess shapes k idx < constTotal shapes) := by
  have T := offsetsFrom_tiles (shapes.map shapeProd)
  refine ⟨T, ?_⟩
  intro k idx hk hr
  have h1 := flatten_lt _ _ hr
  have h3 : (shapes.map shapeProd).getD k 0 = shapeProd (shapes.getD k []) := by
    simp [List.getD_eq_getElem?_getD, hk]
  exact ⟨Nat.le_add_right _ _, Nat.add_lt_add_left h1 _, T.index_lt (by simpa using hk) (h3 ▸ h1)⟩

theorem survivingIdx_lt {α} (p : α → Bool) (l : List α) : ∀ i ∈ survivingIdx p l, i < l.length := by
  induction l with
  | nil => simp [survivingIdx]
  | cons a l ih =>
    intro i hi
    simp only [survivingIdx, List.mem_append, List.mem_map] at hi
    rcases hi with hi | ⟨j, hj, rfl⟩
    · split at hi <;> simp at hi; subst hi; simp
    · have := ih j hj; simp; omega

theorem survivingIdx_sorted {α} (p : α → Bool) (l : List α) :
    (survivingIdx p l).Pairwise (· < ·) := by
  induction l with
  | nil => simp [survivingIdx]
  | cons a l ih =>
    simp only [survivingIdx]
    rw [List.pairwise_append]
    refine ⟨by split <;> simp, ?_, ?_⟩
    · rw [List.pairwise_map]; exact ih.imp (by intro a b h; omega)
    · intro x hx y hy
      split at hx <;> simp at hx
      subst hx
      simp only [List.mem_map] at hy
      obtain ⟨j, _, rfl⟩ := hy
      omega

theorem survivingIdx_length {α} (p : α → Bool) (l : List α) :
    (survivingIdx p l).length = (l.filter p).length := by
  induction l with
  | nil => simp [survivingIdx]
  | cons a l ih =>
    simp only [survivingIdx, List.length_append, List.length_map, ih, List.filter_cons]
    split <;> simp <;> omega

theorem survivingIdx_get {α} (p : α → Bool) (l : List α) :
    (survivingIdx p l).filterMap (l[·]?) = l.filter p := by
  induction l with
  | nil => simp [survivingIdx]
  | cons a l ih =>
    simp only [survivingIdx, List.filterMap_append, List.filterMap_map, List.filter_cons]
    have : List.filterMap ((fun x => (a :: l)[x]?) ∘ fun x => x + 1) (survivingIdx p l)
        = List.filterMap (l[·]?) (survivingIdx p l) := by
      congr 1
    rw [this, ih]
    split <;> simp

theorem origPositions_filter {α} [DecidableEq α] (p : α → Bool) (orig : List α) (hn : orig.Nodup) :
    origPositions orig (orig.filter p) = survivingIdx p orig := by
  induction orig with
  | nil => simp [origPositions, survivingIdx]
  | cons a l ih =>
    obtain ⟨ha, hn'⟩ := List.nodup_cons.mp hn
    have hrest : (l.filter p).map (List.idxOf · (a :: l)) = (survivingIdx p l).map (· + 1) := by
      rw [← ih hn', origPositions, List.map_map]
      refine List.map_congr_left fun x hx => ?_
      have : (a == x) = false := by simpa using fun h : a = x => ha (h ▸ (List.mem_filter.mp hx).1)
      simp [List.idxOf_cons, this]
    simp only [origPositions, survivingIdx, List.filter_cons]
    split <;> simp [hrest]

/-- C04/C05.  If the surviving coefficients are a sub-list of the original
coefficient list (same relative order) and the original list has no repetition, then
`original_coefficient_positions` is strictly increasing, has one entry per surviving coefficient
(`num_coefficients`), every entry is a valid index of the original list, entry `i` is THE index of
surviving coefficient `i`, and the list is exactly the list of indices of the survivors. -/
theorem orig_positions {α} [DecidableEq α] (orig reduced : List α)
    (hsub : reduced.Sublist orig) (hn : orig.Nodup) :
    (origPositions orig reduced).Pairwise (· < ·)
    ∧ (origPositions orig reduced).length = reduced.length
    ∧ (∀ i ∈ origPositions orig reduced, i < orig.length)
    ∧ (origPositions orig reduced).filterMap (orig[·]?) = reduced
    ∧ origPositions orig reduced = survivingIdx (fun a => decide (a ∈ reduced)) orig := by
  have e := sublist_eq_filter hsub hn
  have hp : origPositions orig reduced = survivingIdx (fun a => decide (a ∈ reduced)) orig := by
    conv => lhs; rw [e]
    exact origPositions_filter _ orig hn
  refine ⟨?_, by simp [origPositions], ?_, ?_, hp⟩
  · rw [hp]; exact survivingIdx_sorted _ _
  · rw [hp]; exact survivingIdx_lt _ _
  · rw [hp, survivingIdx_get]; exact e.symm

/-- C04.  `MultiIndex([iq, comp, dof], [P, C, D])` flattens (in the LNodes
semantics) to `iq·C·D + comp·D + dof`, which is inside `A[P·C·D]`. -/
theorem expr_layout (P C D iq comp dof : Nat) (h1 : iq < P) (h2 : comp < C) (h3 : dof < D) :
    LNodes.flatIdx [P, C, D] [(iq : Int), (comp : Int), (dof : Int)] = some (iq * C * D + comp * D + dof)
    ∧ iq * C * D + comp * D + dof < P * C * D := by
  have hr : InRange [P, C, D] [iq, comp, dof] := ⟨h1, h2, h3, trivial⟩
  simpa [flatComponent, Nat.mul_assoc, Nat.add_assoc] using
    And.intro (flatIdx_eq_flatComponent _ _ hr) (flatten_lt _ _ hr)

theorem expr_layout_inj (P C D iq comp dof iq' comp' dof' : Nat)
    (h1 : iq < P) (h2 : comp < C) (h3 : dof < D) (h1' : iq' < P) (h2' : comp' < C) (h3' : dof' < D)
    (h : iq * C * D + comp * D + dof = iq' * C * D + comp' * D + dof') :
    iq = iq' ∧ comp = comp' ∧ dof = dof' := by
  have hr : InRange [P, C, D] [iq, comp, dof] := ⟨h1, h2, h3, trivial⟩
  have hr' : InRange [P, C, D] [iq', comp', dof'] := ⟨h1', h2', h3', trivial⟩
  have := flatten_inj _ _ _ hr hr' (by simpa [flatComponent, Nat.mul_assoc, Nat.add_assoc] using h)
  simpa using this

/-- rank-0 expressions: `A[iq][comp]`. -/
theorem expr_layout_rank0 (P C iq comp : Nat) (h1 : iq < P) (h2 : comp < C) :
    LNodes.flatIdx [P, C] [(iq : Int), (comp : Int)] = some (iq * C + comp) ∧ iq * C + comp < P * C := by
  have hr : InRange [P, C] [iq, comp] := ⟨h1, h2, trivial⟩
  simpa [flatComponent] using And.intro (flatIdx_eq_flatComponent _ _ hr) (flatten_lt _ _ hr)

theorem entityType_ok (tdim : Option Nat) (pdim : Nat) (s : String) (h : entityType tdim pdim = .ok s) :
    (s = "cell" ∧ (tdim = none ∨ tdim = some pdim)) ∨ (s = "facet" ∧ tdim = some (pdim + 1)) := by
  unfold entityType at h
  split at h
  · exact .inl ⟨(Except.ok.inj h).symm, .inl rfl⟩
  · split at h
    · exact .inl ⟨(Except.ok.inj h).symm, .inr (by simp [*])⟩
    · split at h
      · exact .inr ⟨(Except.ok.inj h).symm, by simp [*]⟩
      · cases h

theorem entityType_error (t pdim : Nat) (h1 : t ≠ pdim) (h2 : t ≠ pdim + 1) :
    ∃ m, entityType (some t) pdim = .error m := by
  simp [entityType, h1, h2]

theorem exprDesc_ok (e : ExprIn) (d : ExprDesc) (h : exprDesc e = .ok d) :
    e.argDims.length ≤ 1 ∧ ∃ et, entityType e.tdim e.pdim = .ok et ∧ d =
      { numPoints := e.numPoints, entityDimension := e.pdim, valueShape := e.shape,
        numComponents := e.shape.length, rank := e.argDims.length,
        numCoefficients := e.coeffs.length, numConstants := e.origConstShapes.length,
        origPositions := origPositions e.origCoeffs e.coeffs, entityType := et,
        sizeA := e.numPoints * shapeProd e.shape * shapeProd e.argDims } := by
  unfold exprDesc at h
  split at h
  · cases h
  · rename_i hr
    split at h
    · cases h
    · rename_i et het
      exact ⟨Nat.le_of_not_lt hr, et, het, (Except.ok.inj h).symm⟩

/-- C04.  Whenever `_compute_expression_ir` + `C/expression.py` accept an
expression, the descriptor describes the layout `A[point][component][argument dof]`:
`num_points = P`, `entity_dimension = pdim ∈ {tdim, tdim-1}` (or no domain), `value_shape` is the UFL
shape and `num_components` its LENGTH (as ufcx.h documents), `rank ≤ 1`, the extent of `A` is
`P·Πvalue_shape·Πargdims` = Π `A_shape`, `num_coefficients = len(original_coefficient_positions)`. -/
theorem expr_descriptor (e : ExprIn) (d : ExprDesc) (h : exprDesc e = .ok d) :
    d.numPoints = e.numPoints ∧ d.entityDimension = e.pdim
    ∧ (e.tdim = none ∨ e.tdim = some e.pdim ∨ e.tdim = some (e.pdim + 1))
    ∧ d.valueShape = e.shape ∧ d.numComponents = d.valueShape.length
    ∧ d.rank = e.argDims.length ∧ d.rank ≤ 1
    ∧ d.sizeA = shapeProd (exprAShape e)
    ∧ d.numCoefficients = d.origPositions.length := by
  obtain ⟨hr, et, het, rfl⟩ := exprDesc_ok e d h
  refine ⟨rfl, rfl, ?_, rfl, rfl, rfl, hr, ?_, by simp [origPositions]⟩
  · rcases entityType_ok _ _ _ het with ⟨_, h | h⟩ | ⟨_, h⟩
    · exact .inl h
    · exact .inr (.inl h)
    · exact .inr (.inr h)
  · simp [exprAShape, shapeProd, Nat.mul_assoc]

theorem exprDesc_two_arguments (e : ExprIn) (h : e.argDims.length > 1) :
    exprDesc e = .error "Expression with more than one Argument not implemented." := by
  simp [exprDesc, h]

/-- C04.  The descriptor's `num_constants` (= number of `constant_names`)
is the number of constant blocks the kernel's `c` is laid out with (`original_constant_offsets` has one
block per constant of the ORIGINAL expression, in that order), whatever preprocessing removes; and
for every named constant `k` the slot the kernel reads for an in-range component,
`c[constAccess … k idx]`, lies in block `k` of that layout and inside `c[0, ΣΠshape)`. -/
theorem expr_num_constants (e : ExprIn) (d : ExprDesc) (h : exprDesc e = .ok d) :
    d.numConstants = e.origConstShapes.length
    ∧ d.numConstants = (constOffsets e.origConstShapes).length
    ∧ Tiles (constOffsets e.origConstShapes) (e.origConstShapes.map shapeProd) (constTotal e.origConstShapes)
    ∧ (∀ k idx, k < d.numConstants → InRange (e.origConstShapes.getD k []) idx →
        (constOffsets e.origConstShapes).getD k 0 ≤ constAccess e.origConstShapes k idx
        ∧ constAccess e.origConstShapes k idx
            < (constOffsets e.origConstShapes).getD k 0 + shapeProd (e.origConstShapes.getD k [])
        ∧ constAccess e.origConstShapes k idx < constTotal e.origConstShapes) := by
  obtain ⟨-, _, -, rfl⟩ := exprDesc_ok e d h
  obtain ⟨T, hacc⟩ := const_blocks_tile e.origConstShapes
  exact ⟨rfl, by simp [constOffsets], T, hacc⟩

/-- the former witness of `exprdesc:num_constants:dropped-constant`:
`diff(c1*g + c3*h + c2[1]*x*x, x)`, `x = variable(f)`; constants of the original expression have
shapes `(), (2,), ()`; only `c2` survives preprocessing. -/
def dropWitness : ExprIn :=
  { tdim := some 2, numPoints := 2, pdim := 2, shape := [], argDims := [],
    origCoeffs := [0, 1, 2], coeffs := [0], origConstShapes := [[], [2], []], numConstsReduced := 1 }

/-- on the witness the descriptor now announces all 3 constants (it was 1), and the slot the kernel reads,
`c[2]`, is component 1 of constant 1 inside `c[0,4)`. -/
theorem expr_num_constants_witness :
    ∃ d, exprDesc dropWitness = .ok d ∧ d.numConstants = 3
      ∧ constAccess dropWitness.origConstShapes 1 [1] = 2 ∧ constTotal dropWitness.origConstShapes = 4 := by
  refine ⟨_, rfl, ?_, ?_, ?_⟩ <;> decide +kernel

/-- the integral types of `ufcx.h` / `supported_integral_types` (cf. `Ffcx.C06.enum_order`) -/
def integralTypes : List String := ["cell", "exterior_facet", "interior_facet", "vertex", "ridge"]

/-- on the supported integral types the two width tests of the code base agree
(`in ("interior_facet")` in `_compute_integral_ir`, `== "interior_facet"` in `tensor_sizes`) -/
theorem width_agree (t : String) (h : t ∈ integralTypes) : widthOf t = tensorWidth t := by
  simp only [integralTypes, List.mem_cons, List.not_mem_nil, or_false] at h
  obtain ⟨h1, h2, h3, h4, h5⟩ := width_table
  rcases h with rfl | rfl | rfl | rfl | rfl <;> simp [tensorWidth, *]

/-- For every supported integral type, ANY number of coefficients and
constants, any argument dimensions, with or without diagonalisation, the extents `tensor_sizes` declares
equal the UFCx contract extents:
`A = Π_j width·argdim_j` (first argument only when diagonalising),
`w = width·Σdim` = end of the last coefficient block (`coeff_blocks_tile`),
`c = ΣΠshape` = end of the last constant block (`const_blocks_tile`),
`coordinate_dofs = width·nodes·3`, with `width = 2` exactly for interior facets. -/
theorem tensor_sizes_integral (t : String) (ht : t ∈ integralTypes) (argDims dims : List Nat)
    (diag : Bool) (constShapes : List (List Nat)) (nodes : Nat) (perm : Bool) :
    let s := tensorSizesIntegral t (integralTensorShape t argDims diag) dims constShapes nodes perm
    s.A = shapeProd (((if diag then argDims.take 1 else argDims)).map (widthOf t * ·))
    ∧ s.w = coeffTotal (widthOf t) dims
    ∧ Tiles (coeffOffsets (widthOf t) dims) (blockSizes (widthOf t) dims) s.w
    ∧ s.c = constTotal constShapes
    ∧ Tiles (constOffsets constShapes) (constShapes.map shapeProd) s.c
    ∧ s.coords = widthOf t * nodes * 3
    ∧ (widthOf t = 2 ↔ t = "interior_facet") ∧ (widthOf t = 1 ∨ widthOf t = 2) := by
  intro s
  have hw := width_agree t ht
  obtain ⟨T, -, -, htot⟩ := coeff_blocks_tile (widthOf t) dims
  have hsw : s.w = widthOf t * dims.sum := by rw [hw]; rfl
  refine ⟨?_, hsw.trans htot.symm, hsw ▸ T, rfl, (const_blocks_tile constShapes).1, by rw [hw]; rfl, ?_, ?_⟩
  · simp only [s, tensorSizesIntegral, integralTensorShape, hw, tensorWidth]
    by_cases hi : t = "interior_facet" <;> cases diag <;> simp [hi, List.map_take]
  all_goals rw [hw, tensorWidth]; split <;> simp [*]

/-- For every accepted expression the declared extents are the contract
extents: `A = num_points·Πvalue_shape·Πargdims` = Π`A_shape` (the descriptor's `sizeA`), `w = Σdim` =
end of the last coefficient block (width 1), `c = ΣΠshape` of the ORIGINAL constants,
`coordinate_dofs = nodes·3`. -/
theorem tensor_sizes_expression (e : ExprIn) (d : ExprDesc) (h : exprDesc e = .ok d)
    (dims : List Nat) (nodes : Nat) (perm : Bool) :
    let s := tensorSizesExpr e.numPoints e.shape e.argDims dims e.origConstShapes nodes perm
    s.A = d.sizeA ∧ s.A = shapeProd (exprAShape e)
    ∧ s.w = coeffTotal 1 dims ∧ Tiles (coeffOffsets 1 dims) (blockSizes 1 dims) s.w
    ∧ s.c = constTotal e.origConstShapes ∧ s.coords = nodes * 3 := by
  intro s
  have hd := (expr_descriptor e d h).2.2.2.2.2.2.2.1
  obtain ⟨-, _, -, hd'⟩ := exprDesc_ok e d h
  obtain ⟨T, -, -, htot⟩ := coeff_blocks_tile 1 dims
  have hA : s.A = d.sizeA := by rw [hd']; rfl
  have hw : s.w = 1 * dims.sum := (Nat.one_mul _).symm
  exact ⟨hA, hA.trans hd, hw.trans htot.symm, hw ▸ T, rfl, rfl⟩

/-- the former witness of the finding `c18:carray-extent:w:interior_facet` (violation key
`tensor_sizes:w:interior_facet` of `harness/layout_checks.check_tensor_sizes`; one P1-triangle coefficient, interior
facet, rank 1): `w` is now 6 (it was 3), `coordinate_dofs` 18, `A` 6. -/
theorem tensor_sizes_interior_witness :
    tensorSizesIntegral "interior_facet" (integralTensorShape "interior_facet" [3] false) [3] [] 3 true
      = { A := 6, w := 6, c := 0, coords := 18, localIndex := 2, permutation := 2 } := by decide +kernel

example : coeffOffsets 2 [3, 6, 1] = [0, 6, 18] ∧ coeffTotal 2 [3, 6, 1] = 20 := by decide
example : constOffsets [[2, 2], [], [3]] = [0, 4, 5] ∧ constTotal [[2, 2], [], [3]] = 8 := by decide
example : InRange [2, 3] [1, 2] ∧ flatComponent [2, 3] [1, 2] = 5 :=
  ⟨⟨by omega, by omega, trivial⟩, by decide⟩
example : origPositions [10, 11, 12, 13] [11, 13] = [1, 3] := by decide
example : ([11, 13] : List Nat).Sublist [10, 11, 12, 13] ∧ ([10, 11, 12, 13] : List Nat).Nodup := by
  decide
def facetWitness : ExprIn :=
  { tdim := some 2, numPoints := 3, pdim := 1, shape := [2], argDims := [3],
    origCoeffs := [0, 1], coeffs := [1], origConstShapes := [[]], numConstsReduced := 1 }
example : ∃ d, exprDesc facetWitness = .ok d
    ∧ d.entityType = "facet" ∧ d.sizeA = 18 ∧ d.origPositions = [1] := ⟨_, rfl, by decide +kernel⟩

theorem applyPerm_perm {α} (π : List Nat) (g : List α) (h : π.Perm (List.range g.length)) :
    (applyPerm π g).Perm g := by
  have := List.Perm.filterMap (g[·]?) h
  rw [range_filterMap_getElem?] at this
  exact this

theorem applyPerm_map {α β} (f : α → β) (π : List Nat) (g : List α) :
    (applyPerm π g).map f = applyPerm π (g.map f) := by
  simp only [applyPerm, List.map_filterMap]
  congr 1
  funext i
  simp [List.getElem?_map]

/-- the stable merge-sort argsort satisfies the relation assumed of `np.argsort` -/
theorem argsortStable_isArgsort (ids : List Int) : IsArgsort ids (argsortStable ids) := by
  have hperm := List.mergeSort_perm ids.zipIdx (fun a b => decide (a.1 ≤ b.1))
  have hsorted := List.pairwise_mergeSort (le := fun (a b : Int × Nat) => decide (a.1 ≤ b.1))
    (by intro a b c; simp; omega) (by intro a b; simp; omega) ids.zipIdx
  constructor
  · have := hperm.map (·.2)
    simp only [argsortStable]
    refine this.trans ?_
    rw [List.zipIdx_map_snd, List.range_eq_range']
  · -- on pairs of `zipIdx`, looking up the index gives back the id
    have hmem : ∀ p ∈ ids.zipIdx.mergeSort (fun a b => decide (a.1 ≤ b.1)), ids[p.2]? = some p.1 :=
      fun p hp => List.mk_mem_zipIdx_iff_getElem?.mp (hperm.subset hp)
    rw [argsortStable, applyPerm, List.filterMap_map, filterMap_eq_map_of_forall (g := (·.1)) hmem,
      List.pairwise_map]
    exact hsorted.imp (by intro a b h; simpa using h)

/-- Only the permutation half of `IsArgsort`: that the adjacent-pairs test of `isArgsortB` gives the `Pairwise (· ≤ ·)`
half, which `C06.ArgsortAll` also needs, is not proved, so for that half the driver's `true` rests on reading
`isArgsortB`. -/
theorem isArgsortB_sound (ids : List Int) (π : List Nat) (h : isArgsortB ids π = true) :
    π.Perm (List.range ids.length) := by
  simp only [isArgsortB, Bool.and_eq_true] at h
  exact List.isPerm_iff.mp h.1

/-- The offsets loop computes the prefix sums (`offsetsFrom`) of the kernel counts of the groups, followed by their
total — for integrals with ANY number of domains. -/
theorem offsLoop_eq (last : Nat) (gs : List Group) :
    last :: offsLoop last gs = offsetsFrom last (gs.map kernelCount) ++ [last + (gs.map kernelCount).sum] := by
  induction gs generalizing last with
  | nil => simp [offsLoop, offsetsFrom]
  | cons g gs ih => simp [offsLoop, offsetsFrom, ih, Nat.add_assoc]

theorem offsets_delimits (gs : List Group) : Delimits (offsets gs) (gs.map kernelCount) := by
  rw [offsets, offsLoop_eq]
  refine ⟨by simp, fun t ht => ?_⟩
  rcases Nat.lt_or_eq_of_le ht with h | rfl
  · rw [List.getElem?_append_left (by simpa using h), List.getElem?_eq_getElem (by simpa using h),
      List.getElem_eq_getD 0, offsetsFrom_getD 0 _ t h, Nat.zero_add]
  · rw [List.getElem?_append_right (by simp), List.take_length]; simp

theorem Delimits.first {offs counts : List Nat} (h : Delimits offs counts) : offs[0]? = some 0 := by
  simpa using h.2 0 (Nat.zero_le _)

theorem Delimits.last {offs counts : List Nat} (h : Delimits offs counts) :
    offs[counts.length]? = some counts.sum := by
  simpa using h.2 counts.length (Nat.le_refl _)

theorem Delimits.getD {offs counts : List Nat} (h : Delimits offs counts) (t : Nat)
    (ht : t ≤ counts.length) : offs.getD t 0 = (counts.take t).sum := by
  rw [List.getD_eq_getElem?_getD, h.2 t ht]; rfl

theorem Delimits.diff {offs counts : List Nat} (h : Delimits offs counts) (t : Nat)
    (ht : t < counts.length) : offs.getD (t + 1) 0 - offs.getD t 0 = counts.getD t 0
      ∧ offs.getD t 0 ≤ offs.getD (t + 1) 0 := by
  rw [h.getD (t + 1) ht, h.getD t (Nat.le_of_lt ht), sum_take_succ]
  exact ⟨Nat.add_sub_cancel_left _ _, Nat.le_add_right _ _⟩

theorem kernelCount_single (g : Group) (h : ∀ e ∈ g, e.domains.length = 1) : kernelCount g = g.length := by
  rw [kernelCount, List.map_congr_left h, List.map_const', List.sum_replicate_nat, Nat.mul_one]

theorem slice_flatten {β} (offs : List Nat) (segs : List (List β))
    (h : Delimits offs (segs.map List.length)) (t : Nat) (ht : t < segs.length) :
    slice offs t segs.flatten = segs.getD t [] := by
  have ht' : t < (segs.map List.length).length := by simpa using ht
  rw [slice, h.getD (t + 1) ht', h.getD t (Nat.le_of_lt ht'), sum_take_succ, Nat.add_sub_cancel_left]
  exact drop_take_flatten segs t

theorem emit_length (g : Group) : (emit g).length = kernelCount g := by
  simp [emit, kernelCount, List.length_flatMap]

theorem emitIds_eq (es : List Entry) : emitIds es = (emit es).map (·.1) := by
  simp [emitIds, emit, List.map_flatMap, Function.comp_def]

theorem emitKernels_eq (es : List Entry) : emitKernels es = (emit es).map (·.2) := by
  simp [emitKernels, emit, List.map_flatMap, Function.comp_def]

theorem emit_flatten (gs : List Group) : emit gs.flatten = (gs.map emit).flatten := by
  rw [emit, List.flatMap_def, List.map_flatten, List.flatten_flatten, List.map_map]; rfl

theorem modifyAt_eq_modify {α} (f : α → α) (n : Nat) (l : List α) : modifyAt f n l = l.modify n f := by
  induction l generalizing n with
  | nil => cases n <;> rfl
  | cons a l ih =>
    cases n with
    | zero => rfl
    | succ n => rw [modifyAt, ih, List.modify_succ_cons]

@[simp] theorem modifyAt_length {α} (f : α → α) (n : Nat) (l : List α) :
    (modifyAt f n l).length = l.length := by
  rw [modifyAt_eq_modify, List.length_modify]

theorem modifyAt_getD {α} (f : α → α) (n : Nat) (l : List α) (d : α) (t : Nat) (ht : t < l.length) :
    (modifyAt f n l).getD t d = if t = n then f (l.getD t d) else l.getD t d := by
  simp only [modifyAt_eq_modify, List.getD_eq_getElem?_getD, List.getElem?_modify, List.getElem?_eq_getElem ht,
    eq_comm (a := n)]
  split <;> rfl

theorem expectedGroup_cons (d : ItgData) (ds : List ItgData) (t : Nat) :
    expectedGroup (d :: ds) t = (if d.itype = t then d.entries else []) ++ expectedGroup ds t := by
  simp only [expectedGroup, List.filter_cons]
  by_cases h : d.itype = t <;> simp [h]

theorem formIRStep_ok (groups : List Group) (d : ItgData) (g' : List Group)
    (h : formIRStep groups d = .ok g') :
    g' = modifyAt (· ++ d.entries) d.itype groups ∧ d.itype < groups.length
      ∧ ∀ i, SubId.num i ∈ d.subIds → 0 ≤ i ∧ i ≤ 2147483647 := by
  unfold formIRStep at h
  split at h
  · simp at h
  · rename_i hneg
    split at h
    · simp at h
    · rename_i hbig
      split at h
      · rename_i hlt
        simp only [Except.ok.injEq] at h
        refine ⟨h.symm, hlt, fun i hi => ?_⟩
        have h1 := mt (fun hb => List.any_eq_true.mpr ⟨_, hi, hb⟩) hneg
        have h2 := mt (fun hb => List.any_eq_true.mpr ⟨_, hi, hb⟩) hbig
        simp only [SubId.isNegative, SubId.tooLarge, decide_eq_true_eq] at h1 h2
        omega
      · simp at h

theorem formIRStep_neg (groups : List Group) (d : ItgData) (i : Int) (hi : SubId.num i ∈ d.subIds)
    (hneg : i < 0) : formIRStep groups d = .error "Integral subdomain IDs must be non-negative." := by
  unfold formIRStep
  have : d.subIds.any SubId.isNegative = true :=
    List.any_eq_true.mpr ⟨_, hi, by simp [SubId.isNegative, hneg]⟩
  simp [this]

/-- the second guard: no negative id in the tuple, one id above 2³¹−1 -/
theorem formIRStep_large (groups : List Group) (d : ItgData) (i : Int) (hi : SubId.num i ∈ d.subIds)
    (hbig : 2147483647 < i) (hnn : ∀ j, SubId.num j ∈ d.subIds → 0 ≤ j) :
    formIRStep groups d = .error "Integral subdomain IDs must fit a 32-bit signed integer." := by
  unfold formIRStep
  have h1 : d.subIds.any SubId.isNegative = false :=
    List.any_eq_false.mpr fun s hs => by
      cases s with
      | otherwise => simp [SubId.isNegative]
      | num j => simpa [SubId.isNegative] using hnn j hs
  have h2 : d.subIds.any SubId.tooLarge = true :=
    List.any_eq_true.mpr ⟨_, hi, by simp [SubId.tooLarge, hbig]⟩
  simp [h1, h2]

theorem formIRLoop_ok (groups : List Group) (itgs : List ItgData) (gs : List Group)
    (h : formIRLoop groups itgs = .ok gs) :
    gs.length = groups.length
    ∧ (∀ t, t < groups.length → gs.getD t [] = groups.getD t [] ++ expectedGroup itgs t)
    ∧ (∀ d ∈ itgs, d.itype < groups.length ∧ ∀ i, SubId.num i ∈ d.subIds → 0 ≤ i ∧ i ≤ 2147483647) := by
  induction itgs generalizing groups with
  | nil =>
    simp only [formIRLoop, Except.ok.injEq] at h
    subst h
    simp [expectedGroup]
  | cons d ds ih =>
    simp only [formIRLoop] at h
    split at h
    · simp at h
    · rename_i g' hstep
      obtain ⟨hg', hlt, hge⟩ := formIRStep_ok groups d g' hstep
      obtain ⟨hl, hget, hacc⟩ := ih g' h
      have hlen : g'.length = groups.length := by rw [hg']; simp
      refine ⟨by omega, ?_, ?_⟩
      · intro t ht
        rw [hget t (by omega), hg', modifyAt_getD _ _ _ _ _ ht, expectedGroup_cons]
        by_cases e : d.itype = t
        · simp [e]
        · simp [e, Ne.symm e]
      · intro x hx
        rcases List.mem_cons.mp hx with rfl | hx
        · exact ⟨hlt, hge⟩
        · exact ⟨hlen ▸ (hacc x hx).1, (hacc x hx).2⟩

end Ffcx.Layout
