/-
Soundness of the block-scoping checker `scopedS` for the scope-aware semantics `execB`:
an accepted statement never raises a scope error, from any state whose block stack has exactly the
names the checker started from, and ends with a stack that has exactly the names the checker
computed.  Proved together with the preservation of any invariant of states that the primitive
steps of `execB` keep (`StepInv`), as a postcondition (`Post`) on the outcome of the run:
`scopedS_keeps`.
-/
import FfcxProofs.Lemmas.ScopeBase
import FfcxProofs.Lemmas.ExecBind

namespace Ffcx.LNodes
variable {R : Type}

/-- `Q` holds of the final state if there is one.  A run-time error of the flat semantics (`.run`)
    ends the obligation — out-of-bounds and the like are the subject of other theorems —, a scope
    error (`.scope`) violates it: `Post Q r` always says "no scope error". -/
def Post (Q : BSt R → Prop) : Except BErr (BSt R) → Prop
  | .ok b => Q b
  | .error (.run _) => True
  | .error (.scope _) => False

theorem Post.bind {Q Q' : BSt R → Prop} {r : Except BErr (BSt R)} {f : BSt R → Except BErr (BSt R)}
    (h : Post Q r) (hf : ∀ b, Q b → Post Q' (f b)) : Post Q' (r.bind f) :=
  match r, h with
  | .ok b, h => hf b h
  | .error (.run _), _ => trivial

theorem Post.mono {Q Q' : BSt R → Prop} {r : Except BErr (BSt R)} (h : Post Q r)
    (hq : ∀ b, Q b → Q' b) : Post Q' r :=
  match r, h with
  | .ok b, h => hq b h
  | .error (.run _), _ => trivial

theorem Post.of_ok {Q : BSt R → Prop} {r : Except BErr (BSt R)} {b : BSt R} (h : Post Q r)
    (hr : r = .ok b) : Q b := by
  subst hr
  exact h

theorem Post.runLeaf {Q : BSt R → Prop} {r : Except Err (St R)} {f : St R → BSt R}
    (h : ∀ σ', r = .ok σ' → Q (f σ')) : Post Q (runLeaf r f) :=
  match r, h with
  | .ok σ', h => h σ' rfl
  | .error _, _ => trivial

/-- outcome allowed for an accepted statement: a run-time error of the flat semantics, or a state
    whose visible names are exactly `sc'`; never a scope error.  This is
    `Post fun b' => stackNames b'.st = sc'` under a name of its own; `Keeps.soundRes` goes from the
    one to the other. -/
def SoundRes (sc' : Scopes) : Except BErr (BSt R) → Prop
  | .ok b' => stackNames b'.st = sc'
  | .error (.run _) => True
  | .error (.scope _) => False

abbrev Keeps (P : BSt R → Prop) (sc' : Scopes) : Except BErr (BSt R) → Prop :=
  Post (fun b' => stackNames b'.st = sc' ∧ P b')

theorem Keeps.soundRes {P : BSt R → Prop} {sc' : Scopes} {r : Except BErr (BSt R)}
    (h : Keeps P sc' r) : SoundRes sc' r :=
  h.mono fun _ h => h.1

variable [Add R] [Sub R] [Mul R] [Div R] [Neg R] [IntCast R]

/-- The primitive steps of `execB`; `P` is kept by each of them.  Two fields say more than "any new
    store", because `Tight` needs it and an accepted statement provides it: `setIdx` only sets a loop
    index that is visible, and `assign` gets the run of the assignment itself, which only overwrites
    what was bound (`exec_assign_overwrite`).  A loop's own block `for (int i = l; …` needs no field: it
    is `decl` at `enter b`. -/
structure StepInv (x : Extra R) (P : BSt R → Prop) : Prop where
  enter : ∀ {b : BSt R}, P b → P (enter b)
  leave : ∀ {b : BSt R}, P b → P (leave b)
  assign : ∀ {b : BSt R} {s : Stmt} {l r : Expr} {σ' : St R}, P b →
    s = .assign l r ∨ s = .addAssign l r → exec x s b.σ = .ok σ' → P { b with σ := σ' }
  /-- `n` is declared with kind `k`: recorded in the innermost frame, bound, its other meanings hidden -/
  decl : ∀ {b : BSt R} {n : String} {st' : List (Frame R)} (β : Binding R) (k : Kind), P b →
    declareB b.st b.σ n = .ok st' → P { σ := (b.σ.bind n β).only n k, st := st' }
  setIdx : ∀ {b : BSt R} (i : String) (v : Int), P b → declared (stackNames b.st) i = true →
    P (b.setIdx i v)

theorem loopB_keeps {x : Extra R} {P : BSt R → Prop} (hP : StepInv x P)
    {body : BSt R → Except BErr (BSt R)} {i : String} {sc : Scopes} {fb : List String}
    (hb : ∀ b, stackNames b.st = [] :: [i] :: sc → P b → Keeps P (fb :: [i] :: sc) (body b)) :
    ∀ (n : Nat) (lo : Int) (b : BSt R), stackNames b.st = [i] :: sc → P b →
      Keeps P ([i] :: sc) (loopB body i lo n b)
  | 0, _, _, hn, hp => ⟨hn, hp⟩
  | n + 1, lo, b, hn, hp => by
    rw [loopB_succ]
    refine (hb _ (by simp [hn]) (hP.enter (hP.setIdx i lo hp (by simp [hn, declared])))).bind ?_
    intro b' ⟨hn', hp'⟩
    exact loopB_keeps hP hb n (lo + 1) (leave b') (by rw [stackNames_leave, hn']; rfl) (hP.leave hp')

theorem scopedS_keeps (x : Extra R) {P : BSt R → Prop} (hP : StepInv x P) {s : Stmt} {sc sc' : Scopes}
    (h : scopedS sc s = .ok sc') :
    ∀ b : BSt R, stackNames b.st = sc → P b → Keeps P sc' (execB x s b) := by
  refine scoped_induction ?_ ?_ ?_ ?_ ?_ ?_ ?_ ?_ s sc sc' h
  · intro s l r sc hs hl hr b hn hp
    subst hn
    rw [execB_assign x hs hl hr]
    exact Post.runLeaf fun σ' he => ⟨rfl, hP.assign hp hs he⟩
  · intro n dt v sc sc' hv hd b hn hp
    subst hn
    obtain ⟨st', hdb, rfl⟩ := declareB_ok hd b.σ
    rw [execB_vdecl x hv hdb]
    refine Post.runLeaf fun σ' he => ?_
    obtain ⟨k, rfl⟩ | ⟨r, rfl⟩ := vdecl_ok_cases x he
    · exact ⟨rfl, hP.decl (.iv k) _ hp hdb⟩
    · exact ⟨rfl, hP.decl (.sv r) _ hp hdb⟩
  · intro n dt sizes c vals sc sc' hv hd b hn hp
    subst hn
    obtain ⟨st', hdb, rfl⟩ := declareB_ok hd b.σ
    rw [execB_adecl x hv hdb]
    refine Post.runLeaf fun σ' he => ?_
    obtain ⟨a, rfl⟩ := adecl_ok_cases x he
    exact ⟨rfl, hP.decl (.sa a) _ hp hdb⟩
  · intro i lo hi body sc scb hlo hhi hb ih b hn hp
    subst hn
    obtain ⟨fb, rfl, _⟩ := scopedS_grows (s := .block body) hb _ _ rfl
    rw [execB_forRange x hlo hhi]
    split
    · rename_i l h _ _
      have h0 : P (BSt.setIdx { σ := b.σ, st := [saveOf b.σ i] :: b.st } i l) :=
        hP.decl (b := enter b) (.iv l) .ivar (hP.enter hp) rfl
      refine (loopB_keeps hP ih _ l _ rfl h0).bind ?_
      intro b2 ⟨hn2, hp2⟩
      exact ⟨by rw [stackNames_leave, hn2]; rfl, hP.leave hp2⟩
    · trivial
  · intro t sc b hn hp
    exact ⟨hn, hp⟩
  · intro nm decls stmts inp out an sc sc1 sc2 _ h2 ihd ihs b hn hp
    obtain ⟨f2, rfl, _⟩ := scopedS_grows (s := .block stmts) h2 _ _ rfl
    rw [execB_sect]
    refine (ihd b hn hp).bind fun b1 ⟨hn1, hp1⟩ => ?_
    refine (ihs (enter b1) (by rw [stackNames_enter, hn1]) (hP.enter hp1)).bind fun b2 ⟨hn2, hp2⟩ => ?_
    exact ⟨by rw [stackNames_leave, hn2]; rfl, hP.leave hp2⟩
  · intro sc b hn hp
    exact ⟨hn, hp⟩
  · intro s ss sc sc1 sc' _ _ ihs ihss b hn hp
    rw [execB_cons]
    exact (ihs b hn hp).bind fun b1 ⟨hn1, hp1⟩ => ihss b1 hn1 hp1

/-- soundness is `scopedS_keeps` for the invariant that says nothing -/
theorem stepInv_true (x : Extra R) : StepInv x fun _ => True :=
  ⟨id, id, fun _ _ _ => trivial, fun _ _ _ _ => trivial, fun _ _ _ _ => trivial⟩

end Ffcx.LNodes
