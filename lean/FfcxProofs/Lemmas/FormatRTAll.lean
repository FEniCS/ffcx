/-
C16 — token-level round trip, part 2: what the formatter prints is built from the grammar rules of
FormatRT, constructor by constructor (`re_*`: symbols, unary and binary operators, the conditional,
literals, n-ary nodes, complex literals, calls, subscripts), then for all well-formed trees (`re_expr`,
`parse_tokens_C`). Only calls and subscripts mention parser functions: their argument and index
lists are runs of `parseArgs` and `parsePost` (`reads_args`, `reads_ix`), for which `Reads` has no rule.
-/
import FfcxProofs.Lemmas.FormatRT
import FfcxProofs.Lemmas.FormatShape
namespace Ffcx.LNodes.Fmt

theorem toks_numPieces_pos {cs : List Char} (h : ∃ c r, cs = c :: r ∧ c ≠ '-') :
    toks (numPieces cs) = [.num (String.ofList cs)] := by
  obtain ⟨c, r, rfl, hc⟩ := h
  rw [numPieces_pos hc]
  rfl

theorem unparen_level {q : Nat} (hq : 4 ≤ q ∧ q ≤ 12) {x : Expr}
    (hp : decide (precF x ≥ q) = false) : lvP q + 1 ≤ lvP (precF x) :=
  lvP_strict q hq.2 (precF x) (Nat.lt_of_not_le (of_decide_eq_false hp)) hq.1

/-- the operand of a prefix operator stands without parentheses only if it is unary itself (`b`, the
    formatter's other reason to parenthesise, a text that begins with the operator's own character,
    plays no part) -/
theorem unparen_unary {x : Expr} {b : Bool} (h : (decide (precF x ≥ 3) || b) = false) : 12 ≤ lvP (precF x) := by
  simp only [Bool.or_eq_false_iff, decide_eq_false_iff_not] at h
  exact lvP_unary (Nat.lt_succ_of_lt (Nat.lt_of_not_le h.1))

/-- what the recursion over trees proves; `re_c` below is the step for the constructor `c` -/
abbrev ReadsE (sc : Scalar) (e : Expr) : Prop := Reads (lvP (precF e)) (tk sc e) (eraseC sc e)

theorem re_sym {sc n dt} : ReadsE sc (.sym n dt) := by
  unfold ReadsE; rw [tk_sym]
  exact reads_atom (by simp only [eraseC, atomOf]) _

theorem re_neg {sc a} (ha : ReadsE sc a) : ReadsE sc (.neg a) := by
  unfold ReadsE; rw [tk_neg]
  exact reads_neg (ha.parenT unparen_unary) _

theorem re_not {sc a} (ha : ReadsE sc a) : ReadsE sc (.not a) := by
  unfold ReadsE; rw [tk_not]
  exact reads_not (ha.parenT unparen_unary) _

theorem re_bin {sc op a b} (ha : ReadsE sc a) (hb : ReadsE sc b) : ReadsE sc (.bin op a b) := by
  have hr := binop_prec_range op
  unfold ReadsE; rw [tk_bin]
  exact reads_bin (binOf_opTok op)
    (ha.parenT fun hp => Nat.le_of_succ_le (unparen_level hr hp))
    (hb.parenT fun hp => unparen_level hr hp)

theorem re_cond {sc c t f} (hc : ReadsE sc c) (ht : ReadsE sc t) (hf : ReadsE sc f) :
    ReadsE sc (.cond c t f) := by
  unfold ReadsE; rw [tk_cond]
  refine reads_cond (hc.parenT fun hp => ?_) (ht.parenT fun _ => lvP_ge1 _) (hf.parenT fun _ => lvP_ge1 _)
  exact lvP_ge2 _ (Nat.le_of_lt_succ (Nat.lt_of_not_le (of_decide_eq_false hp)))

/-- a printed magnitude with its sign (`c`: the value is negative): one number token, under a unary
    minus if the text begins with `-` -/
theorem reads_signed {c : Prop} [Decidable c] {cs r : List Char} (l : Nat) (hn : c → cs = '-' :: r)
    (hp : ¬ c → ∃ c r, cs = c :: r ∧ c ≠ '-') :
    Reads l (toks (numPieces cs)) (if c then .un .neg (.num (String.ofList r)) else .num (String.ofList cs)) := by
  split
  · next h => obtain rfl := hn h; exact reads_neg (reads_atom rfl _) _
  · next h => rw [toks_numPieces_pos (hp h)]; exact reads_atom rfl _

theorem reads_real {x : Rat} (h : numShape (reprFloat (if x < 0 then -x else x)) = true) (l : Nat) :
    Reads l (toks (numPieces (reprFloat x))) (eraseReal x) :=
  reads_signed l reprFloat_neg fun hx => numShape_head (by rwa [if_neg hx] at h)

theorem re_litF {sc re im} (hwf : wfC sc (.litF re im false) = true) : ReadsE sc (.litF re im false) := by
  simp only [wfC, litShapeOK, Bool.and_eq_true, Bool.false_eq_true, if_false] at hwf
  exact reads_real hwf.1 _

theorem re_litI {sc v} (hwf : wfC sc (.litI v) = true) : ReadsE sc (.litI v) := by
  simp only [wfC, litShapeOK] at hwf
  exact reads_signed _ fmtInt_neg fun hv => numShape_head (by rwa [if_neg hv] at hwf)

/-- operands of an n-ary node after the first: each step is `reads_bin` -/
theorem reads_tail {sc o op p} (hbo : binOf (.p o) = some (op, lvP p)) (hp : 4 ≤ p ∧ p ≤ 12) :
    ∀ (l : List Expr), (∀ x ∈ l, ReadsE sc x) → ∀ ts acc, Reads (lvP p) ts acc →
      Reads (lvP p) (ts ++ tkTail sc o p l) ((eraseLC sc l).foldl (fun a b => PT.bin op a b) acc)
  | [], _, ts, acc, h => by rwa [tkTail, List.append_nil]
  | x :: xs, hl, ts, acc, h => by
    have := reads_tail hbo hp xs (fun y hy => hl y (List.mem_cons_of_mem _ hy)) _ _
      (reads_bin hbo h ((hl x List.mem_cons_self).parenT fun hpp => unparen_level hp hpp))
    rw [List.append_assoc] at this
    exact this

theorem re_nary {sc o op p} (hbo : binOf (.p o) = some (op, lvP p)) (hp : 4 ≤ p ∧ p ≤ 12)
    (e a : Expr) (l : List Expr) (hprec : precF e = p)
    (htk : tk sc e = parenT (decide (precF a ≥ p)) (tk sc a) ++ tkTail sc o p l)
    (her : eraseC sc e = (eraseLC sc l).foldl (fun x y => PT.bin op x y) (eraseC sc a))
    (ha : ReadsE sc a) (hl : ∀ x ∈ l, ReadsE sc x) : ReadsE sc e := by
  unfold ReadsE; rw [hprec, htk, her]
  exact reads_tail hbo hp l hl _ _ (ha.parenT fun hpp => Nat.le_of_succ_le (unparen_level hp hpp))

theorem re_sum {sc a l} (ha : ReadsE sc a) (hl : ∀ x ∈ l, ReadsE sc x) : ReadsE sc (.sum (a :: l)) :=
  re_nary (o := .plus) (op := .add) (p := 5) rfl (by decide) _ a l rfl (tk_sum sc a l)
    (by simp only [eraseC, eraseLC, leftNestPT]) ha hl

theorem re_prod {sc a l} (ha : ReadsE sc a) (hl : ∀ x ∈ l, ReadsE sc x) : ReadsE sc (.prod (a :: l)) :=
  re_nary (o := .star) (op := .mul) (p := 4) rfl (by decide) _ a l rfl (tk_prod sc a l)
    (by simp only [eraseC, eraseLC, leftNestPT]) ha hl

/-- `(re+I*im)` is the parenthesised sum of a real and a product; each rule is applied to token lists -/
theorem re_complex {sc re im} (hwf : wfC sc (.litF re im true) = true) : ReadsE sc (.litF re im true) := by
  simp only [wfC, litShapeOK, Bool.and_eq_true, if_true] at hwf
  have htk : tk sc (.litF re im true) = .p .lpar :: ((toks (numPieces (reprFloat re)) ++ .p .plus ::
      ([.id "I"] ++ .p .star :: toks (numPieces (reprFloat im)))) ++ [.p .rpar]) := by
    simp [tk, tokExprC, piecesC, cNumber, toks_append]
  unfold ReadsE
  rw [htk]
  exact reads_paren (reads_bin rfl (reads_real hwf.1 _)
    (reads_bin rfl (reads_atom rfl _) (reads_real hwf.2 _))) _

/-- the argument list of a call up to its `)`: a run of `parseArgs` (no rule of `Reads`) -/
theorem reads_args {sc} : ∀ (args : List Expr), args ≠ [] → (∀ x ∈ args, ReadsE sc x) → ∀ rest,
    Ev fun F => parseArgs F (tkArgs sc args ++ .p .rpar :: rest) = some (eraseLC sc args, rest)
  | [], h, _, _ => absurd rfl h
  | [a], _, hall, rest => .step1 parseArgs_last ((hall a List.mem_cons_self).full _ rfl)
  | a :: b :: bs, _, hall, rest => by
    simp only [tkArgs, List.append_assoc, List.cons_append]
    exact .step2 parseArgs_cons ((hall a List.mem_cons_self).full _ rfl)
      (reads_args (b :: bs) (List.cons_ne_nil _ _) (fun x hx => hall x (List.mem_cons_of_mem _ hx)) rest)

/-- the subscripts `[i][j]…` of an array: a run of `parsePost` (no rule of `Reads`) -/
theorem reads_ix {sc} : ∀ (ix : List Expr), ix ≠ [] → (∀ x ∈ ix, ReadsE sc x) → ∀ base rest,
    headAll postStopT rest = true →
    Ev fun F => parsePost F base (.p .lbrack :: (tkIx sc ix ++ .p .rbrack :: rest))
      = some ((eraseLC sc ix).foldl (fun acc i => PT.idx acc [i]) base, rest)
  | [], h, _, _, _, _ => absurd rfl h
  | [a], _, hall, base, rest, hps =>
    .step2 parsePost_idx ((hall a List.mem_cons_self).full _ rfl) (parsePost_stop hps)
  | a :: b :: bs, _, hall, base, rest, hps => by
    simp only [tkIx, List.append_assoc, List.cons_append]
    exact .step2 parsePost_idx ((hall a List.mem_cons_self).full _ rfl)
      (reads_ix (b :: bs) (List.cons_ne_nil _ _) (fun x hx => hall x (List.mem_cons_of_mem _ hx)) _ rest hps)

theorem re_call {sc f dt a as} (hall : ∀ x ∈ a :: as, ReadsE sc x) : ReadsE sc (.call f dt (a :: as)) := by
  unfold ReadsE
  rw [tk_call]
  refine .of_un (fun rest hps => ?_) ⟨_, _, rfl, rfl⟩ _
  simp only [List.cons_append, List.append_assoc, List.nil_append]
  have hd := (hall a List.mem_cons_self).hd
  obtain ⟨t, r', hr', h2⟩ : ∃ t r, tkArgs sc (a :: as) ++ .p .rpar :: rest = t :: r ∧ cStart t = true := by
    cases as with
    | nil => exact head_append hd _
    | cons b bs =>
      rw [tkArgs, List.append_assoc]
      exact head_append hd _
  refine .step1 (parseUnary_atom (b := .id _) rfl) ?_
  rw [hr']
  refine .step2 (parsePost_call (cStart_ne h2).1) ?_ (parsePost_stop hps)
  rw [← hr']
  exact reads_args (a :: as) (List.cons_ne_nil _ _) hall rest

theorem re_idx {sc arr dt a as} (hall : ∀ x ∈ a :: as, ReadsE sc x) : ReadsE sc (.idx arr dt (a :: as)) := by
  unfold ReadsE
  rw [tk_idx]
  refine .of_un (fun rest hps => ?_) ⟨_, _, rfl, rfl⟩ _
  simp only [List.cons_append, List.append_assoc, List.nil_append]
  exact .step1 (parseUnary_atom (b := .id arr) rfl) (reads_ix (a :: as) (List.cons_ne_nil _ _) hall _ rest hps)

mutual
theorem re_expr (sc : Scalar) : ∀ e, wfC sc e = true → ReadsE sc e
  | .litF _ _ false, hwf => re_litF hwf
  | .litF _ _ true, hwf => re_complex hwf
  | .litI _, hwf => re_litI hwf
  | .sym _ _, _ => re_sym
  | .mi _ _ gi, hwf => by
    have := re_expr sc gi (by simpa only [wfC] using hwf)
    unfold ReadsE at this ⊢
    rwa [tk_mi]
  | .neg a, hwf => re_neg (re_expr sc a (by simpa only [wfC] using hwf))
  | .not a, hwf => re_not (re_expr sc a (by simpa only [wfC] using hwf))
  | .bin _ a b, hwf => by
    simp only [wfC, Bool.and_eq_true] at hwf
    exact re_bin (re_expr sc a hwf.1) (re_expr sc b hwf.2)
  | .sum [], hwf => by cases hwf
  | .sum (a :: as), hwf => by
    simp only [wfC, Bool.and_eq_true] at hwf
    have hall := re_exprs sc (a :: as) hwf.2
    exact re_sum (hall a List.mem_cons_self) (fun x hx => hall x (List.mem_cons_of_mem _ hx))
  | .prod [], hwf => by cases hwf
  | .prod (a :: as), hwf => by
    simp only [wfC, Bool.and_eq_true] at hwf
    have hall := re_exprs sc (a :: as) hwf.2
    exact re_prod (hall a List.mem_cons_self) (fun x hx => hall x (List.mem_cons_of_mem _ hx))
  | .call _ _ [], hwf => by simp [wfC] at hwf
  | .call _ _ (a :: as), hwf => by
    simp only [wfC, Bool.and_eq_true] at hwf
    exact re_call (re_exprs sc (a :: as) hwf.2)
  | .idx _ _ [], hwf => by simp [wfC] at hwf
  | .idx _ _ (a :: as), hwf => by
    simp only [wfC, Bool.and_eq_true] at hwf
    exact re_idx (re_exprs sc (a :: as) hwf.2)
  | .cond c t f, hwf => by
    simp only [wfC, Bool.and_eq_true] at hwf
    exact re_cond (re_expr sc c hwf.1.1) (re_expr sc t hwf.1.2) (re_expr sc f hwf.2)
theorem re_exprs (sc : Scalar) : ∀ l, wfLC sc l = true → ∀ x ∈ l, ReadsE sc x
  | [], _ => fun _ hx => nomatch hx
  | a :: as, hwf => by
    simp only [wfLC, Bool.and_eq_true] at hwf
    intro x hx
    cases List.mem_cons.mp hx with
    | inl h => exact h ▸ re_expr sc a hwf.1
    | inr h => exact re_exprs sc as hwf.2 x h
end

theorem rt_all (sc : Scalar) (e : Expr) (hwf : wfC sc e = true) : ReadsE sc e := re_expr sc e hwf

/-- `roundtrip_C` less the spacing: from the tokens the formatter means to print (that the lexer finds
    just these in the text is `no_token_fusion`) the parser gives back the erased tree, so the
    parentheses the formatter places are enough. -/
theorem parse_tokens_C (sc : Scalar) (e : Expr) (hwf : wfC sc e = true) :
    parseExprC (tokExprC sc e) = some (eraseC sc e) :=
  (re_expr sc e hwf).parseExprC

-- used by nothing: facts about `headAll` and `tkArgs` in their own right
theorem headAll_cons (p : Tok → Bool) (t : Tok) (r : List Tok) : headAll p (t :: r) = p t := rfl

theorem tkArgs_length_pos {sc} (a : Expr) (as : List Expr) :
    (tk sc a).length ≤ (tkArgs sc (a :: as)).length := by
  cases as <;> simp [tkArgs]

end Ffcx.LNodes.Fmt
