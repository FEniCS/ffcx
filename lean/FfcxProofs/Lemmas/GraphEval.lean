/-
Lemmas about the graph evaluator `FfcxModel/IR/Graph.lean` (with the total lookups `nodeAt`, `kindAt`
that the model declares in `Factorize.lean`): graphs grow by `push` (`Ext`), values of existing nodes
are stable under growth, `evalNode` depends on the operands through their values only, the value of a
node of a closed graph is `evalNode` of the values of its operands; key products (`keyProd`).
-/
import FfcxModel.IR.Factorize

namespace Ffcx.IR
open Lean.Grind

theorem array_push_induction {α : Type} {P : Array α → Prop} (h0 : P #[])
    (hs : ∀ xs x, P xs → P (xs.push x)) : ∀ xs, P xs := by
  have h : ∀ l : List α, P l.reverse.toArray := by
    intro l
    induction l with
    | nil => exact h0
    | cons a l ih => rw [List.reverse_cons, ← List.push_toArray]; exact hs _ _ ih
  intro xs
  have := h xs.toList.reverse
  rwa [List.reverse_reverse, Array.toArray_toList] at this

section
variable {R : Type} [Field R] (ρ : Env R)

theorem evalNodes_empty : evalNodes ρ #[] = #[] := rfl

theorem evalNodes_push (g : Array Node) (n : Node) :
    evalNodes ρ (g.push n) = (evalNodes ρ g).push (evalNode ρ (lookIn (evalNodes ρ g)) n) := by
  unfold evalNodes; rw [Array.foldl_push]

theorem evalNodes_size (g : Array Node) : (evalNodes ρ g).size = g.size := by
  induction g using array_push_induction with
  | h0 => rfl
  | hs xs x ih => rw [evalNodes_push]; simp [ih]

theorem lookIn_evalNodes (g : Array Node) : lookIn (evalNodes ρ g) = val ρ g := rfl

theorem val_push_lt (g : Array Node) (n : Node) (i : Nat) (h : i < g.size) :
    val ρ (g.push n) i = val ρ g i := by
  unfold val lookIn
  rw [evalNodes_push, Array.getElem?_push]
  have : i ≠ (evalNodes ρ g).size := by rw [evalNodes_size]; omega
  simp [this]

theorem val_push_eq (g : Array Node) (n : Node) :
    val ρ (g.push n) g.size = evalNode ρ (val ρ g) n := by
  unfold val
  rw [lookIn, evalNodes_push, Array.getElem?_push]
  simp [evalNodes_size, lookIn_evalNodes]

theorem val_ge (g : Array Node) (i : Nat) (h : g.size ≤ i) : val ρ g i = 0 := by
  unfold val lookIn
  have : (evalNodes ρ g)[i]? = none := by
    apply Array.getElem?_eq_none; rw [evalNodes_size]; exact h
  simp [this]

/-- `g'` is `g` followed by more nodes -/
inductive Ext : Array Node → Array Node → Prop
  | refl (g) : Ext g g
  | push {g g'} (n) : Ext g g' → Ext g (g'.push n)

theorem Ext.trans {a b c : Array Node} (h1 : Ext a b) (h2 : Ext b c) : Ext a c := by
  induction h2 with
  | refl => exact h1
  | push n _ ih => exact Ext.push n ih

theorem Ext.size_le {g g' : Array Node} (h : Ext g g') : g.size ≤ g'.size := by
  induction h with
  | refl => exact Nat.le_refl _
  | push n _ ih => simp; omega

theorem Ext.val_eq {g g' : Array Node} (h : Ext g g') (i : Nat) (hi : i < g.size) :
    val ρ g' i = val ρ g i := by
  induction h with
  | refl => rfl
  | push n h' ih =>
    rw [val_push_lt _ _ _ _ (by have := h'.size_le; omega)]; exact ih

theorem Ext.getElem? {g g' : Array Node} (h : Ext g g') (i : Nat) (hi : i < g.size) :
    g'[i]? = g[i]? := by
  induction h with
  | refl => rfl
  | push n h' ih => rw [Array.getElem?_push, if_neg (by have := h'.size_le; omega), ih]

theorem Ext.nodeAt {g g' : Array Node} (h : Ext g g') (i : Nat) (hi : i < g.size) :
    nodeAt g' i = nodeAt g i := by
  unfold Ffcx.IR.nodeAt; rw [h.getElem? i hi]

theorem Ext.kindAt {g g' : Array Node} (h : Ext g g') (i : Nat) (hi : i < g.size) :
    kindAt g' i = kindAt g i := by
  unfold Ffcx.IR.kindAt; rw [h.nodeAt i hi]

/-- the value of a node as a function of its class and the values of its operands.  As in `evalNode`
the last clause gives a node with the wrong operand count the value `0`; the soundness proofs never
meet it, since acceptance implies `arityB` (`accepted_closed`). -/
def evalKind (k : Kind) (vs : List R) : R :=
  match k, vs with
  | .arg p _, _ => ρ.argv p
  | .term i, _ => ρ.termv i
  | .lit _ v, _ => ρ.ofRat v
  | .clit a b, _ => ρ.cplx a b
  | .sum, [a, b] => a + b
  | .prod, [a, b] => a * b
  | .div, [a, b] => a / b
  | .conj, [a] => ρ.conj a
  | .real, [a] => ρ.re a
  | .imag, [a] => ρ.im a
  | .abs, [a] => ρ.abs a
  | .cond, [c, t, f] => if ρ.truth c then t else f
  | .condition name, vs => ρ.fn name vs
  | .op name, vs => ρ.fn name vs
  | _, _ => 0

theorem evalNode_eq (look : Nat → R) (n : Node) :
    evalNode ρ look n = evalKind ρ n.kind (n.deps.map look) := by
  obtain ⟨k, ds⟩ := n
  -- the class decides alone, or with the length of the operand list; a class added to `evalNode` and
  -- not to `evalKind` fails here
  cases k <;> first | rfl | (rcases ds with _ | ⟨a, _ | ⟨b, _ | ⟨c, _ | ⟨d, t⟩⟩⟩⟩ <;> rfl)

theorem evalNode_congr (look look' : Nat → R) (n : Node)
    (h : ∀ d ∈ n.deps, look d = look' d) : evalNode ρ look n = evalNode ρ look' n := by
  rw [evalNode_eq, evalNode_eq, List.map_congr_left h]

theorem evalNode_map (look : Nat → R) (f : Nat → Nat) (k : Kind) (ds : List Nat) :
    evalNode ρ look ⟨k, ds.map f⟩ = evalNode ρ (fun d => look (f d)) ⟨k, ds⟩ := by
  rw [evalNode_eq, evalNode_eq]
  exact congrArg _ (List.map_map ..)

theorem evalNode_arg (look : Nat → R) (n : Node) (h : isArgKind n.kind = true) :
    evalNode ρ look n = ρ.argv (argPos n.kind) := by
  obtain ⟨k, ds⟩ := n
  cases k <;> first | rfl | cases h

theorem closed_empty : Closed #[] := by
  intro i h; simp at h

theorem closed_push (g : Array Node) (n : Node) (hc : Closed g) (hn : ∀ d ∈ n.deps, d < g.size) :
    Closed (g.push n) := by
  intro i hi d hd
  rw [Array.getElem_push] at hd
  split at hd
  · exact hc i ‹_› d hd
  · have := hn d hd
    rw [Array.size_push] at hi
    omega

theorem closed_of_push (g : Array Node) (n : Node) (hc : Closed (g.push n)) :
    Closed g ∧ ∀ d ∈ n.deps, d < g.size :=
  ⟨fun i hi d hd => hc i (by rw [Array.size_push]; omega) d (by rw [Array.getElem_push_lt hi]; exact hd),
    fun d hd => hc g.size (by rw [Array.size_push]; omega) d (by rw [Array.getElem_push_eq]; exact hd)⟩

theorem val_eq_evalNode (g : Array Node) (hc : Closed g) (i : Nat) (hi : i < g.size) :
    val ρ g i = evalNode ρ (val ρ g) g[i] := by
  induction g using array_push_induction with
  | h0 => simp at hi
  | hs xs x ih =>
    obtain ⟨hcx, hx⟩ := closed_of_push xs x hc
    by_cases h : i < xs.size
    · rw [val_push_lt _ _ _ _ h, ih hcx h, Array.getElem_push_lt h]
      exact evalNode_congr ρ _ _ _ fun d hd =>
        (val_push_lt ρ _ _ _ (Nat.lt_trans (hcx i h d hd) h)).symm
    · have hi' : i = xs.size := by rw [Array.size_push] at hi; omega
      subst hi'
      rw [val_push_eq, Array.getElem_push_eq]
      exact evalNode_congr ρ _ _ _ fun d hd => (val_push_lt ρ _ _ _ (hx d hd)).symm

theorem nodeAt_eq (g : Array Node) (i : Nat) (hi : i < g.size) : nodeAt g i = g[i] := by
  unfold nodeAt; simp [hi]

/-- `val_eq_evalNode` through the total lookup `nodeAt`, as the constructors on `F` read a node -/
theorem val_eq_evalNode' (g : Array Node) (hc : Closed g) (i : Nat) (hi : i < g.size) :
    val ρ g i = evalNode ρ (val ρ g) (nodeAt g i) := by
  rw [nodeAt_eq g i hi]; exact val_eq_evalNode ρ g hc i hi

theorem closedB_iff (g : Array Node) : closedB g = true ↔ Closed g := by
  unfold closedB Closed
  simp only [List.all_eq_true, List.mem_range, decide_eq_true_eq]
  constructor
  · intro h i hi d hd
    have := h i hi d
    simp [hi] at this
    exact this hd
  · intro h i hi d hd
    simp [hi] at hd
    exact h i hi d hd

@[simp] theorem keyProd_nil (look : Nat → R) : keyProd look [] = 1 := rfl
@[simp] theorem keyProd_cons (look : Nat → R) (a : Nat) (k : Key) :
    keyProd look (a :: k) = look a * keyProd look k := rfl

theorem keyProd_append (look : Nat → R) (k0 k1 : Key) :
    keyProd look (k0 ++ k1) = keyProd look k0 * keyProd look k1 := by
  induction k0 with
  | nil => exact (Semiring.one_mul _).symm
  | cons a k ih => rw [List.cons_append, keyProd_cons, keyProd_cons, ih, Semiring.mul_assoc]

theorem keyProd_perm (look : Nat → R) {k0 k1 : Key} (h : k0.Perm k1) :
    keyProd look k0 = keyProd look k1 := by
  induction h with
  | nil => rfl
  | cons x _ ih => simp [ih]
  | swap x y l => exact CommSemiring.mul_left_comm ..
  | trans _ _ ih1 ih2 => rw [ih1, ih2]

theorem keyProd_congr (look look' : Nat → R) (k : Key) (h : ∀ a ∈ k, look a = look' a) :
    keyProd look k = keyProd look' k := by
  induction k with
  | nil => rfl
  | cons a k ih =>
    simp only [keyProd_cons]
    rw [h a (by simp), ih (fun b hb => h b (by simp [hb]))]

theorem keyProd_map (look : Nat → R) (f : Nat → Nat) (k : Key) :
    keyProd look (k.map f) = keyProd (fun a => look (f a)) k := by
  induction k with
  | nil => rfl
  | cons a k ih => simp [ih]

end
end Ffcx.IR
