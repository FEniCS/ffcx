/-
C16 — statements, token level (C). `InitOK ts x`: the tokens `ts` parse as the initialiser `x` in front
of a separator. `Prefix parse ts er`: the tokens `ts` parse to the statements `er` in front of any
following tokens that themselves parse; it is closed under append and holds of every well-formed
statement (`stmt_prefix`, by induction over the nested statement type), whence `parse_tokens_stmt`.
Fuel is explicit here (the model fixes that of `parseStmtsTopC`): two units per token throughout. It
bounds only the nesting of braces and statement lists: the statement parsers run the expression parsers
with `fuelFor` of the remaining input, so `Reads.full_fuelFor` / `Reads.un_fuelFor` (and the first
token, `Reads.hd`) are all that is used of the expression level.
-/
import FfcxProofs.Lemmas.FormatRTAll
namespace Ffcx.LNodes.Fmt

theorem parseInit_step : ∀ f,
    (∀ ts v, parseInit f ts = some v → parseInit (f + 1) ts = some v)
    ∧ (∀ ts v, parseInits f ts = some v → parseInits (f + 1) ts = some v) := by
  intro f
  induction f with
  | zero => exact ⟨fun ts v h => by simp [parseInit] at h, fun ts v h => by simp [parseInits] at h⟩
  | succ f ih =>
    obtain ⟨ih1, ih2⟩ := ih
    constructor
    · intro ts v h
      rw [parseInit] at h ⊢
      by_cases h1 : ts.head? = some (.p .lbrace)
      · rw [if_pos h1] at h ⊢
        by_cases h2 : ts.tail.head? = some (.p .rbrace)
        · rw [if_pos h2] at h ⊢; exact h
        · rw [if_neg h2] at h ⊢
          cases hi : parseInits f ts.tail with
          | none => simp [hi] at h
          | some w => rw [hi] at h; rw [ih2 _ _ hi]; exact h
      · rw [if_neg h1] at h ⊢; exact h
    · intro ts v h
      rw [parseInits] at h ⊢
      cases hi : parseInit f ts with
      | none => simp [hi] at h
      | some w =>
        obtain ⟨x, r⟩ := w
        rw [hi] at h; rw [ih1 _ _ hi]
        simp only [] at h ⊢
        by_cases h1 : r.head? = some (.p .comma)
        · rw [if_pos h1] at h ⊢
          cases hj : parseInits f r.tail with
          | none => simp [hj] at h
          | some w2 => rw [hj] at h; rw [ih2 _ _ hj]; exact h
        · rw [if_neg h1] at h ⊢; exact h

theorem parseInit_mono {f f' ts v} (hle : f ≤ f') (h : parseInit f ts = some v) : parseInit f' ts = some v :=
  mono_of_step (fun f => (parseInit_step f).1) hle h

theorem parseInits_mono {f f' ts v} (hle : f ≤ f') (h : parseInits f ts = some v) : parseInits f' ts = some v :=
  mono_of_step (fun f => (parseInit_step f).2) hle h

theorem parseDeclC_mono {f f' ts v} (hle : f ≤ f') (h : parseDeclC f ts = some v) : parseDeclC f' ts = some v := by
  unfold parseDeclC at h ⊢
  simp only [] at h ⊢
  split
  · rename_i hc
    rw [if_pos hc] at h
    split
    · rename_i h1; rw [if_pos h1] at h; exact h
    · rename_i h1
      rw [if_neg h1] at h
      split
      · rename_i h2
        rw [if_pos h2] at h
        cases hi : parseInit f (parseDims (takeIds ts).2).2.tail with
        | none => simp [hi] at h
        | some w => rw [hi] at h; rw [parseInit_mono hle hi]; exact h
      · rename_i h2; rw [if_neg h2] at h; exact h
  · rename_i hc
    rw [if_neg hc] at h
    exact h

theorem parseStmtC_step : ∀ f,
    (∀ ts v, parseStmtC f ts = some v → parseStmtC (f + 1) ts = some v)
    ∧ (∀ ts v, parseStmtsC f ts = some v → parseStmtsC (f + 1) ts = some v) := by
  intro f
  induction f with
  | zero => exact ⟨fun ts v h => by simp [parseStmtC] at h, fun ts v h => by simp [parseStmtsC] at h⟩
  | succ f ih =>
    obtain ⟨ih1, ih2⟩ := ih
    constructor
    · intro ts v h
      cases ts with
      | nil => simp [parseStmtC] at h
      | cons t r =>
        rw [parseStmtC] at h ⊢
        by_cases h1 : t = .p .lbrace
        · rw [if_pos h1] at h ⊢
          cases hi : parseStmtsC f r with
          | none => simp [hi] at h
          | some w => rw [hi] at h; rw [ih2 _ _ hi]; exact h
        · rw [if_neg h1] at h ⊢
          by_cases h2 : t = .id "for"
          · rw [if_pos h2] at h ⊢
            cases hh : parseForHeadC r with
            | none => simp [hh] at h
            | some w =>
              obtain ⟨i, lo, hi', r3⟩ := w
              simp only [hh] at h ⊢
              cases hi : parseStmtsC f r3 with
              | none => simp [hi] at h
              | some w => rw [hi] at h; rw [ih2 _ _ hi]; exact h
          · rw [if_neg h2] at h ⊢
            by_cases h3 : isDeclStart (t :: r) = true
            · rw [if_pos h3] at h ⊢; exact parseDeclC_mono (Nat.le_succ _) h
            · rw [if_neg h3] at h ⊢; exact h
    · intro ts v h
      cases ts with
      | nil => simp [parseStmtsC] at h ⊢; exact h
      | cons t r =>
        rw [parseStmtsC] at h ⊢
        by_cases h1 : t = .p .rbrace
        · rw [if_pos h1] at h ⊢; exact h
        · rw [if_neg h1] at h ⊢
          cases hi : parseStmtC f (t :: r) with
          | none => simp [hi] at h
          | some w =>
            obtain ⟨s, r'⟩ := w
            rw [hi] at h; rw [ih1 _ _ hi]
            simp only [] at h ⊢
            cases hj : parseStmtsC f r' with
            | none => simp [hj] at h
            | some w2 => rw [hj] at h; rw [ih2 _ _ hj]; exact h

theorem parseStmtC_mono {f f' ts v} (hle : f ≤ f') (h : parseStmtC f ts = some v) : parseStmtC f' ts = some v :=
  mono_of_step (fun f => (parseStmtC_step f).1) hle h

theorem parseStmtsC_mono {f f' ts v} (hle : f ≤ f') (h : parseStmtsC f ts = some v) : parseStmtsC f' ts = some v :=
  mono_of_step (fun f => (parseStmtC_step f).2) hle h

/-- what may follow an initialiser -/
def sepT (t : Tok) : Bool := t == .p .comma || t == .p .rbrace || t == .p .semi

theorem sep_closed {rest} (h : headAll sepT rest = true) : headAll closedT rest = true := by
  cases rest with
  | nil => rfl
  | cons t r =>
    simp only [headAll, sepT, Bool.or_eq_true, beq_iff_eq] at h
    rcases h with (rfl | rfl) | rfl <;> rfl

/-- The token list `ts` parses as the initialiser `x` in front of any separator. The budget:
    `parseInit` spends one unit of fuel per brace level and `parseInits` one per item; every level and
    every item has a token of its own, so a budget linear in the tokens suffices, and two per token
    is a convenient one (the `+ 1` of `inits_parse` is paid by a comma or the closing brace). -/
structure InitOK (ts : List Tok) (x : PInit) : Prop where
  /-- not `}`: `parseInit` tests for the empty list `{}` first -/
  hd : ∃ t r, ts = t :: r ∧ t ≠ .p .rbrace
  parse : ∀ f rest, headAll sepT rest = true → 2 * ts.length ≤ f → parseInit f (ts ++ rest) = some (x, rest)

theorem init_expr (sc : Scalar) (e : Expr) (hwf : wfC sc e = true) : InitOK (tk sc e) (.e (eraseC sc e)) := by
  obtain ⟨t, r, ht, hf⟩ := (re_expr sc e hwf).hd
  refine ⟨⟨t, r, ht, (cStart_ne hf).2.2⟩, ?_⟩
  intro f rest hs hF
  have hlen : 1 ≤ (tk sc e).length := by rw [ht]; simp
  obtain ⟨f', rfl⟩ := Nat.exists_eq_add_of_le' (show 1 ≤ f by omega)
  rw [parseInit, if_neg (by rw [ht]; simpa using (cStart_ne hf).2.1),
    (re_expr sc e hwf).full_fuelFor (sep_closed hs)]

/-- a non-empty comma-separated initialiser list up to the closing brace -/
theorem inits_parse : ∀ (l : List (List Tok × PInit)), l ≠ [] → (∀ p ∈ l, InitOK p.1 p.2) →
    ∀ F rest, 2 * (joinT [.p .comma] (l.map (·.1))).length + 1 ≤ F →
    parseInits F (joinT [.p .comma] (l.map (·.1)) ++ .p .rbrace :: rest) = some (l.map (·.2), rest) := by
  intro l
  induction l with
  | nil => intro h; exact absurd rfl h
  | cons a l ih =>
    intro _ hall F rest hF
    obtain ⟨F', rfl⟩ := Nat.exists_eq_add_of_le' (show 1 ≤ F by omega)
    obtain ⟨ha, hl⟩ := List.forall_mem_cons.1 hall
    cases l with
    | nil =>
      simp only [List.map_cons, List.map_nil, joinT] at hF ⊢
      rw [parseInits, ha.parse F' (.p .rbrace :: rest) rfl (by omega)]
      simp
    | cons b l =>
      simp only [List.map_cons] at hF ⊢
      rw [joinT_cons_cons] at hF ⊢
      simp only [List.length_append, List.length_cons, List.length_nil] at hF
      have e : a.1 ++ [Tok.p .comma] ++ joinT [.p .comma] (b.1 :: l.map (·.1)) ++ .p .rbrace :: rest
          = a.1 ++ (.p .comma :: (joinT [.p .comma] (b.1 :: l.map (·.1)) ++ .p .rbrace :: rest)) := by simp
      rw [e, parseInits, ha.parse F' _ rfl (by omega)]
      simp only [List.head?_cons, if_true, List.tail_cons]
      have := ih (by simp) hl F' rest (by simp only [List.map_cons]; omega)
      simp only [List.map_cons] at this
      rw [this]

theorem parseInit_lbrace (f : Nat) (r : List Tok) :
    parseInit (f + 1) (.p .lbrace :: r) =
      if r.head? = some (.p .rbrace) then some (.braces [], r.tail)
      else match parseInits f r with
        | some (xs, r') => some (.braces xs, r')
        | none => none := by
  rw [parseInit]
  exact if_pos rfl

theorem init_braces (l : List (List Tok × PInit)) (hall : ∀ p ∈ l, InitOK p.1 p.2) :
    InitOK ([.p .lbrace] ++ joinT [.p .comma] (l.map (·.1)) ++ [.p .rbrace]) (.braces (l.map (·.2))) := by
  refine ⟨⟨.p .lbrace, _, rfl, by decide⟩, ?_⟩
  intro f rest hs hF
  simp only [List.length_append, List.length_cons, List.length_nil] at hF
  obtain ⟨f', rfl⟩ := Nat.exists_eq_add_of_le' (show 1 ≤ f by omega)
  cases l with
  | nil => simp [joinT, parseInit_lbrace]
  | cons a l =>
    have e : [Tok.p .lbrace] ++ joinT [.p .comma] ((a :: l).map (·.1)) ++ [.p .rbrace] ++ rest
        = .p .lbrace :: (joinT [.p .comma] ((a :: l).map (·.1)) ++ .p .rbrace :: rest) := by simp
    obtain ⟨t, r, ht, hne⟩ := (hall a (by simp)).hd
    obtain ⟨r', hj⟩ := joinT_head (sep := [.p .comma]) (l := l.map (·.1)) ht
    rw [e, parseInit_lbrace, if_neg (by rw [List.map_cons, hj]; simpa using hne),
      inits_parse (a :: l) (by simp) hall f' rest (by omega)]

theorem chunks_mem {α} (n : Nat) : ∀ (k : Nat) (l : List α) (c : List α), c ∈ chunks n k l → ∀ v ∈ c, v ∈ l := by
  intro k
  induction k with
  | zero => intro l c hc; simp [chunks] at hc
  | succ k ih =>
    intro l c hc v hv
    simp only [chunks, List.mem_cons] at hc
    rcases hc with rfl | hc
    · exact List.mem_of_mem_take hv
    · exact List.mem_of_mem_drop (ih _ _ hc v hv)

theorem tk_lit (sc : Scalar) (v : Expr) (h : isLit v = true) : tk sc v = toks (cNumber v) := by
  cases v <;> simp [isLit] at h <;> simp [tk, tokExprC, piecesC]

/-- every initialiser the formatter prints parses to the nested list of its values -/
theorem init_ok (sc : Scalar) : ∀ (shape : List Nat) (vals : List Expr),
    (∀ v ∈ vals, isLit v = true ∧ wfC sc v = true) → InitOK (initToksC shape vals) (initPT sc shape vals) := by
  intro shape
  induction shape with
  | nil =>
    intro vals _
    simpa [initToksC, initPT, joinT] using init_braces [] (by simp)
  | cons d tl ih =>
    intro vals hv
    cases tl with
    | nil =>
      have := init_braces (vals.map (fun v => (toks (cNumber v), PInit.e (eraseC sc v))))
        (List.forall_mem_map.2 fun v hvm => tk_lit sc v (hv v hvm).1 ▸ init_expr sc v (hv v hvm).2)
      simpa [initToksC, initPT, List.map_map, Function.comp_def] using this
    | cons d' ds =>
      have := init_braces (((chunks ((d' :: ds).foldr (· * ·) 1) d vals)).map
          (fun c => (initToksC (d' :: ds) c, initPT sc (d' :: ds) c)))
        (List.forall_mem_map.2 fun c hc => ih c (fun v hvc => hv v (chunks_mem _ _ _ _ hc v hvc)))
      simpa [initToksC, initPT, List.map_map, Function.comp_def] using this

theorem takeIds_ids (ids : List String) (rest : List Tok) (h : ∀ s, rest.head? ≠ some (.id s)) :
    takeIds (ids.map Tok.id ++ rest) = (ids, rest) := by
  induction ids with
  | nil =>
    simp only [List.map_nil, List.nil_append]
    unfold takeIds
    split
    · rename_i s r; exact absurd rfl (h s)
    · rfl
  | cons a l ih => simp [takeIds, ih]

def dimToks (sizes : List Nat) : List Tok :=
  sizes.flatMap (fun i => [Tok.p .lbrack, .num (String.ofList (natDigits i)), .p .rbrack])

theorem parseDims_dims (sizes : List Nat) (rest : List Tok) (h : rest.head? ≠ some (.p .lbrack)) :
    parseDims (dimToks sizes ++ rest) = (sizes.map (fun i => PT.num (String.ofList (natDigits i))), rest) := by
  induction sizes with
  | nil =>
    simp only [dimToks, List.flatMap_nil, List.nil_append, List.map_nil]
    unfold parseDims
    split
    · exact absurd rfl h
    · rfl
  | cons a l ih =>
    simp only [dimToks, List.flatMap_cons, List.cons_append, List.nil_append, List.map_cons] at ih ⊢
    simp only [parseDims]
    rw [ih]

/-- an identifier that is no keyword, then a punctuator: an expression statement -/
theorem parseStmtC_expr {n : String} (hn : validIdent n = true) (q : P) (r : List Tok) (F : Nat) :
    parseStmtC (F + 1) (.id n :: .p q :: r) = parseAssignC (.id n :: .p q :: r) := by
  have h2 : ¬ (Tok.id n = Tok.id "for") := by
    intro h; injection h with h; subst h; exact absurd hn (by decide)
  rw [parseStmtC, if_neg (by simp), if_neg h2, if_neg (by simp [isDeclStart])]

theorem parseStmtC_assign (sc : Scalar) (o : P) (ho : o = .assign ∨ o = .plusAssign) (l r : Expr)
    (hlv : isLvalue l = true) (hl : wfC sc l = true) (hr : wfC sc r = true) (rest : List Tok) (F : Nat) :
    parseStmtC (F + 1) (tk sc l ++ .p o :: (tk sc r ++ .p .semi :: rest))
      = some (.assign (decide (o = .plusAssign)) (eraseC sc l) (eraseC sc r), rest) := by
  have hlp : 12 ≤ lvP (precF l) := by cases l <;> simp [isLvalue] at hlv <;> exact Nat.le_refl 12
  -- an lvalue is a name, or a name and `[`
  have hshape : ∃ n q rest2, validIdent n = true ∧
      tk sc l ++ .p o :: (tk sc r ++ .p .semi :: rest) = .id n :: .p q :: rest2 := by
    cases l with
    | sym n dt =>
      simp only [wfC] at hl
      exact ⟨n, o, _, hl, by rw [tk_sym]; rfl⟩
    | idx arr dt ix =>
      simp only [wfC, Bool.and_eq_true] at hl
      exact ⟨arr, .lbrack, _, hl.1.1, by rw [tk_idx]; rfl⟩
    | _ => simp [isLvalue] at hlv
  obtain ⟨n, q, rest2, hn, hts⟩ := hshape
  rw [hts, parseStmtC_expr hn, ← hts]
  unfold parseAssignC
  rw [(re_expr sc l hl).un_fuelFor hlp (by rcases ho with rfl | rfl <;> rfl)]
  simp only []
  rw [if_pos (by rcases ho with rfl | rfl <;> simp), (re_expr sc r hr).full_fuelFor rfl]
  simp only [if_true]
  rcases ho with rfl | rfl <;> rfl

theorem validIdent_not_kw {n : String} (h : validIdent n = true) : cKeywords.contains n = false := by
  unfold validIdent at h
  split at h
  · simp at h
  · simp only [Bool.and_eq_true, Bool.not_eq_true'] at h; exact h.2

def initTail (init : Option (List Tok × PInit)) : List Tok :=
  match init with
  | none => []
  | some p => .p .assign :: p.1

/-- the declaration parser on `specifiers… name [n]… (= initialiser)? ;` -/
theorem parseDeclC_toks (quals : List String) (name : String) (sizes : List Nat)
    (init : Option (List Tok × PInit)) (rest : List Tok) (F : Nat)
    (hq : quals.all (fun q => cTypeWords.contains q) = true) (hn : validIdent name = true)
    (hi : ∀ p, init = some p → InitOK p.1 p.2 ∧ 2 * p.1.length ≤ F) :
    parseDeclC F (quals.map Tok.id ++ .id name :: (dimToks sizes ++ (initTail init ++ .p .semi :: rest)))
      = some (.decl quals name (sizes.map (fun i => PT.num (String.ofList (natDigits i)))) (init.map (·.2)), rest) := by
  generalize hR2 : (initTail init ++ Tok.p .semi :: rest) = R2
  have hR2h : R2.head? ≠ some (.p .lbrack) := by
    rw [← hR2]; cases init <;> simp [initTail]
  generalize hR : dimToks sizes ++ R2 = R
  have hRh : ∀ s, R.head? ≠ some (.id s) := by
    intro s
    rw [← hR]
    cases sizes with
    | nil => rw [← hR2]; cases init <;> simp [dimToks, initTail]
    | cons a l => simp [dimToks]
  have hids : quals.map Tok.id ++ .id name :: R = (quals ++ [name]).map Tok.id ++ R := by simp
  unfold parseDeclC
  rw [hids, takeIds_ids _ _ hRh]
  simp only [List.getLast?_append, List.getLast?_singleton, Option.some_or, Option.getD_some,
    List.dropLast_concat]
  have hc : (quals.all (fun q => cTypeWords.contains q) && !cKeywords.contains name) = true := by
    rw [hq, validIdent_not_kw hn]; rfl
  rw [if_pos hc, ← hR, parseDims_dims sizes R2 hR2h]
  simp only []
  cases init with
  | none =>
    simp only [initTail, List.nil_append] at hR2
    rw [← hR2]
    simp
  | some p =>
    obtain ⟨hok, hF⟩ := hi p rfl
    simp only [initTail, List.cons_append] at hR2
    rw [← hR2]
    simp only [List.head?_cons, List.tail_cons]
    rw [if_neg (by decide)]
    simp only [if_true]
    rw [hok.parse F (.p .semi :: rest) rfl hF]
    simp

theorem parseStmtC_for (sc : Scalar) (i : String) (lo hi : Expr) (hlo : wfC sc lo = true) (hhi : wfC sc hi = true)
    (bodyT : List Tok) (B : List PS) (rest : List Tok) (F : Nat)
    (hb : parseStmtsC F (bodyT ++ .p .rbrace :: rest) = some (B, .p .rbrace :: rest)) :
    parseStmtC (F + 1) (.id "for" :: .p .lpar :: .id "int" :: .id i :: .p .assign :: (tk sc lo ++
        .p .semi :: .id i :: .p .lt :: (tk sc hi ++
        .p .semi :: .p .incr :: .id i :: .p .rpar :: .p .lbrace :: (bodyT ++ .p .rbrace :: rest))))
      = some (.loop i (eraseC sc lo) (eraseC sc hi) B, rest) := by
  rw [parseStmtC, if_neg (by decide), if_pos rfl]
  unfold parseForHeadC
  simp only []
  rw [(re_expr sc lo hlo).full_fuelFor rfl]
  simp only []
  rw [(re_expr sc hi hhi).full_fuelFor rfl]
  simp only [and_self, if_true]
  rw [hb]

def wordsPieces : List String → List Piece
  | [] => []
  | w :: ws => .t (.id w) :: sp :: wordsPieces ws

/-- what the declaration lemmas, here and at text level (FormatStmtText), need of a C type name -/
structure CTypeOK (ty : String) : Prop where
  words : (tyWords ty).all (fun q => cTypeWords.contains q) = true
  ne : tyWords ty ≠ []
  text : render (wordsPieces (tyWords ty)) = strL ty ++ [' ']

instance (ty : String) : Decidable (CTypeOK ty) :=
  decidable_of_iff (_ ∧ _ ∧ _) ⟨fun h => ⟨h.1, h.2.1, h.2.2⟩, fun h => ⟨h.words, h.ne, h.text⟩⟩

/-- the six names `_dtype_to_name` of the C formatter returns, each evaluated once -/
theorem cTypeName_ok {sc : Scalar} {dt : DType} {ty : String} (h : cTypeName sc dt = some ty) : CTypeOK ty := by
  have hs : ∀ s : Scalar, CTypeOK s.cType := fun s => by cases s <;> decide +kernel
  cases dt <;> cases h
  · exact hs _
  · exact hs _
  · decide +kernel
  · decide +kernel

theorem parseStmtsC_rbrace (k : Nat) (rest : List Tok) :
    parseStmtsC (k + 1) (.p .rbrace :: rest) = some ([], .p .rbrace :: rest) := by
  rw [parseStmtsC, if_pos rfl]

/-- `ts` parses, in front of any `rest` that itself parses (with fuel `k`, to the statements `tail`,
    leaving `r'`), to `er` followed by that tail. The fuel: `k` for the tail and two units per token of
    `ts` — a statement costs one unit in `parseStmts…` and one in `parseStmt…` and has at least one
    token; `parseStmtsTop…` runs with `2 * n + 2`. `parse` is `parseStmtsC` or `parseStmtsPy`. -/
def Prefix (parse : Nat → List Tok → Option (List PS × List Tok)) (ts : List Tok) (er : List PS) : Prop :=
  ∀ (k : Nat) (rest : List Tok) (tail : List PS) (r' : List Tok) (F : Nat),
    parse k rest = some (tail, r') → k + 2 * ts.length ≤ F → parse F (ts ++ rest) = some (er ++ tail, r')

theorem Prefix.nil {parse : Nat → List Tok → Option (List PS × List Tok)}
    (hmono : ∀ {f f' ts v}, f ≤ f' → parse f ts = some v → parse f' ts = some v) : Prefix parse [] [] :=
  fun _ _ _ _ _ hk hF => hmono (Nat.le_trans (Nat.le_add_right _ _) hF) hk

theorem Prefix.append {parse : Nat → List Tok → Option (List PS × List Tok)} {a b : List Tok} {ea eb : List PS}
    (ha : Prefix parse a ea) (hb : Prefix parse b eb) : Prefix parse (a ++ b) (ea ++ eb) := by
  intro k rest tail r' F hk hF
  rw [List.length_append] at hF
  have h1 := hb k rest tail r' (k + 2 * b.length) hk (Nat.le_refl _)
  rw [List.append_assoc, List.append_assoc]
  exact ha _ _ _ r' F h1 (by omega)

/-- the statements of a block or suite, up to the token that closes it (`}`, DEDENT): `Prefix` with
    that token as the one-unit tail `R` -/
theorem Prefix.upto {parse : Nat → List Tok → Option (List PS × List Tok)} {b : List Tok} {eb : List PS}
    (hb : Prefix parse b eb) {R : List Tok} (hR : parse 1 R = some ([], R)) {F : Nat}
    (hF : 2 * b.length + 1 ≤ F) : parse F (b ++ R) = some (eb, R) := by
  have h := hb 1 R [] R F hR (by omega)
  rwa [List.append_nil] at h

/-- a whole input, with the fuel of `parseStmtsTopC` / `parseStmtsTopPy` -/
theorem Prefix.top {parse : Nat → List Tok → Option (List PS × List Tok)} {ts : List Tok} {er : List PS}
    (h : Prefix parse ts er) (h0 : parse 1 [] = some ([], [])) :
    parse (2 * ts.length + 2) ts = some (er, []) := by
  have := h.upto h0 (Nat.le_succ (2 * ts.length + 1))
  rwa [List.append_nil] at this

/-- a single statement: what `parseStmtC` reads in front of anything, with two units of fuel per token -/
theorem single_prefix {ts : List Tok} {s : PS} (hne : ∃ t r, ts = t :: r ∧ t ≠ .p .rbrace)
    (h : ∀ rest F, 2 * ts.length ≤ F + 2 → parseStmtC (F + 1) (ts ++ rest) = some (s, rest)) :
    Prefix parseStmtsC ts [s] := by
  intro k rest tail r' F hk hF
  obtain ⟨t, r, rfl, ht⟩ := hne
  rw [List.length_cons] at hF
  obtain ⟨F2, rfl⟩ := Nat.exists_eq_add_of_le' (show 2 ≤ F by omega)
  rw [List.cons_append, parseStmtsC, if_neg ht, ← List.cons_append, h rest F2 (by rw [List.length_cons]; omega)]
  simp only []
  rw [parseStmtsC_mono (show k ≤ F2 + 1 by omega) hk]
  rfl

theorem decl_prefix (quals : List String) (name : String) (sizes : List Nat)
    (init : Option (List Tok × PInit))
    (hq : quals.all (fun q => cTypeWords.contains q) = true) (hqne : quals ≠ [])
    (hn : validIdent name = true) (hi : ∀ p, init = some p → InitOK p.1 p.2) :
    Prefix parseStmtsC (quals.map Tok.id ++ Tok.id name :: (dimToks sizes ++ (initTail init ++ [Tok.p .semi])))
      [.decl quals name (sizes.map (fun i => PT.num (String.ofList (natDigits i)))) (init.map (·.2))] := by
  cases quals with
  | nil => exact absurd rfl hqne
  | cons q0 qs =>
    refine single_prefix ⟨.id q0, _, rfl, by simp⟩ (fun rest F hF => ?_)
    simp only [List.length_append, List.length_cons, List.length_map, List.length_nil] at hF
    have hd := parseDeclC_toks (q0 :: qs) name sizes init rest F hq hn (by
      intro p hp
      refine ⟨hi p hp, ?_⟩
      subst hp
      simp only [initTail, List.length_cons] at hF
      omega)
    simp only [List.all_cons, Bool.and_eq_true] at hq
    simp only [List.append_assoc, List.cons_append, List.nil_append, List.map_cons] at hd ⊢
    -- a type word is not `for`, and an identifier follows it: the dispatcher takes a declaration
    rw [parseStmtC, if_neg (by simp), if_neg (fun h => by cases h; exact absurd hq.1 (by decide)),
      if_pos (by cases qs <;> rfl)]
    exact hd

theorem assign_prefix (sc : Scalar) (o : P) (ho : o = .assign ∨ o = .plusAssign) (l r : Expr)
    (hlv : isLvalue l = true) (hl : wfC sc l = true) (hr : wfC sc r = true) :
    Prefix parseStmtsC (tk sc l ++ [.p o] ++ tk sc r ++ [.p .semi])
      [.assign (decide (o = .plusAssign)) (eraseC sc l) (eraseC sc r)] := by
  obtain ⟨t, r0, ht, hf⟩ := (re_expr sc l hl).hd
  refine single_prefix ⟨t, _, by rw [ht]; rfl, (cStart_ne hf).2.2⟩ (fun rest F _ => ?_)
  simp only [List.append_assoc, List.cons_append, List.nil_append]
  exact parseStmtC_assign sc o ho l r hlv hl hr rest F

theorem block_prefix {b : List Tok} {eb : List PS} (hb : Prefix parseStmtsC b eb) :
    Prefix parseStmtsC (.p .lbrace :: (b ++ [.p .rbrace])) [.block eb] := by
  refine single_prefix ⟨_, _, rfl, by decide⟩ (fun rest F hF => ?_)
  simp only [List.length_append, List.length_cons, List.length_nil] at hF
  simp only [List.append_assoc, List.cons_append, List.nil_append]
  rw [parseStmtC, if_pos rfl, hb.upto (parseStmtsC_rbrace 0 rest) (by omega)]

mutual
theorem stmt_prefix (sc : Scalar) : ∀ (s : Stmt), wfS sc s = true →
    Prefix parseStmtsC (tokStmtC sc s) (eraseStmtC sc s)
  | .assign l r, hwf => by
    simp only [wfS, Bool.and_eq_true] at hwf
    exact assign_prefix sc .assign (Or.inl rfl) l r hwf.1.1 hwf.1.2 hwf.2
  | .addAssign l r, hwf => by
    simp only [wfS, Bool.and_eq_true] at hwf
    exact assign_prefix sc .plusAssign (Or.inr rfl) l r hwf.1.1 hwf.1.2 hwf.2
  | .vdecl n dt v, hwf => by
    simp only [wfS, Bool.and_eq_true, Option.isSome_iff_exists] at hwf
    obtain ⟨⟨hn, ⟨ty, hty⟩⟩, hv⟩ := hwf
    obtain ⟨hq, hqne, _⟩ := cTypeName_ok hty
    have := decl_prefix (tyWords ty) n [] (some (tk sc v, PInit.e (eraseC sc v))) hq hqne hn
      (by intro p hp; cases hp; exact init_expr sc v hv)
    simpa [tokStmtC, eraseStmtC, hty, tyToks, dimToks, initTail] using this
  | .adecl n dt sizes c vals, hwf => by
    simp only [wfS, Bool.and_eq_true, Option.isSome_iff_exists] at hwf
    obtain ⟨⟨hn, ⟨ty, hty⟩⟩, hvals⟩ := hwf
    obtain ⟨hq, hqne, _⟩ := cTypeName_ok hty
    have hq' : ((if c = true ∧ vals.isSome = true then ["static", "const"] else []) ++ tyWords ty).all
        (fun q => cTypeWords.contains q) = true := by
      rw [List.all_append, hq]; split <;> rfl
    have := decl_prefix _ n sizes (vals.map fun vs => (initToksC (initShape sizes vs) vs, initPT sc (initShape sizes vs) vs))
      hq' (by simp [hqne]) hn (by
        intro p hp
        cases vals with
        | none => cases hp
        | some vs =>
          cases hp
          refine init_ok sc _ vs (fun v hv => ?_)
          simp only [List.all_eq_true, Bool.and_eq_true] at hvals
          exact hvals v hv)
    cases vals <;> simpa [tokStmtC, eraseStmtC, hty, tyToks, dimToks, initTail, apply_ite (List.map Tok.id)] using this
  | .forRange i lo hi body, hwf => by
    simp only [wfS, Bool.and_eq_true] at hwf
    obtain ⟨⟨⟨hi', hlo⟩, hhi⟩, hbody⟩ := hwf
    simp only [tokStmtC, eraseStmtC]
    refine single_prefix ⟨_, _, rfl, by decide⟩ (fun rest F hF => ?_)
    simp only [List.length_append, List.length_cons, List.length_nil] at hF
    simpa using parseStmtC_for sc i lo hi hlo hhi _ _ rest F
      ((stmtList_prefix sc body hbody).upto (parseStmtsC_rbrace 0 rest) (by omega))
  | .comment t, _ => by
    simp only [tokStmtC, eraseStmtC]
    exact Prefix.nil parseStmtsC_mono
  | .block ss, hwf => by
    simp only [wfS] at hwf
    simp only [tokStmtC, eraseStmtC]
    exact stmtList_prefix sc ss hwf
  | .sect name decls stmts inp out an, hwf => by
    simp only [wfS, Bool.and_eq_true] at hwf
    have hd := stmtList_prefix sc decls hwf.1.2
    simp only [tokStmtC, eraseStmtC]
    split
    · rw [List.append_nil, List.append_nil]; exact hd
    · exact Prefix.append hd (block_prefix (stmtList_prefix sc stmts hwf.2))
theorem stmtList_prefix (sc : Scalar) : ∀ (ss : List Stmt), wfSL sc ss = true →
    Prefix parseStmtsC (tokStmtsC sc ss) (eraseStmtsC sc ss)
  | [], _ => Prefix.nil parseStmtsC_mono
  | s :: ss, hwf => by
    simp only [wfSL, Bool.and_eq_true] at hwf
    exact Prefix.append (stmt_prefix sc s hwf.1) (stmtList_prefix sc ss hwf.2)
end

theorem stmts_prefix (sc : Scalar) : ∀ (ss : List Stmt), wfSL sc ss = true →
    ∀ (k : Nat) (rest : List Tok) (tail : List PS) (r' : List Tok) (F : Nat),
    parseStmtsC k rest = some (tail, r') → k + 2 * (tokStmtsC sc ss).length ≤ F →
    parseStmtsC F (tokStmtsC sc ss ++ rest) = some (eraseStmtsC sc ss ++ tail, r') :=
  stmtList_prefix sc

/-- `roundtrip_stmt_C` less the spacing: from the tokens the formatter means to print for a well-formed
    statement the statement parser gives back its erasure -/
theorem parse_tokens_stmt (sc : Scalar) (s : Stmt) (hwf : wfS sc s = true) :
    parseStmtsTopC (tokStmtC sc s) = some (eraseStmtC sc s) := by
  unfold parseStmtsTopC
  rw [(stmt_prefix sc s hwf).top (by rw [parseStmtsC])]

end Ffcx.LNodes.Fmt
