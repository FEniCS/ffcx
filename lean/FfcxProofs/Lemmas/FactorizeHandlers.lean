/-
Soundness of the handlers of the factorisation model, `handle_sum`, `handle_product`, `handle_conj`,
`handle_division`, `handle_conditional`, as one rule each (`handle*_rep`): if every operand `i` is
represented (`Rep`) by its dictionary `fac_i` — or, when that is empty, by its scalar node `s_i` — with
value `v_i`, then the handler returns a graph that extends `F` and a non-empty dictionary with distinct
keys whose `factSum` is the operation applied to the `v_i` (`Handled`).  Every rule but that of
`handle_sum` (which rejects an argument-free operand itself) also assumes `hdep` (`hne` for `handle_conj`): not every operand is
argument free, the condition under which `stepNode` calls a handler.  Each of the two loop shapes the
handlers share stands before its first user: `unionDict_built` (sum, conditional), `mapDict_sound` (the rest).
-/
import FfcxProofs.Lemmas.FactorizeDict
import FfcxProofs.Lemmas.Basics

namespace Ffcx.IR
open Lean.Grind

section
variable {R : Type} [Field R] (ρ : Env R)

/-- the term of a key in an operand: `F[f]`, or `0` for a key the operand does not have -/
def optVal (F : Array Node) (o : Option Nat) : R :=
  match o with
  | some f => val ρ F f
  | none => 0

/-- sum over a key list with lookup = sum over the entries (finite maps): take the first entry's
key out of the key list -/
theorem lsum_optVal (F : Array Node) (look : Nat → R) : ∀ (d : Dict) (ks : List Key),
    ks.Nodup → d.keys.Nodup → (∀ k ∈ d.keys, k ∈ ks) →
    lsum (fun k => optVal ρ F (d.get k) * keyProd look k) ks = factSum ρ F look d
  | [], ks, _, _, _ => (lsum_congr _ _ ks fun _ _ => Semiring.zero_mul _).trans (lsum_zero ks)
  | (k0, f0) :: d, ks, hks, hd, hsub => by
    obtain ⟨hk0, hd⟩ := List.nodup_cons.1 hd
    have ih := lsum_optVal F look d (ks.erase k0) (hks.erase k0) hd fun k hk =>
      (List.mem_erase_of_ne (by rintro rfl; exact hk0 hk)).2 (hsub k (List.mem_cons_of_mem _ hk))
    rw [lsum_perm _ (List.perm_cons_erase (hsub k0 (List.mem_cons_self ..))), lsum_cons]
    show _ = val ρ F f0 * keyProd look k0 + factSum ρ F look d
    rw [← ih]
    refine congr (congrArg _ ?_) (lsum_congr _ _ _ fun k hk => ?_)
    · rw [Dict.get, List.lookup_cons_self]; rfl
    · have hne : (k == k0) = false := beq_false_of_ne ((hks.mem_erase_iff.1 hk).1)
      rw [Dict.get, List.lookup_cons, hne]; rfl

theorem factSum_perm (F : Array Node) (look : Nat → R) {d d' : Dict} (h : d.Perm d') :
    factSum ρ F look d = factSum ρ F look d' := lsum_perm _ h

theorem ne_nil_of_perm {α : Type} {l l' : List α} (h : l.Perm l') (hne : l' ≠ []) : l ≠ [] := by
  rintro rfl; exact hne h.nil_eq.symm

/-- `d` — or, when `d` is empty, the scalar node `s` — represents the value `v` in `F`: what is known of a
processed operand, and what a handler has to establish of its result -/
structure Rep (look : Nat → R) (Q : Nat → Prop) (F : Array Node) (d : Dict) (s : Nat) (v : R) : Prop
    extends FacOK Q F d where
  free : d = [] → s < F.size ∧ val ρ F s = v
  dep : d ≠ [] → v = factSum ρ F look d

variable {ρ} in
theorem Rep.mono {look : Nat → R} {Q : Nat → Prop} {F F' : Array Node} {d : Dict} {s : Nat} {v : R}
    (r : Rep ρ look Q F d s v) (hx : Ext F F') : Rep ρ look Q F' d s v :=
  ⟨⟨r.ok.ext hx, r.nodup, r.keysIn⟩,
    fun h => have ⟨h1, h2⟩ := r.free h; have ⟨h1', e⟩ := hx.lift ρ h1; ⟨h1', e ▸ h2⟩,
    fun h => (r.dep h).trans (factSum_ext ρ look d hx r.ok).symm⟩

/-- what a handler returns: a graph `F' ⊇ F` and a non-empty dictionary that represents `v` in it -/
structure Handled (look : Nat → R) (Q : Nat → Prop) (F F' : Array Node) (d' : Dict) (v : R) : Prop
    extends Built Q F F' d' where
  ne : d' ≠ []
  eq : v = factSum ρ F' look d'

variable {ρ} in
theorem Handled.rep {look : Nat → R} {Q : Nat → Prop} {F F' : Array Node} {d' : Dict} {v : R}
    (h : Handled ρ look Q F F' d' v) (s : Nat) : Rep ρ look Q F' d' s v :=
  ⟨h.toFacOK, fun e => absurd e h.ne, fun _ => h.eq⟩

/-- The loop shared by `handle_sum` and `handle_conditional`: one entry for every key of either
operand, in sorted order.  A sum over these keys `ks` with lookup in an operand is the `factSum` of
that operand; `ks` is ONE list for the three sums, so that the caller can join the last two term by term
(`lsum_add` for the sum, a case split on the condition for the conditional) and meet the first. -/
theorem unionDict_built {α : Type} {step : Array Node → α → Except FErr (Array Node × Nat)}
    (g : α → R) (x : Key → α) (look : Nat → R) {Q : Nat → Prop} {F : Array Node} {fac0 fac1 : Dict}
    {F' : Array Node} {d' : Dict} (hc : Closed F) (h0 : FacOK Q F fac0) (h1 : FacOK Q F fac1)
    (hstep : ∀ k F1 r, Ext F F1 → Closed F1 → step F1 (x k) = .ok r → Yields ρ F1 r (g (x k)))
    (h : buildDict step F ((sortKeys (dedup (fac0.keys ++ fac1.keys))).map fun k => (k, x k)) [] =
      .ok (F', d')) :
    Built Q F F' d' ∧ ((fac0 = [] → fac1 ≠ []) → d' ≠ []) ∧
    ∃ ks, factSum ρ F' look d' = lsum (fun k => g (x k) * keyProd look k) ks ∧
      lsum (fun k => optVal ρ F (fac0.get k) * keyProd look k) ks = factSum ρ F look fac0 ∧
      lsum (fun k => optVal ρ F (fac1.get k) * keyProd look k) ks = factSum ρ F look fac1 := by
  have hnd : (sortKeys (dedup (fac0.keys ++ fac1.keys))).Nodup :=
    (sortKeys_perm _).nodup_iff.mpr (nodup_dedup _)
  have hmem : ∀ k, k ∈ sortKeys (dedup (fac0.keys ++ fac1.keys)) ↔ k ∈ fac0.keys ∨ k ∈ fac1.keys :=
    fun k => by rw [(sortKeys_perm _).mem_iff, mem_dedup, List.mem_append]
  generalize sortKeys (dedup (fac0.keys ++ fac1.keys)) = ks at h hnd hmem
  obtain ⟨hb, hkeys, hsum⟩ := buildDict_built ρ g look
    (fun e he => by obtain ⟨k, -, rfl⟩ := List.mem_map.1 he; exact hstep k)
    (by rw [map_fst_keyed]; exact hnd)
    (by rw [map_fst_keyed]; exact fun k hk => ((hmem k).1 hk).elim (h0.keysIn k) (h1.keysIn k)) hc h
  rw [map_fst_keyed] at hkeys
  rw [lsum_map] at hsum
  refine ⟨hb, fun hne hd' => ?_, ks, hsum,
    lsum_optVal ρ F look fac0 ks hnd h0.nodup fun k hk => (hmem k).2 (.inl hk),
    lsum_optVal ρ F look fac1 ks hnd h1.nodup fun k hk => (hmem k).2 (.inr hk)⟩
  -- the keys of `d'` are `ks`, among them every key of either operand: if `d'` is empty, so are both
  have hks : ks = [] := by rw [← hkeys, hd']; rfl
  have empty : ∀ {f : Dict}, (∀ k ∈ f.keys, k ∈ ks) → f = [] := fun h =>
    List.map_eq_nil_iff.1 (List.eq_nil_iff_forall_not_mem.2 fun k hk => nomatch hks ▸ h k hk)
  exact hne (empty fun k hk => (hmem k).2 (.inl hk)) (empty fun k hk => (hmem k).2 (.inr hk))

/-- No `hdep`: `handle_sum` itself raises `sumArgFree` unless BOTH operands depend on arguments. -/
theorem handleSum_rep (hρ : LawfulEnv ρ) {look : Nat → R} {Q : Nat → Prop}
    {F : Array Node} {fac0 fac1 : Dict} {s0 s1 : Nat} {v0 v1 : R} {F' : Array Node} {d' : Dict}
    (hc : Closed F) (h0 : Rep ρ look Q F fac0 s0 v0) (h1 : Rep ρ look Q F fac1 s1 v1)
    (h : handleSum F fac0 fac1 = .ok (F', d')) : Handled ρ look Q F F' d' (v0 + v1) := by
  unfold handleSum at h
  obtain ⟨hboth, h⟩ := ite_eq_of_ne h nofun
  have hne0 : fac0 ≠ [] := fun e => hboth (by rw [e]; rfl)
  have hne1 : fac1 ≠ [] := fun e => hboth (by rw [e]; exact Bool.or_true _)
  have key := unionDict_built ρ
    (fun x : Key × Option Nat × Option Nat => optVal ρ F x.2.1 + optVal ρ F x.2.2)
    (fun k => (k, fac0.get k, fac1.get k)) look hc h0.toFacOK h1.toFacOK ?step h
  case step =>
    intro k F1 r hx1 hc1 hs
    dsimp only at hs ⊢
    split at hs
    · cases hs
    split at hs <;> cases hs
    · rename_i f1 e0 e1
      rw [e0, e1]
      show Yields ρ F1 (F1, f1) (0 + val ρ F f1)
      rw [AddCommMonoid.zero_add]
      exact .lifted ρ hx1 hc1 (h1.ok _ (Dict.get_some _ _ _ e1))
    · rename_i f0 e0 e1
      rw [e0, e1]
      show Yields ρ F1 (F1, f0) (val ρ F f0 + 0)
      rw [AddCommMonoid.add_zero]
      exact .lifted ρ hx1 hc1 (h0.ok _ (Dict.get_some _ _ _ e0))
    · rename_i f0 f1 e0 e1
      rw [e0, e1]
      exact mkSum_sound ρ hρ hx1 hc1 f0 f1 (h0.ok _ (Dict.get_some _ _ _ e0))
        (h1.ok _ (Dict.get_some _ _ _ e1))
  obtain ⟨hb, hne, ks, hsum, e0, e1⟩ := key
  refine ⟨hb, hne fun _ => hne1, ?_⟩
  rw [hsum, lsum_congr _ (fun k => optVal ρ F (fac0.get k) * keyProd look k +
      optVal ρ F (fac1.get k) * keyProd look k) ks (fun k _ => Semiring.right_distrib ..),
    lsum_add, e0, e1, h0.dep hne0, h1.dep hne1]

/-- The shape shared by `handle_conj`, `handle_division` and the two scalar cases of
`handle_product`: every factor `f` of `fac`, visited in the order `es`, is replaced by a node of
value `g (F[f])`, and the sum of the new terms is `G` of the old sum. -/
theorem mapDict_sound {step : Array Node → Nat → Except FErr (Array Node × Nat)} (g G : R → R)
    (look : Nat → R) {Q : Nat → Prop} {F : Array Node} {fac es : Dict} {s : Nat} {v : R}
    {F' : Array Node} {d' : Dict}
    (hp : es.Perm fac) (hc : Closed F) (h0 : Rep ρ look Q F fac s v) (hne : fac ≠ [])
    (hstep : ∀ f, f < F.size → ∀ F1 r, Ext F F1 → Closed F1 → step F1 f = .ok r →
      Yields ρ F1 r (g (val ρ F f)))
    (hlin : lsum (fun e => g (val ρ F e.2) * keyProd look e.1) fac = G (factSum ρ F look fac))
    (h : buildDict step F es [] = .ok (F', d')) :
    Handled ρ look Q F F' d' (G v) := by
  rw [h0.dep hne]
  have hkp : (es.map (·.1)).Perm fac.keys := hp.map _
  obtain ⟨hb, hkeys, hsum⟩ := buildDict_built ρ (fun f => g (val ρ F f)) look
    (fun e he => hstep e.2 (h0.ok e (hp.mem_iff.1 he))) (hkp.nodup_iff.2 h0.nodup)
    (fun k hk => h0.keysIn k (hkp.mem_iff.1 hk)) hc h
  refine ⟨hb, Dict.ne_nil_of_keys hkeys fun hnil => ?_, ?_⟩
  · exact ne_nil_of_perm hkp (Dict.keys_ne_nil hne) hnil
  · rw [hsum, lsum_perm _ hp]; exact hlin.symm

/-- `hclash` is `wfNode` of a product node: the keys `sorted(k0 + k1)` under which `handle_product`
stores the terms are pairwise distinct.  Without it `factors[argkey] = …` overwrites a term and the
identity fails (`factorize_product_collision_counterexample`). -/
theorem handleProduct_rep (hρ : LawfulEnv ρ) {look : Nat → R} {Q : Nat → Prop}
    {F : Array Node} {fac0 fac1 : Dict} {s0 s1 : Nat} {v0 v1 : R} {F' : Array Node} {d' : Dict}
    (hc : Closed F) (h0 : Rep ρ look Q F fac0 s0 v0) (h1 : Rep ρ look Q F fac1 s1 v1)
    (hdep : fac0 = [] → fac1 ≠ [])
    (hclash : (pairKeys (Dict.keys (sortEntries fac0)) (Dict.keys (sortEntries fac1))).Nodup)
    (h : handleProduct F fac0 fac1 s0 s1 = .ok (F', d')) : Handled ρ look Q F F' d' (v0 * v1) := by
  unfold handleProduct at h
  by_cases he0 : fac0 = []
  · -- non-arg * arg
    obtain ⟨hs0, rfl⟩ := h0.free he0
    rw [if_pos (List.isEmpty_iff.2 he0)] at h
    exact mapDict_sound ρ (val ρ F s0 * ·) (val ρ F s0 * ·) look
      (sortEntries_perm _) hc h1 (hdep he0)
      (fun f hf F1 r hx1 hc1 hs => by
        cases hs; exact mkProd_sound ρ hρ hx1 hc1 s0 f hs0 hf)
      (by unfold factSum
          rw [← lsum_mul_left]
          exact lsum_congr _ _ _ fun e _ => Semiring.mul_assoc ..) h
  rw [if_neg (mt List.isEmpty_iff.1 he0)] at h
  by_cases he1 : fac1 = []
  · -- arg * non-arg
    obtain ⟨hs1, rfl⟩ := h1.free he1
    rw [if_pos (List.isEmpty_iff.2 he1)] at h
    exact mapDict_sound ρ (val ρ F s1 * ·) (· * val ρ F s1) look
      (sortEntries_perm _) hc h0 he0
      (fun f hf F1 r hx1 hc1 hs => by
        cases hs; exact mkProd_sound ρ hρ hx1 hc1 s1 f hs1 hf)
      (by unfold factSum
          rw [← lsum_mul_right]
          exact lsum_congr _ _ _ fun e _ => by grind) h
  · -- arg * arg: `Σ_{k0,k1} F[f0]·F[f1]·Π(k0 ++ k1) = (Σ fac0)·(Σ fac1)`
    rw [h0.dep he0, h1.dep he1]
    rw [if_neg (mt List.isEmpty_iff.1 he1)] at h
    generalize hes : ((sortEntries fac0).flatMap fun e0 => (sortEntries fac1).map fun e1 =>
      (sortNat (e0.1 ++ e1.1), (e0.2, e1.2))) = es at h
    have hkeysEs : es.map (·.1) =
        pairKeys (Dict.keys (sortEntries fac0)) (Dict.keys (sortEntries fac1)) := by
      subst hes
      unfold pairKeys Dict.keys
      simp [List.map_flatMap, List.flatMap_map, List.map_map, Function.comp_def]
    have hmem : ∀ e ∈ es, ∃ e0 ∈ fac0, ∃ e1 ∈ fac1,
        e = (sortNat (e0.1 ++ e1.1), (e0.2, e1.2)) := by
      subst hes
      intro e he
      obtain ⟨e0, m0, he⟩ := List.mem_flatMap.1 he
      obtain ⟨e1, m1, rfl⟩ := List.mem_map.1 he
      exact ⟨e0, (sortEntries_perm fac0).mem_iff.1 m0, e1, (sortEntries_perm fac1).mem_iff.1 m1, rfl⟩
    obtain ⟨hb, hkeys, hsum⟩ := buildDict_built ρ
      (fun x : Nat × Nat => val ρ F x.1 * val ρ F x.2) look
      (fun e he F1 r hx1 hc1 hs => by
        obtain ⟨e0, m0, e1, m1, rfl⟩ := hmem e he
        cases hs; exact mkProd_sound ρ hρ hx1 hc1 e0.2 e1.2 (h0.ok e0 m0) (h1.ok e1 m1))
      (hkeysEs ▸ hclash)
      (fun k hk a ha => by
        obtain ⟨e, he, rfl⟩ := List.mem_map.1 hk
        obtain ⟨e0, m0, e1, m1, rfl⟩ := hmem e he
        rcases List.mem_append.1 ((sortNat_perm _).mem_iff.1 ha) with ha | ha
        · exact h0.keysIn e0.1 ((Dict.mem_keys ..).2 ⟨e0.2, m0⟩) a ha
        · exact h1.keysIn e1.1 ((Dict.mem_keys ..).2 ⟨e1.2, m1⟩) a ha)
      hc h
    refine ⟨hb, Dict.ne_nil_of_keys hkeys fun hnil => ?_, ?_⟩
    · obtain ⟨e0, t0, ht0⟩ := List.exists_cons_of_ne_nil (ne_nil_of_perm (sortEntries_perm fac0) he0)
      obtain ⟨e1, t1, ht1⟩ := List.exists_cons_of_ne_nil (ne_nil_of_perm (sortEntries_perm fac1) he1)
      rw [← hes, ht0, ht1] at hnil
      cases hnil
    · rw [hsum, ← hes, lsum_flatMap]
      simp only [lsum_map]
      rw [lsum_congr _ (fun e0 => lsum (fun e1 : Key × Nat =>
          (val ρ F e0.2 * keyProd look e0.1) * (val ρ F e1.2 * keyProd look e1.1))
          (sortEntries fac1)) _ fun e0 _ => lsum_congr _ _ _ fun e1 _ => by
            rw [keyProd_perm look (sortNat_perm _), keyProd_append]; grind,
        lsum_mul_lsum]
      rw [← factSum_perm ρ F look (sortEntries_perm fac0), ← factSum_perm ρ F look (sortEntries_perm fac1)]
      rfl

theorem conj_lsum (hρ : LawfulEnv ρ) {β : Type} (f : β → R) (l : List β) :
    ρ.conj (lsum f l) = lsum (fun x => ρ.conj (f x)) l := by
  induction l with
  | nil => exact hρ.conj_zero
  | cons x l ih => rw [lsum_cons, hρ.conj_add, ih]; rfl

theorem conj_keyProd (hρ : LawfulEnv ρ) (look : Nat → R) (k : Key)
    (h : ∀ a ∈ k, ρ.conj (look a) = look a) : ρ.conj (keyProd look k) = keyProd look k := by
  induction k with
  | nil => exact hρ.conj_one
  | cons a k ih =>
    rw [keyProd_cons, hρ.conj_mul, h a (List.mem_cons_self ..),
      ih fun b hb => h b (List.mem_cons_of_mem _ hb)]

/-- `hQ`: conjugation fixes the value of every member of an argkey, so `conj` distributes over the
terms `F[f]·Π_{a∈k} look a` onto the factor `F[f]` alone.  In the main loop this is `RealArgs` (argument
tables are real valued), carried by `QReal`. -/
theorem handleConj_rep (hρ : LawfulEnv ρ) {look : Nat → R} {Q : Nat → Prop}
    {F : Array Node} {fac0 : Dict} {s0 : Nat} {v0 : R} {F' : Array Node} {d' : Dict}
    (hc : Closed F) (h0 : Rep ρ look Q F fac0 s0 v0) (hQ : ∀ a, Q a → ρ.conj (look a) = look a)
    (hne : fac0 ≠ [])
    (h : handleConj F fac0 = .ok (F', d')) : Handled ρ look Q F F' d' (ρ.conj v0) :=
  mapDict_sound ρ ρ.conj ρ.conj look (.refl _) hc h0 hne
    (fun f hf F1 r hx1 hc1 hs => by cases hs; exact mkConj_sound ρ hρ hx1 hc1 f hf)
    (by unfold factSum
        rw [conj_lsum ρ hρ]
        exact lsum_congr _ _ _ fun e he => by
          rw [hρ.conj_mul, conj_keyProd ρ hρ look e.1
            fun a ha => hQ a (h0.keysIn e.1 ((Dict.mem_keys ..).2 ⟨e.2, he⟩) a ha)]) h

theorem handleDivision_rep (hρ : LawfulEnv ρ) {look : Nat → R} {Q : Nat → Prop}
    {F : Array Node} {fac0 fac1 : Dict} {s0 s1 : Nat} {v0 v1 : R} {F' : Array Node} {d' : Dict}
    (hc : Closed F) (h0 : Rep ρ look Q F fac0 s0 v0) (h1 : Rep ρ look Q F fac1 s1 v1)
    (hdep : fac0 = [] → fac1 ≠ [])
    (h : handleDivision F fac0 fac1 s1 = .ok (F', d')) : Handled ρ look Q F F' d' (v0 / v1) := by
  unfold handleDivision at h
  obtain ⟨hf1, h⟩ := ite_eq_of_ne h nofun
  have hf1 : fac1 = [] := List.isEmpty_iff.1 (by simpa using hf1)
  have hne : fac0 ≠ [] := fun e => hdep e hf1
  obtain ⟨hs1, rfl⟩ := h1.free hf1
  exact mapDict_sound ρ (· / val ρ F s1) (· / val ρ F s1) look
    (sortEntries_perm _) hc h0 hne
    (fun f hf F1 r hx1 hc1 hs => mkDiv_sound ρ hρ hx1 hc1 f s1 hf hs1 r hs)
    (by unfold factSum
        rw [Field.div_eq_mul_inv, ← lsum_mul_right]
        exact lsum_congr _ _ _ fun e _ => by grind) h

/-- `z1`, `z2`: the caller's claim that the scalar node of a branch is the literal `Zero`
(`isinstance(f1, Zero)`); `handle_conditional` consults it only for an argument-free branch. -/
theorem handleConditional_rep {look : Nat → R} {Q : Nat → Prop}
    {F : Array Node} {fac0 fac1 fac2 : Dict} {s0 s1 s2 : Nat} {v0 v1 v2 : R} {z1 z2 : Bool}
    {F' : Array Node} {d' : Dict}
    (hc : Closed F) (r0 : Rep ρ look Q F fac0 s0 v0) (r1 : Rep ρ look Q F fac1 s1 v1)
    (r2 : Rep ρ look Q F fac2 s2 v2) (hdep : fac0 = [] → fac1 = [] → fac2 ≠ [])
    (hz1 : z1 = true → kindAt F s1 = .zero) (hz2 : z2 = true → kindAt F s2 = .zero)
    (h : handleConditional F fac0 fac1 fac2 s0 z1 z2 = .ok (F', d')) :
    Handled ρ look Q F F' d' (if ρ.truth v0 then v1 else v2) := by
  -- an argument-free branch is the literal zero, whose (empty) sum is `0` as well
  have branch : ∀ {d s v}, Rep ρ look Q F d s v → (d = [] → kindAt F s = .zero) →
      v = factSum ρ F look d := by
    intro d s v r hz
    by_cases h0 : d = []
    · rw [← (r.free h0).2, val_zero_of_kind ρ F hc _ (r.free h0).1 (hz h0), h0]
      rfl
    · exact r.dep h0
  unfold handleConditional at h
  obtain ⟨hf0, h⟩ := ite_eq_of_ne h nofun
  obtain ⟨ha1, h⟩ := ite_eq_of_ne h nofun
  obtain ⟨ha2, h⟩ := ite_eq_of_ne h nofun
  obtain ⟨_, h⟩ := ite_eq_of_ne h nofun
  simp only at h
  have hf0 : fac0 = [] := List.isEmpty_iff.1 (by simpa using hf0)
  obtain ⟨hs0, rfl⟩ := r0.free hf0
  rw [branch r1 fun e => hz1 (by simpa [e] using ha1), branch r2 fun e => hz2 (by simpa [e] using ha2)]
  have key := unionDict_built ρ (fun x : Option Nat × Option Nat =>
      if ρ.truth (val ρ F s0) then optVal ρ F x.1 else optVal ρ F x.2)
    (fun k => (fac1.get k, fac2.get k)) look hc r1.toFacOK r2.toFacOK ?step h
  case step =>
    intro k F1 r hx1 hc1 hs
    cases hs
    dsimp only
    -- the zero node, inserted when a branch has no factor for `k`, stands in for `None`
    generalize hFz : (if (fac1.get k).isNone || (fac2.get k).isNone then graphInsert F1 Node.zero
      else (F1, 0)) = Fz
    have hz : Ext F1 Fz.1 ∧ Closed Fz.1 ∧ (((fac1.get k).isNone || (fac2.get k).isNone) = true →
        Fz.2 < Fz.1.size ∧ val ρ Fz.1 Fz.2 = 0) := by
      subst hFz
      split
      · have y := Yields.insert_zero ρ hc1
        exact ⟨y.ext, y.closed, fun _ => ⟨y.lt, y.eq⟩⟩
      · exact ⟨Ext.refl _, hc1, fun h => absurd h ‹_›⟩
    obtain ⟨hxz, hcz, hzv⟩ := hz
    have hopt : ∀ o : Option Nat, (∀ f, o = some f → f < F.size) →
        (o = none → ((fac1.get k).isNone || (fac2.get k).isNone) = true) →
        o.getD Fz.2 < Fz.1.size ∧ val ρ Fz.1 (o.getD Fz.2) = optVal ρ F o := by
      intro o hsome hnone
      cases o with
      | none => exact hzv (hnone rfl)
      | some f => exact ((hx1.trans hxz).lift ρ (hsome f rfl)).imp id Eq.symm
    obtain ⟨l1, v1⟩ := hopt (fac1.get k) (fun f hf => r1.ok _ (Dict.get_some _ _ _ hf))
      (fun hn => by rw [hn]; rfl)
    obtain ⟨l2, v2⟩ := hopt (fac2.get k) (fun f hf => r2.ok _ (Dict.get_some _ _ _ hf))
      (fun hn => by rw [hn]; exact Bool.or_true _)
    have y := mkCond_sound ρ (hx1.trans hxz) hcz s0 _ _ hs0 l1 l2
    rw [v1, v2] at y
    exact ⟨hxz.trans y.ext, y.closed, y.lt, y.eq⟩
  obtain ⟨hb, hne, ks, hsum, e1, e2⟩ := key
  refine ⟨hb, hne (hdep hf0), ?_⟩
  rw [hsum]
  by_cases hct : ρ.truth (val ρ F s0) = true
  · simp only [hct, if_true]
    exact e1.symm
  · simp only [hct]
    exact e2.symm

end
end Ffcx.IR
