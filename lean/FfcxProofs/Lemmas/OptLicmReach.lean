/-
If the ORIGINAL loop nest runs without error and the inner loop has at least one iteration, then every
hoisted factor is safe to evaluate before the nest, for every value of the outer index: the
pre-loops that `licm` inserts cannot fail (`nest_reach`).  (With an empty inner loop this is false.)
With it, soundness of the model of `licm` under the decidable certificate `licmCert`
(`licm_model_sound`).
-/
import FfcxProofs.Lemmas.OptLicmSound

namespace Ffcx.LNodes
open Ffcx.LNodes.Opt
open Lean.Grind
attribute [local instance] Lean.Grind.Ring.intCast

theorem loopN_reach {R : Type} (f : St R → Except Err (St R)) (i : String) (P Q : String → Prop)
    (hf : ∀ a b, f a = .ok b → AgreeOnQ P Q a b) (hi : ¬ P i)
    (k : Nat) (lo : Int) (σ σ' : St R) (h : loopN f i lo k σ = .ok σ') (j : Nat) (hj : j < k) :
    ∃ σj, AgreeOnQ P Q σ σj ∧ ∃ b, f (σj.setIV i (lo + j)) = .ok b :=
  -- invariant: the state before iteration `t` agrees with `σ`, and so did those before the earlier iterations
  (loopN_inv_of_ok f i k (fun t τ => AgreeOnQ P Q σ τ ∧
      ∀ j, j < t → ∃ σj, AgreeOnQ P Q σ σj ∧ ∃ b, f (σj.setIV i (lo + j)) = .ok b) lo σ σ'
    ⟨AgreeOnQ.refl σ, fun _ h => absurd h (Nat.not_lt_zero _)⟩
    (fun _ τ τ' _ ⟨hag, hall⟩ hb => ⟨hag.trans (((AgreeOnQ.refl τ).setIV_right i _ hi).trans (hf _ _ hb)),
      fun j hj => (Nat.lt_succ_iff_lt_or_eq.mp hj).elim (hall j) fun e => ⟨τ, hag, τ', e ▸ hb⟩⟩) h).2 j hj

variable {R : Type} [Field R] (x : Extra R)

theorem execL_frameQ : ∀ (ss : List Stmt) (a b : St R), execL x ss a = .ok b →
    AgreeOnQ (fun n => neverWrittenL n ss = true)
      (fun n => neverWrittenL n ss = true ∨ noStoreL n ss = true) a b
  | ss, a, b, h => by
    simpa only [neverWritten, noStore] using exec_frameQ x (.block ss) a b (by simpa only [exec] using h)

theorem execL_reach : ∀ (ss : List Stmt) (σ σ' : St R), execL x ss σ = .ok σ' → ∀ s, s ∈ ss →
    ∃ σs, AgreeOnQ (fun n => neverWrittenL n ss = true)
      (fun n => neverWrittenL n ss = true ∨ noStoreL n ss = true) σ σs ∧ ∃ b, exec x s σs = .ok b
  | [], _, _, _, s, hs => by cases hs
  | s0 :: r, σ, σ', h, s, hs => by
    rw [execL_cons_bind] at h
    obtain ⟨σ1, h1, h⟩ := bind_eq_ok.mp h
    rcases List.mem_cons.mp hs with rfl | hs'
    · exact ⟨σ, AgreeOnQ.refl σ, σ1, h1⟩
    · obtain ⟨σs, hag, b, hb⟩ := execL_reach r σ1 σ' h s hs'
      refine ⟨σs, ?_, b, hb⟩
      simp only [neverWrittenL, noStoreL, Bool.and_eq_true]
      exact ((exec_frameQ x s0 σ σ1 h1).mono (fun _ h => h.1) (fun _ h => h.imp And.left And.left)).trans
        (hag.mono (fun _ h => h.2) (fun _ h => h.imp And.right And.right))

/-- (Stated as `hoisted_factors_safe` in C17Opt.)  The run reaches iteration `v` of the outer loop
    (`loopN_reach`), there the first iteration of the inner loop and in it the leaf (`execL_reach`),
    whose guard evaluates `h`; the states on the way agree with `σ.setIV o v` on the names of `h`. -/
theorem nest_reach (o n : String) (N : Nat) (a b : Int) (hab : a < b) (body : List Stmt)
    (σ σ' : St R)
    (hrun : exec x (.forRange o (.litI 0) (.litI (N : Int)) [.forRange n (.litI a) (.litI b) body]) σ = .ok σ')
    (arr : String) (dt : DType) (ix args : List Expr)
    (hL : Stmt.addAssign (.idx arr dt ix) (.prod args) ∈ leaves body) (h : Expr) (hh : h ∈ args)
    (hn : mentionsE n h = false) (hw : ∀ m, mentionsE m h = true → neverWrittenL m body = true)
    (v : Nat) (hv : v < N) : safeE (σ.setIV o v) h = true := by
  rw [← nest_leaves] at hrun
  replace hw := fun m hm => (neverWrittenL_leaves m body).symm ▸ hw m hm
  generalize leaves body = body at hrun hw hL
  let inner : Stmt := .forRange n (.litI a) (.litI b) body
  rw [exec_for_lit] at hrun
  have hN : ((N : Int) - 0).toNat = N := by omega
  rw [hN] at hrun
  obtain ⟨σv, hag, bv, hbv⟩ := loopN_reach (execL x [inner]) o
    (fun m => neverWritten m inner = true ∧ m ≠ o)
    (fun m => neverWritten m inner = true ∨ noStore m inner = true)
    (fun s t hst => by
      rw [execL_singleton] at hst
      exact (exec_frameQ x inner s t hst).mono (fun m hm => hm.1) (fun m hm => hm))
    (fun hc => hc.2 rfl) N 0 σ σ' hrun v hv
  rw [execL_singleton] at hbv
  simp only [Int.zero_add] at hbv
  have hk : ∃ k, (b - a).toNat = k + 1 := ⟨(b - a).toNat - 1, by omega⟩
  obtain ⟨k, hk⟩ := hk
  simp only [inner, exec_for_lit, hk, loopN_succ_bind] at hbv
  cases hb1 : execL x body ((σv.setIV o v).setIV n a) with
  | error e => simp [hb1, Except.bind] at hbv
  | ok σb =>
    obtain ⟨σL, hagL, bL, hbL⟩ := execL_reach x body _ σb hb1 _ hL
    simp only [exec] at hbL
    have hsafe := (ite_eq_of_else_ne hbL nofun).1
    rw [safeE_prod] at hsafe
    have hsh := safeL_eq_true_iff.1 hsafe h hh
    rw [← hsh]
    -- σ.setIV o v ~ σv.setIV o v ~ … setIV n a ~ σL on the names of h
    have hmn : ¬ mentionsE n h = true := by rw [hn]; exact Bool.false_ne_true
    have hin : ∀ m, mentionsE m h = true → neverWritten m inner = true := by
      intro m hm
      simp only [inner, neverWritten, Bool.and_eq_true]
      exact ⟨by simpa using fun (e : n = m) => hmn (e ▸ hm), hw m hm⟩
    have chain : AgreeOnQ (fun m => mentionsE m h = true) (fun m => mentionsE m h = true)
        (σ.setIV o v) σL :=
      (((hag.setIV_bind o v).mono
          (fun m hm => if e : m = o then Or.inr e else Or.inl ⟨hin m hm, e⟩)
          (fun m hm => Or.inl (hin m hm))).setIV_right n a hmn).trans
        (hagL.mono hw (fun m hm => Or.inl (hw m hm)))
    exact safeE_agreeOn chain.toAgreeOn h (fun m hm => ⟨hm, hm⟩)

theorem sect_pre_ok {nm : String} {decls pre rest : List Stmt} {inp out ann : List String}
    {σ τ' : St R} (h : exec x (.sect nm decls (pre ++ rest) inp out ann) σ = .ok τ') :
    ∃ σd, execL x decls σ = .ok σd ∧ ∃ τP, execL x pre σd = .ok τP := by
  rw [exec_sect_eq_bind] at h
  obtain ⟨σd, hdd, h⟩ := bind_eq_ok.mp h
  rw [execL_append'] at h
  obtain ⟨τP, hp, _⟩ := bind_eq_ok.mp h
  exact ⟨σd, hdd, τP, hp⟩

theorem tripCert_shape {nm : String} {decls body : List Stmt} {o n : String} {lo hi lo2 hi2 : Expr}
    {inp out ann : List String}
    (h : licmTripCert (.sect nm decls [.forRange o lo hi [.forRange n lo2 hi2 body]] inp out ann) = true) :
    ∃ a b, lo2 = .litI a ∧ hi2 = .litI b ∧ a < b := by
  cases lo2 with
  | litI a =>
    cases hi2 with
    | litI b => exact ⟨a, b, rfl, rfl, of_decide_eq_true h⟩
    | _ => cases h
  | _ => cases h

/-- What is proved of a section `S` and its image `S'` under `licm`, up to the dead indices `D` and
    the temporaries `T`; `pre` are the inserted pre-loops, run after the declarations `decls`. -/
structure LicmSound (decls pre : List Stmt) (D T : List String) (S S' : Stmt) : Prop where
  /-- from a state in which declarations and pre-loops succeed, both runs end alike -/
  of_pre : ∀ σ σd : St R, execL x decls σ = .ok σd → (∃ τ, execL x pre σd = .ok τ) →
    ObsRes2 D T (exec x S σ) (exec x S' σ)
  /-- if the new run succeeds, so does the old one (the pre-loops evaluate more than the nest) -/
  refines : ∀ σ : St R, Refines D T (exec x S σ) (exec x S' σ)
  /-- with a non-empty inner loop the old run reaches every leaf, so the pre-loops cannot fail -/
  of_trip : licmTripCert S = true → ∀ σ : St R, ObsRes2 D T (exec x S σ) (exec x S' σ)

/-- `S` the section of the expected shape, `S'` what `licm` makes of it (variables with their
    defining equations, so that the three fields are stated without repeating the two sections) -/
theorem licm_shape_all (nm : String) (decls : List Stmt) (o n : String) (N : Nat) (lo2 hi2 : Expr)
    (body : List Stmt) (inp out ann : List String) (es : List Entry) (st : HoistState) (S S' : Stmt)
    (hS : S = .sect nm decls
      [.forRange o (.litI 0) (.litI (N : Int)) [.forRange n lo2 hi2 body]] inp out ann)
    (hS' : S' = .sect nm decls (st.pre ++
      [.forRange o (.litI 0) (.litI (N : Int)) [.forRange n lo2 hi2 (rebuildBody st.upd 0 body)]])
      inp out ann)
    (hcol : collect body = .ok es)
    (hha : hoistAll o n (.litI 0) (.litI (N : Int)) {} (processingOrder (number 0 es)) = .ok st)
    (hcert : licmShapeCert S = true) :
    LicmSound x decls st.pre [o] (tempNames st.counter) S S' := by
  obtain ⟨recs, hpre, hf⟩ :=
    licm_shape_facts nm decls o n N lo2 hi2 body inp out ann es st hcol hha (hS ▸ hcert)
  have main : ∀ σ σd : St R, execL x decls σ = .ok σd → (∃ τ, execL x st.pre σd = .ok τ) →
      ObsRes2 [o] (tempNames st.counter) (exec x S σ) (exec x S' σ) := by
    intro σ σd hdd ⟨τP, hp⟩
    rw [hS, hS']
    exact licm_shape x nm decls o n N lo2 hi2 body inp out ann st recs hpre hf σ σd τP hdd hp
  -- the new run succeeds only if the declarations and the pre-loops do
  have refn : ∀ σ : St R, Refines [o] (tempNames st.counter) (exec x S σ) (exec x S' σ) := by
    intro σ
    cases hnew : exec x S' σ with
    | error e => trivial
    | ok τ' =>
      have hnew' := hnew
      rw [hS'] at hnew'
      obtain ⟨σd, hdd, hp⟩ := sect_pre_ok x hnew'
      have := (main σ σd hdd hp).toRefines
      rwa [hnew] at this
  refine ⟨main, refn, fun htrip σ => ?_⟩
  rw [hS] at htrip
  obtain ⟨a, b, rfl, rfl, hab⟩ := tripCert_shape htrip
  cases hold : exec x S σ with
  | error e =>
    have := refn σ
    rw [hold] at this
    cases hnew : exec x S' σ with
    | error e' => trivial
    | ok τ' =>
      rw [hnew] at this
      obtain ⟨_, h, _⟩ := this
      cases h
  | ok σ' =>
    have hold' := hold
    rw [hS, exec_sect_eq_bind] at hold'
    cases hdd : execL x decls σ with
    | error e => simp [hdd, Except.bind] at hold'
    | ok σd =>
      simp only [hdd, Except.bind, execL_singleton] at hold'
      have hsafe : ∀ r, r ∈ recs → ∀ w : Nat, w < N → safeE.safeL (σd.setIV o w) r.hoisted = true := by
        intro r hr w hw
        refine safeL_eq_true_iff.2 (fun h hh => ?_)
        obtain ⟨L, hL, hmem, hn, hW⟩ := hf.src r hr h hh
        obtain ⟨arr, dt, ix, args, rfl⟩ := flatAdd_shape ((List.all_eq_true.mp hf.flat) L hL)
        refine nest_reach x o n N a b hab body σd σ' hold' arr dt ix args hL h
          (by simpa [prodArgs] using hmem) hn ?_ w hw
        intro m hm
        rw [← neverWrittenL_leaves]
        refine neverWrittenL_flat m _ fun l hl => ⟨List.all_eq_true.mp hf.flat l hl, fun e => ?_⟩
        have := hW (lhsArr l) (List.mem_map.mpr ⟨l, hl, rfl⟩)
        rw [e, hm] at this; cases this
      obtain ⟨τP, hp⟩ := pre_all_ok x o N recs hf.fresh σd hsafe
      have := main σ σd hdd ⟨τP, by rw [hpre]; exact hp⟩
      rwa [hold] at this

/-- `licm` returns the section unchanged unless its first statement is a nest of depth 2; for such a
    section `licmCert` is `licmShapeCert`, whose pattern gives the shape `licm_shape_all` is about. -/
theorem licm_model_sound (s s' : Stmt) (h : licm s = .ok s') (hc : licmCert s = true) :
    LicmSound x (sDecls s) (licmPre s) (licmDead s) (tempNames (licmTemps s)) s s' := by
  cases s with
  | sect nm decls stmts inp out ann =>
    cases stmts with
    | nil => simp only [licm] at h; split at h <;> cases h
    | cons first rest =>
      simp only [licm] at h
      split at h
      · cases h
      · obtain ⟨d, hd, h⟩ := bind_eq_ok.mp h
        split at h
        · cases h
          exact ⟨fun σ σd _ _ => ObsRes2.refl _, fun σ => Refines.refl _, fun _ σ => ObsRes2.refl _⟩
        · rename_i hd2
          have : d = 2 := by simpa using hd2
          subst this
          simp only [licmCert, hd] at hc
          unfold licmShapeCert at hc
          split at hc
          · rename_i nm' decls' o N n lo2 hi2 body inp' out' ann' heq
            injection heq with h1 h2 h3 h4 h5 h6
            injection h3 with h3a h3b
            subst h1 h2 h3a h3b h4 h5 h6
            -- the second test of `licmShapeCert`, `decide (0 ≤ N)`
            have hN : 0 ≤ N := by
              simp only [Bool.and_eq_true, decide_eq_true_eq] at hc
              exact hc.1.1.1.1.1.2
            obtain ⟨N', rfl⟩ := Int.eq_ofNat_of_zero_le hN
            obtain ⟨es, hcol, h⟩ := bind_eq_ok.mp h
            obtain ⟨st, hha, h⟩ := bind_eq_ok.mp h
            cases h
            have all := licm_shape_all x nm decls o n N' lo2 hi2 body inp out ann es st _ _ rfl rfl
              hcol hha (by unfold licmShapeCert; exact hc)
            simpa [licmPre, licmTemps, hcol, hha, licmDead, sDecls] using all
          · cases hc
  | _ => cases h

end Ffcx.LNodes
