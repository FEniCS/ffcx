/-
C16 — numba: what the formatter prints, as far as the lexer and the parser side both need it. Every
number text (repr of a float, the parts of a complex with the `j` suffix, `str(int)`) is a single
Python NUMBER token, so the literal-shape conjunct of `wfPy` only asks a literal that is not complex
to have imaginary part 0 (`pyLitShapeOK_eq`). How a printed number begins: a negative part is `-`
in front of its magnitude, and no magnitude text starts with `-`. The token of a binary operator
and the parenthesisation of its operands (`pyOpTok`, `pyParen`).
-/
import FfcxProofs.Lemmas.FormatShape
import FfcxModel.LNodes.ParsePy
namespace Ffcx.LNodes.Fmt

theorem pyNumContAll_eq (last : Char) (cs : List Char) : pyNumContAll last cs = contAll pyNumCont last cs := by
  induction cs generalizing last with
  | nil => rfl
  | cons c cs ih => rw [pyNumContAll, contAll, ih]

theorem pyNumCont_ok : NumCont pyNumCont where
  dd last c h := by
    simp only [dd, Bool.or_eq_true] at h
    simp only [pyNumCont, Bool.or_eq_true]
    exact h.elim (fun h => Or.inl (Or.inl (Or.inl (Or.inl (Or.inl (Or.inl (Or.inl h)))))))
      (fun h => Or.inl (Or.inl (Or.inl (Or.inl (Or.inl (Or.inl (Or.inr h)))))))
  exp _ := rfl
  sign s hs := by rcases hs with rfl | rfl <;> rfl

theorem pyNumShape_cons (c : Char) (r : List Char) :
    pyNumShape (c :: r) = (c.isDigit && pyNumContAll c r && ((lastOf c r).isDigit || lastOf c r == 'j')) := rfl

theorem reprPos_shape (d0 : Bool) (x : Rat) : pyNumShape (reprPos d0 x) = true := by
  simp only [reprPos, decDigits]
  obtain ⟨h1, h2⟩ := stripZeros_digits (natDigits (shortestFrom x (decExp x) 17 1).fst.m) (natDigits_digits _)
  obtain ⟨c, r, e, hc, hr, hl⟩ := layout_shape pyNumCont_ok 16 d0 _ _ h1 h2
  rw [e, pyNumShape_cons, hc, pyNumContAll_eq, hr, hl]
  rfl

theorem pyNumShape_reprFloat (x : Rat) (hx : ¬ x < 0) : pyNumShape (reprFloat x) = true := by
  unfold reprFloat
  by_cases h0 : x = 0
  · simp only [h0, if_true]; decide
  · simp only [h0, hx, if_false]; exact reprPos_shape true x

theorem pyNumShape_reprPart (x : Rat) (hx : ¬ x < 0) : pyNumShape (reprPart x) = true := by
  unfold reprPart
  by_cases h0 : x = 0
  · simp only [h0, if_true]; decide
  · simp only [h0, hx, if_false]; exact reprPos_shape false x

theorem pyNumShape_digits (cs : List Char) (hne : cs ≠ []) (h : ∀ c ∈ cs, c.isDigit = true) : pyNumShape cs = true := by
  cases cs with
  | nil => exact absurd rfl hne
  | cons c r =>
    obtain ⟨hc, hr, hl⟩ := digits_shape pyNumCont_ok h
    rw [pyNumShape_cons, hc, pyNumContAll_eq, hr, hl]
    rfl

theorem pyNumShape_fmtInt (v : Int) (hv : ¬ v < 0) : pyNumShape (fmtInt v) = true := by
  rw [fmtInt, if_neg hv]
  exact pyNumShape_digits _ (natDigits_ne _) (natDigits_digits _)

theorem pyNumContAll_snoc (last : Char) (cs : List Char) (h : pyNumContAll last cs = true) :
    pyNumContAll last (cs ++ ['j']) = true := by
  induction cs generalizing last with
  | nil => rfl
  | cons c cs ih =>
    have h := Bool.and_eq_true_iff.1 h
    exact Bool.and_eq_true_iff.2 ⟨h.1, ih c h.2⟩

theorem pyNumShape_j (cs : List Char) (h : pyNumShape cs = true) : pyNumShape (cs ++ ['j']) = true := by
  cases cs with
  | nil => simp [pyNumShape] at h
  | cons c r =>
    rw [pyNumShape_cons, Bool.and_eq_true, Bool.and_eq_true] at h
    rw [List.cons_append, pyNumShape_cons, h.1.1, pyNumContAll_snoc c r h.1.2, lastOf_append_cons c r 'j' []]
    rfl

/-- the literal-shape conjunct of `wfPy` is a representation invariant only: it holds for every
    literal whose imaginary part is 0 unless it is complex -/
theorem pyLitShapeOK_eq (e : Expr) : pyLitShapeOK e = (match e with
    | .litF _ im c => c || decide (im = 0)
    | _ => true) := by
  cases e with
  | litF re im c =>
    have h1 := pyNumShape_reprFloat (absR re) (abs_nn re)
    have h2 := pyNumShape_reprPart (absR re) (abs_nn re)
    have h3 := pyNumShape_j _ (pyNumShape_reprPart (absR im) (abs_nn im))
    cases c <;> simp [pyLitShapeOK, h1, h2, h3]
  | litI v =>
    simp only [pyLitShapeOK, pyNumShape_fmtInt _ (absInt_nn v)]
  | _ => simp [pyLitShapeOK]

theorem pyNumShape_head {cs : List Char} (h : pyNumShape cs = true) : ∃ c r, cs = c :: r ∧ c ≠ '-' := by
  cases cs with
  | nil => simp [pyNumShape] at h
  | cons c r =>
    refine ⟨c, r, rfl, ?_⟩
    simp only [pyNumShape, Bool.and_eq_true] at h
    intro hc
    subst hc
    exact absurd h.1.1 (by decide)

theorem reprPart_neg {x : Rat} (hx : x < 0) : reprPart x = '-' :: reprPos false (-x) := by
  have h0 : x ≠ 0 := by grind
  simp [reprPart, h0, hx]

theorem reprPart_pos {x : Rat} (hx : 0 < x) : reprPart x = reprPos false x := by
  have h0 : x ≠ 0 := by grind
  have h1 : ¬ x < 0 := by grind
  simp [reprPart, h0, h1]

/-- operator token of the numba formatter: `and` / `or` are keywords -/
def pyOpTok : BinOp → Tok
  | .and => .id "and"
  | .or => .id "or"
  | op => .p (opTok op)

theorem pyOpPieces_eq (op : BinOp) : pyOpPieces op = [.t (pyOpTok op)] := by cases op <;> rfl

/-- the numba formatter's parenthesisation of an operand of a binary operator -/
def pyParen (op : BinOp) (a : Expr) : Bool :=
  decide (precF a ≥ op.prec) || (op.isCompare && isCmpNode a)

end Ffcx.LNodes.Fmt
