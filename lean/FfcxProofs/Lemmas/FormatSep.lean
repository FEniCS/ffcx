/-
C16 — no token fusion for C expressions: the token classes at the two ends of an expression text
(`isFirst`, `isLast`) and which tokens may directly follow which (`sepTok_start`, `sepTok_last`).
-/
import FfcxProofs.Lemmas.FormatLex
namespace Ffcx.LNodes.Fmt

/-- the tokens an expression text may begin with -/
def isFirst (t : Tok) : Bool :=
  tokOK t && (match t with
    | .num _ | .id _ | .p .minus | .p .bang | .p .lpar => true
    | _ => false)

/-- the tokens an expression text may end with -/
def isLast (t : Tok) : Bool :=
  tokOK t && (match t with
    | .num _ | .id _ | .p .rpar | .p .rbrack => true
    | _ => false)

theorem sepTok_start {x y : Tok} (hx : stTok x = .start) (hy : tokOK y = true) : sepTok x y = true := by
  obtain ⟨c, cs, h⟩ := cReads.text_ne hy
  simp only [sepTok, h, hx, sepChar]

theorem stTok_rpar : stTok (.p .rpar) = .start := by decide +kernel
theorem stTok_rbrack : stTok (.p .rbrack) = .start := by decide +kernel

theorem digit_not_exp {c : Char} (h : c.isDigit = true) : isExpChar c = false := by
  refine Bool.eq_false_iff.2 fun he => ?_
  simp only [isExpChar, Bool.or_eq_true, beq_iff_eq] at he
  rcases he with ((rfl | rfl) | rfl) | rfl <;> exact absurd h (by decide)

theorem stTok_num {s : String} (h : tokOK (.num s) = true) :
    ∃ acc, stTok (.num s) = .num acc ∧ (acc.headD '0').isDigit = true := by
  obtain ⟨c, cs, e, _, _, hl⟩ := tokOK_num h
  exact ⟨s.toList.reverse, (stTok_eq _).trans (congrArg Prod.snd (feed_numTok h)),
    e ▸ lastOf_eq_headD c cs '0' ▸ hl⟩

theorem stTok_id {s : String} (h : tokOK (.id s) = true) : ∃ acc, stTok (.id s) = .ident acc :=
  ⟨s.toList.reverse, (stTok_eq _).trans (congrArg Prod.snd (feed_id h))⟩

/-- after the last token of an expression text nothing is pending, or an identifier, or a number
    whose last character is a digit: every character that is no identifier character and not `.`
    ends it -/
theorem sepTok_last {x y : Tok} (hx : isLast x = true) {c cs} (hy : y.text = c :: cs)
    (hc : (isIdChar c || c == '.') = false) : sepTok x y = true := by
  simp only [sepTok, hy]
  obtain ⟨hid, hdot⟩ := Bool.or_eq_false_iff.1 hc
  simp only [isLast, Bool.and_eq_true] at hx
  obtain ⟨hok, h2⟩ := hx
  split at h2
  · obtain ⟨acc, h1, hd⟩ := stTok_num hok
    simp only [isIdChar] at hid
    simp only [h1, sepChar, numCont, hid, hdot, digit_not_exp hd, Bool.and_false, Bool.or_false,
      Bool.not_false]
  · obtain ⟨acc, h1⟩ := stTok_id hok
    simp only [h1, sepChar, hid, Bool.not_false]
  · rw [stTok_rpar]; rfl
  · rw [stTok_rbrack]; rfl
  · cases h2

/-! Not used by the rest of the development; kept for their own sake. -/

/-- the tokens an expression text may begin with, prefix operators apart -/
def isFirstNM (t : Tok) : Bool :=
  tokOK t && (match t with
    | .num _ | .id _ | .p .lpar => true
    | _ => false)

theorem isFirstNM_isFirst {t} (h : isFirstNM t = true) : isFirst t = true := by
  simp only [isFirstNM, Bool.and_eq_true] at h
  simp only [isFirst, Bool.and_eq_true]
  refine ⟨h.1, ?_⟩
  have h2 := h.2
  split at h2
  · rfl
  · rfl
  · rfl
  · cases h2

theorem stTok_comma : stTok (.p .comma) = .start := by decide +kernel

end Ffcx.LNodes.Fmt
