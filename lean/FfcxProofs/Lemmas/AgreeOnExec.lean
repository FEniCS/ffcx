/-
Frame lemma for reads: a statement depends only on the names it reads.

A name denotes up to four things in a state (integer variable, scalar variable, integer array,
scalar array); a `ForRange` binds only the integer variable, and sets it before the body runs, so the
statement does not depend on the incoming value of its index.  `AgreeOnQ P Q` is agreement of the
integer variables on `P` and of the three other components on `Q`; a statement needs `P ⊇` its free
names and `Q ⊇` its mentioned names (`exec_agreeOnQ`).  So two states that differ in the value of `i`
run a loop over `i` alike, which the name-level lemma `exec_agreeOn` (the case `P = Q ⊇` the names
mentioned, the index among them) cannot say.
-/
import FfcxProofs.Lemmas.AgreeOn
import FfcxProofs.Lemmas.ExecSim
import FfcxModel.LNodes.Free

namespace Ffcx.LNodes
variable {R : Type} {P Q : String → Prop}

mutual
theorem mentions_of_free (n : String) : ∀ (s : Stmt), freeS n s = true → mentionsS n s = true
  | .assign .., h | .addAssign .., h | .vdecl .., h | .adecl .., h => by
    simpa [freeS, mentionsS] using h
  | .forRange i lo hi body, h => by
    simp only [freeS, Bool.or_eq_true, Bool.and_eq_true] at h
    simp only [mentionsS, Bool.or_eq_true]
    rcases h with (h | h) | h
    · exact Or.inl (Or.inl (Or.inr h))
    · exact Or.inl (Or.inr h)
    · exact Or.inr (mentionsL_of_free n body h.2)
  | .comment _, h => by simp [freeS] at h
  | .block ss, h => by
    simp only [freeS] at h; simp only [mentionsS]; exact mentionsL_of_free n ss h
  | .sect _ decls stmts _ _ _, h => by
    simp only [freeS, Bool.or_eq_true] at h
    simp only [mentionsS, Bool.or_eq_true]
    rcases h with h | h
    · exact Or.inl (mentionsL_of_free n decls h)
    · exact Or.inr (mentionsL_of_free n stmts h)

theorem mentionsL_of_free (n : String) : ∀ (ss : List Stmt), freeSL n ss = true → mentionsSL n ss = true
  | [], h => by simp [freeSL] at h
  | s :: ss, h => by
    simp only [freeSL, Bool.or_eq_true] at h
    simp only [mentionsSL, Bool.or_eq_true]
    rcases h with h | h
    · exact Or.inl (mentions_of_free n s h)
    · exact Or.inr (mentionsL_of_free n ss h)
end

structure AgreeOnQ (P Q : String → Prop) (σ τ : St R) : Prop where
  iv : ∀ n, P n → σ.iv.get n = τ.iv.get n
  sv : ∀ n, Q n → σ.sv.get n = τ.sv.get n
  ia : ∀ n, Q n → σ.ia.get n = τ.ia.get n
  sa : ∀ n, Q n → σ.sa.get n = τ.sa.get n

theorem AgreeOn.toQ {σ τ : St R} (h : AgreeOn P σ τ) : AgreeOnQ P P σ τ :=
  ⟨h.iv, h.sv, h.ia, h.sa⟩

theorem AgreeOnQ.ofSame {σ τ : St R} (h : AgreeOnQ P P σ τ) : AgreeOn P σ τ :=
  ⟨h.iv, h.sv, h.ia, h.sa⟩

theorem AgreeOnQ.mono {P' Q' : String → Prop} {σ τ : St R} (h : AgreeOnQ P Q σ τ)
    (hp : ∀ n, P' n → P n) (hq : ∀ n, Q' n → Q n) : AgreeOnQ P' Q' σ τ :=
  ⟨fun n hn => h.iv n (hp n hn), fun n hn => h.sv n (hq n hn), fun n hn => h.ia n (hq n hn),
   fun n hn => h.sa n (hq n hn)⟩

theorem AgreeOnQ.toAgreeOn {σ τ : St R} (h : AgreeOnQ P Q σ τ) :
    AgreeOn (fun n => P n ∧ Q n) σ τ :=
  (h.mono (fun _ hn => hn.1) fun _ hn => hn.2).ofSame

theorem AgreeOnQ.refl (σ : St R) : AgreeOnQ P Q σ σ :=
  ⟨fun _ _ => rfl, fun _ _ => rfl, fun _ _ => rfl, fun _ _ => rfl⟩

theorem AgreeOnQ.symm {σ τ : St R} (h : AgreeOnQ P Q σ τ) : AgreeOnQ P Q τ σ :=
  ⟨fun n hn => (h.iv n hn).symm, fun n hn => (h.sv n hn).symm, fun n hn => (h.ia n hn).symm,
   fun n hn => (h.sa n hn).symm⟩

theorem AgreeOnQ.trans {a b c : St R} (h1 : AgreeOnQ P Q a b) (h2 : AgreeOnQ P Q b c) :
    AgreeOnQ P Q a c :=
  ⟨fun n hn => (h1.iv n hn).trans (h2.iv n hn), fun n hn => (h1.sv n hn).trans (h2.sv n hn),
   fun n hn => (h1.ia n hn).trans (h2.ia n hn), fun n hn => (h1.sa n hn).trans (h2.sa n hn)⟩

theorem AgreeOn.symm {σ τ : St R} (h : AgreeOn P σ τ) : AgreeOn P τ σ := h.toQ.symm.ofSame

theorem AgreeOn.trans {a b c : St R} (h1 : AgreeOn P a b) (h2 : AgreeOn P b c) : AgreeOn P a c :=
  (h1.toQ.trans h2.toQ).ofSame

theorem AgreeOnQ.union {P' Q' : String → Prop} {σ τ : St R} (h : AgreeOnQ P Q σ τ)
    (h' : AgreeOnQ P' Q' σ τ) : AgreeOnQ (fun n => P n ∨ P' n) (fun n => Q n ∨ Q' n) σ τ :=
  ⟨fun n hn => hn.elim (h.iv n) (h'.iv n), fun n hn => hn.elim (h.sv n) (h'.sv n),
   fun n hn => hn.elim (h.ia n) (h'.ia n), fun n hn => hn.elim (h.sa n) (h'.sa n)⟩

theorem AgreeOnQ.setIV_bind {σ τ : St R} (h : AgreeOnQ P Q σ τ) (i : String) (v : Int) :
    AgreeOnQ (fun m => P m ∨ m = i) Q (σ.setIV i v) (τ.setIV i v) := by
  refine ⟨?_, h.sv, h.ia, h.sa⟩
  intro m hm
  simp only [St.setIV, AList.get_set]
  split
  · rfl
  · rename_i hne
    rcases hm with hm | hm
    · exact h.iv m hm
    · exact absurd hm.symm hne

theorem AgreeOnQ.setIV {σ τ : St R} (h : AgreeOnQ P Q σ τ) (n : String) (v : Int) :
    AgreeOnQ P Q (σ.setIV n v) (τ.setIV n v) :=
  (h.setIV_bind n v).mono (fun _ => .inl) fun _ h => h

theorem AgreeOnQ.setIV_right {σ τ : St R} (h : AgreeOnQ P Q σ τ) (i : String) (v : Int)
    (hi : ¬ P i) : AgreeOnQ P Q σ (τ.setIV i v) := by
  refine ⟨fun m hm => ?_, h.sv, h.ia, h.sa⟩
  simp only [St.setIV]
  rw [AList.get_set_ne _ _ _ _ (fun (e : i = m) => hi (e ▸ hm))]
  exact h.iv m hm

theorem AgreeOnQ.setSA_right {σ τ : St R} (h : AgreeOnQ P Q σ τ) (n : String) (a : Arr R)
    (hn : ¬ Q n) : AgreeOnQ P Q σ (τ.setSA n a) := by
  refine ⟨h.iv, h.sv, h.ia, fun m hm => ?_⟩
  simp only [St.setSA]
  rw [AList.get_set_ne _ _ _ _ (fun (e : n = m) => hn (e ▸ hm))]
  exact h.sa m hm

theorem AgreeOnQ.agreeOn_setIV {M : String → Prop} {σ τ : St R} (h : AgreeOnQ P Q σ τ) (o : String)
    (v : Int) (hp : ∀ m, M m → m ≠ o → P m) (hq : ∀ m, M m → Q m) :
    AgreeOn M (σ.setIV o v) (τ.setIV o v) :=
  ((h.setIV_bind o v).mono (fun m hm => if e : m = o then .inr e else .inl (hp m hm e)) hq).ofSame

theorem AgreeOnQ.setSV {σ τ : St R} (h : AgreeOnQ P Q σ τ) (n : String) (v : R) :
    AgreeOnQ P Q (σ.setSV n v) (τ.setSV n v) :=
  ⟨h.iv, fun m hm => AList.get_set_congr (h.sv m hm) n v, h.ia, h.sa⟩

theorem AgreeOnQ.setSA {σ τ : St R} (h : AgreeOnQ P Q σ τ) (n : String) (a : Arr R) :
    AgreeOnQ P Q (σ.setSA n a) (τ.setSA n a) :=
  ⟨h.iv, h.sv, h.ia, fun m hm => AList.get_set_congr (h.sa m hm) n a⟩

/-- `OutRel Eq Q`, under the name in which `exec_depends_on_free_names` (C17Opt) is stated -/
def RelResP (Q : St R → St R → Prop) : Except Err (St R) → Except Err (St R) → Prop
  | .ok a, .ok b => Q a b
  | .error e, .error e' => e = e'
  | _, _ => False

theorem relResP_iff {Q : St R → St R → Prop} {a b : Except Err (St R)} : RelResP Q a b ↔ OutRel Eq Q a b := by
  cases a <;> cases b <;> exact Iff.rfl

variable [Add R] [Sub R] [Mul R] [Div R] [Neg R] [IntCast R] (x : Extra R)

omit [Add R] [Sub R] [Mul R] [Div R] [Neg R] in
theorem store_agreeOnQ {σ τ : St R} (h : AgreeOnQ P Q σ τ) (l : Expr)
    (hp : ∀ n, mentionsE n l = true → P n ∧ Q n) (f : R → R) :
    OutRel Eq (AgreeOnQ P Q) (store x σ l f) (store x τ l f) :=
  store_rel x l f
    (fun n _ e => ⟨h.sv n (forall_beq_true.mp (e ▸ hp)).2, h.setSV n⟩)
    (fun arr _ ix e => by
      subst e
      have ⟨harr, hix⟩ := forall_or_true.mp hp
      exact ⟨resolve_agreeOn h.toAgreeOn arr ix (forall_beq_true.mp harr) hix, h.setSA arr⟩)

mutual
theorem exec_agreeOnQ : ∀ (s : Stmt) (P : String → Prop) (σ τ : St R),
    (∀ n, freeS n s = true → P n) → (∀ n, mentionsS n s = true → Q n) →
    AgreeOnQ P Q σ τ → OutRel Eq (AgreeOnQ P Q) (exec x s σ) (exec x s τ)
  | .assign l r | .addAssign l r => fun P σ τ hp hq h => by
    have ⟨hpl, hpr⟩ := forall_or_true.mp hp
    have ⟨hql, hqr⟩ := forall_or_true.mp hq
    have hr : ∀ n, mentionsE n r = true → P n ∧ Q n := fun n hn => ⟨hpr n hn, hqr n hn⟩
    simp only [exec, safeE_agreeOn h.toAgreeOn r hr, eval_agreeOn x h.toAgreeOn r hr]
    exact .ite _ (store_agreeOnQ x h l (fun n hn => ⟨hpl n hn, hql n hn⟩) _) rfl
  | .vdecl n dt v => fun P σ τ hp hq h => by
    have hv : ∀ m, mentionsE m v = true → P m ∧ Q m := fun m hm =>
      ⟨(forall_or_true.mp hp).2 m hm, (forall_or_true.mp hq).2 m hm⟩
    have h' := h.toAgreeOn
    refine vdecl_rel x x n dt v (evalI_agreeOn h' v hv) (safeE_agreeOn h' v hv) (h.setIV n) ?_
    rw [eval_agreeOn x h' v hv, evalB_agreeOn x h' v hv]
    exact h.setSV n _
  | .adecl n dt sizes c vals => fun P σ τ hp hq h =>
    adecl_rel x n dt sizes c vals (evalL_agreeOn x h.toAgreeOn _ fun m hm =>
      ⟨(forall_or_true.mp hp).2 m hm, (forall_or_true.mp hq).2 m hm⟩) (h.setSA n)
  | .forRange i lo hi body => fun P σ τ hp hq h => by
    have ⟨hp', hpb⟩ := forall_or_true.mp hp
    have ⟨hplo, hphi⟩ := forall_or_true.mp hp'
    have ⟨hq', hqb⟩ := forall_or_true.mp hq
    have ⟨hq'', hqhi⟩ := forall_or_true.mp hq'
    have h' := h.toAgreeOn
    simp only [exec, evalI_agreeOn h' lo fun m hm => ⟨hplo m hm, (forall_or_true.mp hq'').2 m hm⟩,
      evalI_agreeOn h' hi fun m hm => ⟨hphi m hm, hqhi m hm⟩]
    generalize evalI τ.iv τ.ia lo = l
    generalize evalI τ.iv τ.ia hi = u
    obtain _ | l := l
    · rfl
    obtain _ | u := u
    · rfl
    -- the body may read the index: both sides have just bound it
    refine loopN_lockstep i _ (fun _ => AgreeOnQ P Q) _ σ τ h fun _ σ τ _ h =>
      (execL_agreeOnQ body _ _ _ (fun m hm => ?_) hqb (h.setIV_bind i _)).mono
        fun _ _ h => h.mono (fun _ => .inl) fun _ h => h
    -- `freeS m (.forRange i lo hi body) = … || (i != m && freeSL m body)`: free in the body and not the index
    exact if e : m = i then .inr e else .inl (hpb m (by simp [hm, Ne.symm e]))
  | .comment _ => fun P σ τ _ _ h => by simp only [exec]; exact h
  | .block ss => fun P σ τ hp hq h => by simpa only [exec] using execL_agreeOnQ ss P σ τ hp hq h
  | .sect _ decls stmts _ _ _ => fun P σ τ hp hq h => by
    have ⟨hdp, hsp⟩ := forall_or_true.mp hp
    have ⟨hdq, hsq⟩ := forall_or_true.mp hq
    rw [exec_sect_eq_bind, exec_sect_eq_bind]
    exact (execL_agreeOnQ decls P σ τ hdp hdq h).bind fun a b hab =>
      execL_agreeOnQ stmts P a b hsp hsq hab

theorem execL_agreeOnQ : ∀ (ss : List Stmt) (P : String → Prop) (σ τ : St R),
    (∀ n, freeSL n ss = true → P n) → (∀ n, mentionsSL n ss = true → Q n) →
    AgreeOnQ P Q σ τ → OutRel Eq (AgreeOnQ P Q) (execL x ss σ) (execL x ss τ)
  | [] => fun P σ τ _ _ h => by simp only [execL]; exact h
  | s :: ss => fun P σ τ hp hq h => by
    have ⟨h1p, h2p⟩ := forall_or_true.mp hp
    have ⟨h1q, h2q⟩ := forall_or_true.mp hq
    rw [execL_cons_bind, execL_cons_bind]
    exact (exec_agreeOnQ s P σ τ h1p h1q h).bind fun a b hab => execL_agreeOnQ ss P a b h2p h2q hab
end

theorem exec_agreeOn (s : Stmt) (σ τ : St R) (hp : ∀ n, mentionsS n s = true → P n)
    (h : AgreeOn P σ τ) : OutRel Eq (AgreeOn P) (exec x s σ) (exec x s τ) :=
  (exec_agreeOnQ x s P σ τ (fun n hn => hp n (mentions_of_free n s hn)) hp h.toQ).mono
    fun _ _ => AgreeOnQ.ofSame

theorem execL_agreeOn (ss : List Stmt) (σ τ : St R) (hp : ∀ n, mentionsSL n ss = true → P n)
    (h : AgreeOn P σ τ) : OutRel Eq (AgreeOn P) (execL x ss σ) (execL x ss τ) :=
  (execL_agreeOnQ x ss P σ τ (fun n hn => hp n (mentionsL_of_free n ss hn)) hp h.toQ).mono
    fun _ _ => AgreeOnQ.ofSame

end Ffcx.LNodes
