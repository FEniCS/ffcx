/-
C16 — numba: the erasure does not see the normal form on trees without complex literals
(`erasePy_norm`).
-/
import FfcxProofs.Lemmas.FormatEval
import FfcxModel.LNodes.ParsePy
namespace Ffcx.LNodes.Fmt

/-- The proof of `eraseReal_normReal` (FormatNorm.lean) word for word: the model has `erasePyReal`
    (ParsePy.lean) beside `eraseReal` (ParseC.lean) with the same body, under `erasePy` and `eraseC`.
    Likewise `leftNest_erasePy` below and `leftNest_erase`. -/
theorem erasePyReal_normReal (re im : Rat) : erasePy (normReal re im) = erasePyReal re := by
  unfold normReal erasePyReal
  by_cases h : re < 0
  · rw [if_pos h, if_pos h]
    exact congrArg (PT.un .neg) (if_neg (Rat.not_lt.2 (Rat.le_of_lt (Rat.neg_lt_neg h))))
  · rw [if_neg h, if_neg h]
    exact if_neg h

theorem leftNest_erasePy (op : BinOp) {u : Int} {s : String} (hu : erasePy (.litI u) = .num s) :
    ∀ l : List Expr, erasePy (leftNest op u l) = leftNestPT op s (eraseLPy l)
  | [] => hu
  | a :: as => foldl_bin_hom erasePy eraseLPy rfl (fun _ _ => rfl) op _ (fun _ _ => rfl) as a

/-- By functional induction on `norm`; the nodes of `norm` and `erasePy` unfold by computation. -/
theorem erasePy_norm_all :
    (∀ e : Expr, noComplex e = true → erasePy (norm e) = erasePy e)
    ∧ (∀ l : List Expr, noComplexL l = true → eraseLPy (normL l) = eraseLPy l) := by
  apply norm.mutual_induct
  -- cases as `norm`'s clauses: litF complex, litF real, litI `v < 0`, litI otherwise, sym, mi, neg, not, bin,
  -- sum, prod, call, idx, cond; then `normL`: nil, cons
  · intro re im h
    cases h
  · intro re im _
    exact erasePyReal_normReal re im
  · intro v h _
    rw [norm_litI, if_pos h]
    exact (congrArg (PT.un .neg) (if_neg (Int.not_lt.2 (Int.neg_nonneg_of_nonpos (Int.le_of_lt h))))).trans
      (if_pos h).symm
  · intro v h _
    rw [norm_litI, if_neg h]
  · intro n dt _
    rfl
  · intro _ _ gi ih h
    exact ih h
  · intro a ih h
    exact congrArg (PT.un .neg) (ih h)
  · intro a ih h
    exact congrArg (PT.un .not) (ih h)
  · intro op a b iha ihb h
    have h := Bool.and_eq_true_iff.1 h
    show PT.bin op _ _ = .bin op _ _
    rw [iha h.1, ihb h.2]
  · intro args ih h
    exact (leftNest_erasePy .add rfl _).trans (congrArg (leftNestPT .add "0") (ih h))
  · intro args ih h
    exact (leftNest_erasePy .mul rfl _).trans (congrArg (leftNestPT .mul "1") (ih h))
  · intro f dt args ih h
    show erasePy (.call f dt (normL args)) = _
    unfold erasePy
    rw [ih h]
  · intro arr dt ix ih h
    exact congrArg (PT.idx (.id arr)) (ih h)
  · intro c t f ihc iht ihf h
    have h := Bool.and_eq_true_iff.1 h
    have h1 := Bool.and_eq_true_iff.1 h.1
    show PT.cond _ _ _ = .cond _ _ _
    rw [ihc h1.1, iht h1.2, ihf h.2]
  · intro _
    rfl
  · intro a as iha ihas h
    have h := Bool.and_eq_true_iff.1 h
    show _ :: _ = _ :: _
    rw [iha h.1, ihas h.2]

theorem erasePy_norm : ∀ e : Expr, noComplex e = true → erasePy (norm e) = erasePy e :=
  erasePy_norm_all.1
theorem eraseLPy_norm : ∀ l : List Expr, noComplexL l = true → eraseLPy (normL l) = eraseLPy l :=
  erasePy_norm_all.2

end Ffcx.LNodes.Fmt
