/-
C16 — the C lexer on rendered pieces: if every token piece is a well-shaped token and no two
adjacent token pieces fuse (`separated`, a decidable local condition), then lexing the rendered
text gives back exactly the token pieces (`lex_render`).
-/
import FfcxProofs.Lemmas.FormatShape
import FfcxProofs.Lemmas.LexGen
namespace Ffcx.LNodes.Fmt

theorem alpha_toNat {c : Char} (h : c.isAlpha = true) : 65 ≤ c.toNat := by
  simp only [Char.isAlpha, Char.isUpper, Char.isLower, Bool.or_eq_true, Bool.and_eq_true,
    decide_eq_true_eq, ge_iff_le, UInt32.le_iff_toNat_le] at h
  have hA : 'A'.val.toNat = 65 := rfl
  have ha : 'a'.val.toNat = 97 := rfl
  show 65 ≤ c.val.toNat
  omega

theorem alphanum_toNat {c : Char} (h : c.isAlphanum = true) : 48 ≤ c.toNat := by
  simp only [Char.isAlphanum, Bool.or_eq_true] at h
  rcases h with h | h
  · exact Nat.le_trans (by decide) (alpha_toNat h)
  · exact (Char.isDigit_iff_toNat.1 h).1

theorem beq_of_toNat_ne {c d : Char} (h : c.toNat ≠ d.toNat) : (c == d) = false :=
  beq_eq_false_iff_ne.2 fun e => h (e ▸ rfl)

theorem space_toNat {c : Char} (h : isSpace c = true) : c.toNat ≤ 32 := by
  simp only [isSpace, Bool.or_eq_true, beq_iff_eq] at h
  rcases h with ((rfl | rfl) | rfl) | rfl <;> decide

theorem idStart_toNat {c : Char} (h : isIdStart c = true) : 65 ≤ c.toNat := by
  simp only [isIdStart, Bool.or_eq_true, beq_iff_eq] at h
  rcases h with h | rfl
  · exact alpha_toNat h
  · decide

theorem digit_not_idStart {c : Char} (h : c.isDigit = true) : isIdStart c = false :=
  Bool.eq_false_iff.2 fun hs =>
    Nat.not_le.2 (Nat.lt_of_le_of_lt (Char.isDigit_iff_toNat.1 h).2 (by decide)) (idStart_toNat hs)

theorem not_space {c : Char} (h : 48 ≤ c.toNat) : isSpace c = false :=
  Bool.eq_false_iff.2 fun hs => Nat.not_le.2 (Nat.lt_of_lt_of_le (by decide) h) (space_toNat hs)

theorem transStart_idStart {c : Char} (h : isIdStart c = true) : transStart c = ([], .ident [c]) := by
  simp only [transStart, not_space (Nat.le_trans (by decide) (idStart_toNat h)), h, if_true,
    Bool.false_eq_true, if_false]

theorem transStart_digit {c : Char} (h : c.isDigit = true) : transStart c = ([], .num [c]) := by
  simp only [transStart, not_space (Char.isDigit_iff_toNat.1 h).1, digit_not_idStart h, h, if_true,
    Bool.false_eq_true, if_false]

theorem transStart_space {c : Char} (h : isSpace c = true) : transStart c = ([], .start) := by
  simp only [transStart, h, if_true]

/-- the C lexer as a `Lexer`. `feed_eq` and `lexC_eq` lead from the model's own `feed` and `lexC` to
    it; the lemmas of this file are stated through it. -/
def cLexer : Lexer LS := ⟨.start, trans, flush⟩

theorem cLexer_step : cLexer.step = trans := rfl

theorem feed_eq (st : LS) (cs : List Char) : feed st cs = cLexer.feed st cs := by
  induction cs generalizing st with
  | nil => rfl
  | cons c cs ih =>
    show ((trans st c).1 ++ (feed (trans st c).2 cs).1, (feed (trans st c).2 cs).2) = _
    rw [ih]; rfl

theorem lexC_eq (cs : List Char) : lexC cs = cLexer.run .start cs := by
  rw [Lexer.run, ← feed_eq]; rfl

/-- `cLexer.after` as the model's `feed` gives it (`stTok_eq`); `sepTok` is written with it -/
def stTok (t : Tok) : LS := (feed .start t.text).2

theorem stTok_eq (t : Tok) : stTok t = cLexer.after t := congrArg Prod.snd (feed_eq _ _)

/-- the next character `c` does not extend the token pending in state `st` -/
def sepChar : LS → Char → Bool
  | .start, _ => true
  | .ident _, c => !isIdChar c
  | .num acc, c => !numCont (acc.headD '0') c
  | .pend p, c => !(p == '/' && c == '/') && !(p == '.' && c.isDigit) && (pend2 p c).isNone
  | .comment, _ => false

theorem trans_sep {st : LS} {c : Char} (h : sepChar st c = true) : cLexer.Ends st c := by
  show trans st c = (flush st ++ (transStart c).1, (transStart c).2)
  cases st with
  | start => rfl
  | ident acc | num acc =>
    simp only [sepChar, Bool.not_eq_true'] at h
    simp only [trans, flush, h, Bool.false_eq_true, if_false, List.singleton_append]
  | pend p =>
    simp only [sepChar, Bool.and_eq_true, Bool.not_eq_true', Option.isNone_iff_eq_none] at h
    simp only [trans, flush, h.1.1, h.1.2, h.2, Bool.false_eq_true, if_false, List.singleton_append]
  | comment => cases h

theorem low_char {c : Char} (h : c.toNat < 38) :
    c.isDigit = false ∧ c.isAlphanum = false ∧ ∀ d : Char, 38 ≤ d.toNat → (c == d) = false :=
  ⟨Bool.eq_false_iff.2 fun hd => Nat.not_le.2 (Nat.lt_trans h (by decide)) (Char.isDigit_iff_toNat.1 hd).1,
   Bool.eq_false_iff.2 fun hd => Nat.not_le.2 (Nat.lt_trans h (by decide)) (alphanum_toNat hd),
   fun _ hd => beq_of_toNat_ne (Nat.ne_of_lt (Nat.lt_of_lt_of_le h hd))⟩

/-- characters below `&` (white space in particular) continue no token -/
theorem sepChar_low {st : LS} (hst : st ≠ .comment) {c : Char} (h : c.toNat < 38) :
    sepChar st c = true := by
  obtain ⟨hdig, hal, ne⟩ := low_char h
  cases st with
  | start => rfl
  | ident acc => simp only [sepChar, isIdChar, hal, ne '_' (by decide), Bool.or_false, Bool.not_false]
  | num acc =>
    simp only [sepChar, numCont, hal, ne '_' (by decide), ne '.' (by decide), ne '+' (by decide),
      ne '-' (by decide), Bool.or_false, Bool.false_and, Bool.not_false]
  | pend p =>
    simp only [sepChar, pend2, hdig, ne '/' (by decide), ne '-' (by decide), ne '=' (by decide),
      ne '>' (by decide), ne '+' (by decide), ne '&' (by decide), ne '|' (by decide), Bool.and_false,
      Bool.false_eq_true, if_false, Bool.not_false, Option.isNone_none, Bool.and_self]
  | comment => exact absurd rfl hst

theorem feed_spaces {s : List Char} (hs : s.all isSpace = true) : cLexer.feed .start s = ([], .start) := by
  induction s with
  | nil => rfl
  | cons c s ih =>
    simp only [List.all_cons, Bool.and_eq_true] at hs
    rw [Lexer.feed_cons, cLexer_step]
    simp only [trans, transStart_space hs.1, ih hs.2, List.nil_append]

theorem feed_ident (cs acc : List Char) (h : cs.all isIdChar = true) :
    cLexer.feed (.ident acc) cs = ([], .ident (cs.reverse ++ acc)) := by
  induction cs generalizing acc with
  | nil => rfl
  | cons c cs ih =>
    simp only [List.all_cons, Bool.and_eq_true] at h
    simp only [Lexer.feed_cons, cLexer_step, trans, h.1, if_true, ih _ h.2, List.nil_append,
      List.reverse_cons, List.append_assoc, List.singleton_append]

theorem feed_num (cs acc : List Char) (h : numContAll (acc.headD '0') cs = true) :
    cLexer.feed (.num acc) cs = ([], .num (cs.reverse ++ acc)) := by
  induction cs generalizing acc with
  | nil => rfl
  | cons c cs ih =>
    simp only [numContAll, Bool.and_eq_true] at h
    simp only [Lexer.feed_cons, cLexer_step, trans, h.1, if_true, ih (c :: acc) h.2, List.nil_append,
      List.reverse_cons, List.append_assoc, List.singleton_append]

/-- a token piece is well-shaped: an identifier is an identifier, a number text is one pp-number
    ending in a digit, a punctuator is a punctuator (no `bad`, no Python line structure) -/
def tokOK : Tok → Bool
  | .id s => match s.toList with
    | [] => false
    | c :: cs => isIdStart c && cs.all isIdChar
  | .num s => numShape s.toList
  | .p _ => true
  | _ => false

/-- serves `pyTokOK (.id s)` as well: the `.id` branches of `tokOK` and `pyTokOK` are the same term -/
theorem tokOK_id {s : String} (h : tokOK (.id s) = true) :
    ∃ c cs, s.toList = c :: cs ∧ isIdStart c = true ∧ cs.all isIdChar = true := by
  simp only [tokOK] at h
  split at h
  · cases h
  · next c cs e => exact ⟨c, cs, e, Bool.and_eq_true_iff.1 h⟩

theorem tokOK_num {s : String} (h : tokOK (.num s) = true) :
    ∃ c cs, s.toList = c :: cs ∧ c.isDigit = true ∧ numContAll c cs = true ∧ (lastOf c cs).isDigit = true := by
  simp only [tokOK] at h
  cases e : s.toList with
  | nil => rw [e] at h; cases h
  | cons c cs =>
    rw [e, numShape_cons, Bool.and_eq_true, Bool.and_eq_true] at h
    exact ⟨c, cs, rfl, h.1.1, h.1.2, h.2⟩

theorem feed_id {s : String} (h : tokOK (.id s) = true) :
    cLexer.feed .start s.toList = ([], .ident s.toList.reverse) := by
  obtain ⟨c, cs, e, hc, hcs⟩ := tokOK_id h
  simp only [e, Lexer.feed_cons, cLexer_step, trans, transStart_idStart hc, feed_ident cs [c] hcs,
    List.nil_append, List.reverse_cons]

theorem feed_numTok {s : String} (h : tokOK (.num s) = true) :
    cLexer.feed .start s.toList = ([], .num s.toList.reverse) := by
  obtain ⟨c, cs, e, hc, hcs, _⟩ := tokOK_num h
  simp only [e, Lexer.feed_cons, cLexer_step, trans, transStart_digit hc, feed_num cs [c] hcs,
    List.nil_append, List.reverse_cons]

theorem run_tok (t : Tok) (h : tokOK t = true) :
    cLexer.run .start t.text = [t] ∧ cLexer.after t ≠ .comment := by
  cases t with
  | id s =>
    have e : cLexer.feed .start (Tok.id s).text = _ := feed_id h
    refine ⟨?_, fun hc => nomatch (congrArg Prod.snd e).symm.trans hc⟩
    rw [Lexer.run, e]
    simp only [cLexer, flush, mkStr, List.reverse_reverse, String.ofList_toList, List.nil_append]
  | num s =>
    have e : cLexer.feed .start (Tok.num s).text = _ := feed_numTok h
    refine ⟨?_, fun hc => nomatch (congrArg Prod.snd e).symm.trans hc⟩
    rw [Lexer.run, e]
    simp only [cLexer, flush, mkStr, List.reverse_reverse, String.ofList_toList, List.nil_append]
  | p q => cases q <;> decide +kernel
  | bad c | newline | indent | dedent => cases h

/-- the text of `t2` may follow the text of `t1` directly: its first character does not extend `t1` -/
def sepTok (t1 t2 : Tok) : Bool :=
  match t2.text with
  | [] => false
  | c :: _ => sepChar (stTok t1) c

/-- the white-space test that `separated` spells out -/
def cBlank (s : List Char) : Bool := !s.isEmpty && s.all isSpace

def separated : List Piece → Bool
  | [] => true
  | .ws s :: ps => !s.isEmpty && s.all isSpace && separated ps
  | .t a :: ps =>
    tokOK a && (match ps with | .t b :: _ => sepTok a b | _ => true) && separated ps

theorem cEqs : SepEqs separated cBlank tokOK sepTok :=
  ⟨rfl, fun _ _ => rfl, fun _ _ => rfl⟩

theorem cReads : cLexer.Reads cBlank tokOK sepTok (fun _ => []) where
  idle := rfl
  blank_ne h := by rintro rfl; cases h
  blank h := feed_spaces (Bool.and_eq_true_iff.1 h).2
  blank_ends h ht := by
    rw [cBlank, Bool.and_eq_true, List.all_cons, Bool.and_eq_true] at h
    exact trans_sep (sepChar_low (run_tok _ ht).2 (Nat.lt_of_le_of_lt (space_toNat h.2.1) (by decide)))
  tok ht := (run_tok _ ht).1
  touch h := Lexer.touch_of_sep trans_sep (stTok_eq _) h

theorem lex_render : ∀ ps : List Piece, separated ps = true → lexC (render ps) = toks ps := by
  intro ps hps
  rw [lexC_eq]
  exact (Lexer.run_render_start cEqs cReads ps hps).trans (toksW_eq_toks ps)

end Ffcx.LNodes.Fmt
