/-
C16 — the shape of the number texts the formatters print: a digit, then characters that continue
the token, the last one a digit, for either lexer, that is for every continuation test that meets
`NumCont` (`layout_shape`). For C every printed number is thus one pp-number token, and the
literal-shape conjunct of `wfC` only asks a literal that is not complex to have imaginary part 0
(`litShapeOK_eq`). Then how a printed number begins: a negative one is `-` in front of its
magnitude, and no magnitude text starts with `-`.
-/
import FfcxModel.LNodes.ParseC
namespace Ffcx.LNodes.Fmt

/-- the characters of the mantissa of a printed number; each continues a pp-number whatever precedes it -/
def dd (c : Char) : Bool := c.isDigit || c == '.'

theorem dd_of_digit {c : Char} (h : c.isDigit = true) : dd c = true := by
  rw [dd, h, Bool.true_or]

/-- all characters continue, for a continuation test `cont` (`numContAll`, `pyNumContAll`) -/
def contAll (cont : Char → Char → Bool) : Char → List Char → Bool
  | _, [] => true
  | last, c :: cs => cont last c && contAll cont c cs

/-- what a lexer's continuation test has to accept for every printed number text to be one token:
    digits and `.` anywhere, the exponent marker `e`, a sign directly after it -/
structure NumCont (cont : Char → Char → Bool) : Prop where
  dd : ∀ last c, dd c = true → cont last c = true
  exp : ∀ last, cont last 'e' = true
  sign : ∀ s, s = '+' ∨ s = '-' → cont 'e' s = true

theorem numContAll_eq (last : Char) (cs : List Char) : numContAll last cs = contAll numCont last cs := by
  induction cs generalizing last with
  | nil => rfl
  | cons c cs ih => rw [numContAll, contAll, ih]

theorem numCont_ok : NumCont numCont where
  dd last c h := by
    simp only [dd, Bool.or_eq_true] at h
    simp only [numCont, Char.isAlphanum, Bool.or_eq_true]
    exact h.elim (fun h => Or.inl (Or.inl (Or.inl (Or.inr h)))) (fun h => Or.inl (Or.inr h))
  exp _ := rfl
  sign s hs := by rcases hs with rfl | rfl <;> rfl

theorem contAll_dd {cont} (H : NumCont cont) (last : Char) (cs : List Char) (h : ∀ c ∈ cs, dd c = true) :
    contAll cont last cs = true := by
  induction cs generalizing last with
  | nil => rfl
  | cons c cs ih =>
    rw [List.forall_mem_cons] at h
    rw [contAll, H.dd last c h.1, ih c h.2]
    rfl

/-- the character that `numContAll` has last seen after reading `cs` from the state `c` (whether a
    sign continues the number depends on it) -/
def lastOf (c : Char) (cs : List Char) : Char := ((c :: cs).reverse).headD 'x'

/-- the default is never used: `numShape` writes `'x'`, the lexers' `trans` `'0'` -/
theorem lastOf_eq_headD (c : Char) (cs : List Char) (d : Char) : lastOf c cs = ((c :: cs).reverse).headD d := by
  rw [lastOf]
  cases hr : (c :: cs).reverse with
  | nil => exact absurd (List.reverse_eq_nil_iff.1 hr) (List.cons_ne_nil _ _)
  | cons x xs => rfl

theorem lastOf_eq (c : Char) (cs : List Char) : lastOf c cs = (c :: cs).getLast (List.cons_ne_nil _ _) := by
  rw [lastOf, List.headD_eq_head?_getD, List.head?_reverse, List.getLast?_eq_some_getLast (List.cons_ne_nil _ _)]
  rfl

theorem lastOf_append_cons (c : Char) (a : List Char) (d : Char) (b : List Char) :
    lastOf c (a ++ d :: b) = lastOf d b := by
  rw [lastOf_eq, lastOf_eq]
  exact List.getLast_append_right (l := c :: a) (List.cons_ne_nil d b)

theorem lastOf_cons (c d : Char) (b : List Char) : lastOf c (d :: b) = lastOf d b :=
  lastOf_append_cons c [] d b

theorem lastOf_mem (c : Char) (r : List Char) : lastOf c r ∈ c :: r :=
  lastOf_eq c r ▸ List.getLast_mem _

theorem lastOf_digits (c : Char) (r : List Char) (hc : c.isDigit = true) (hr : ∀ d ∈ r, d.isDigit = true) :
    (lastOf c r).isDigit = true :=
  (List.forall_mem_cons (p := fun x => x.isDigit = true)).2 ⟨hc, hr⟩ _ (lastOf_mem c r)

theorem contAll_append (cont : Char → Char → Bool) (last : Char) (a b : List Char) :
    contAll cont last (a ++ b) = (contAll cont last a && contAll cont (lastOf last a) b) := by
  induction a generalizing last with
  | nil => exact (Bool.true_and _).symm
  | cons c cs ih =>
    rw [List.cons_append, contAll, contAll, ih, Bool.and_assoc, lastOf_cons]

theorem natDigits_digits (n : Nat) : ∀ c ∈ natDigits n, c.isDigit = true :=
  fun c hc => Nat.isDigit_of_mem_toDigits (by omega) (by omega) hc

theorem natDigits_ne (n : Nat) : natDigits n ≠ [] := Nat.toDigits_ne_nil

theorem numShape_cons (c : Char) (r : List Char) :
    numShape (c :: r) = (c.isDigit && numContAll c r && (lastOf c r).isDigit) := rfl

theorem digits_shape {cont} (H : NumCont cont) {c : Char} {r : List Char} (h : ∀ d ∈ c :: r, d.isDigit = true) :
    c.isDigit = true ∧ contAll cont c r = true ∧ (lastOf c r).isDigit = true :=
  ⟨h c (List.mem_cons_self ..), contAll_dd H c r fun d hd => dd_of_digit (h d (List.mem_cons_of_mem _ hd)),
    h _ (lastOf_mem c r)⟩

theorem numShape_digits (cs : List Char) (hne : cs ≠ []) (h : ∀ c ∈ cs, c.isDigit = true) : numShape cs = true := by
  cases cs with
  | nil => exact absurd rfl hne
  | cons c r =>
    obtain ⟨hc, hr, hl⟩ := digits_shape numCont_ok h
    rw [numShape_cons, hc, numContAll_eq, hr, hl]
    rfl

theorem numShape_fmtInt (v : Int) (hv : ¬ v < 0) : numShape (fmtInt v) = true := by
  rw [fmtInt, if_neg hv]
  exact numShape_digits _ (natDigits_ne _) (natDigits_digits _)

theorem stripZeros_digits (ds : List Char) (h : ∀ c ∈ ds, c.isDigit = true) :
    (∀ c ∈ stripZeros ds, c.isDigit = true) ∧ stripZeros ds ≠ [] := by
  unfold stripZeros
  split
  · exact ⟨by intro c hc; simp at hc; subst hc; decide, by simp⟩
  · rename_i r hne
    refine ⟨?_, by intro h0; exact hne h0⟩
    intro c hc
    have h1 : c ∈ (ds.reverse.dropWhile (· == '0')).reverse := hc
    have h2 := List.mem_reverse.1 h1
    have h3 := (List.dropWhile_sublist _).subset h2
    exact h c (List.mem_reverse.1 h3)

theorem zeros_digits (n : Nat) : ∀ c ∈ zeros n, c.isDigit = true := by
  intro c hc; rw [(List.mem_replicate.1 hc).2]; rfl

theorem expSuffix_shape (e : Int) : ∃ s a, expSuffix e = 'e' :: s :: a ∧ (s = '+' ∨ s = '-')
    ∧ (∀ d ∈ a, d.isDigit = true) ∧ a ≠ [] := by
  refine ⟨_, _, rfl, ?_, ?_⟩
  · by_cases h : e < 0
    · exact Or.inr (if_pos h)
    · exact Or.inl (if_neg h)
  · by_cases h : (natDigits e.natAbs).length < 2
    · rw [if_pos h]
      exact ⟨List.forall_mem_cons.2 ⟨rfl, natDigits_digits _⟩, List.cons_ne_nil _ _⟩
    · rw [if_neg h]
      exact ⟨natDigits_digits _, natDigits_ne _⟩

theorem layout_form (mx : Int) (dot0 : Bool) (ds : List Char) (dp : Int)
    (hd : ∀ c ∈ ds, c.isDigit = true) (hne : ds ≠ []) :
    ∃ c r, c.isDigit = true ∧ (∀ x ∈ r, dd x = true) ∧
      ((layout mx dot0 ds dp = c :: r ∧ (lastOf c r).isDigit = true) ∨
        layout mx dot0 ds dp = c :: (r ++ expSuffix (dp - 1))) := by
  cases ds with
  | nil => exact absurd rfl hne
  | cons d rest =>
    rw [List.forall_mem_cons] at hd
    obtain ⟨hd0, hrest⟩ := hd
    have hr : ∀ x ∈ rest, dd x = true := fun x hx => dd_of_digit (hrest x hx)
    have hz (n : Nat) : ∀ x ∈ zeros n, dd x = true := fun x hx => dd_of_digit (zeros_digits n x hx)
    have hnil : ∀ x ∈ ([] : List Char), dd x = true := fun _ h => absurd h List.not_mem_nil
    by_cases h1 : dp ≤ -4 ∨ dp > mx
    · -- exponent notation
      cases rest with
      | nil => exact ⟨d, [], hd0, hnil, Or.inr (if_pos h1)⟩
      | cons d2 r2 =>
        exact ⟨d, '.' :: d2 :: r2, hd0, List.forall_mem_cons.2 ⟨rfl, hr⟩, Or.inr (if_pos h1)⟩
    by_cases h2 : dp ≤ 0
    · -- 0.000ddd
      refine ⟨'0', ('.' :: zeros (-dp).toNat) ++ d :: rest, rfl, ?_,
        Or.inl ⟨(if_neg h1).trans (if_pos h2), ?_⟩⟩
      · exact List.forall_mem_append.2 ⟨List.forall_mem_cons.2 ⟨rfl, hz _⟩,
          List.forall_mem_cons.2 ⟨dd_of_digit hd0, hr⟩⟩
      · rw [lastOf_append_cons]
        exact lastOf_digits d rest hd0 hrest
    by_cases h3 : dp.toNat ≥ (d :: rest).length
    · -- ddd000 or ddd000.0
      have e : layout mx dot0 (d :: rest) dp = d :: rest ++ zeros (dp.toNat - (d :: rest).length)
          ++ (if dot0 then ['.', '0'] else []) := (if_neg h1).trans ((if_neg h2).trans (if_pos h3))
      cases dot0 with
      | false =>
        refine ⟨d, rest ++ zeros _, hd0, List.forall_mem_append.2 ⟨hr, hz _⟩,
          Or.inl ⟨e.trans (List.append_nil _), ?_⟩⟩
        exact lastOf_digits d _ hd0 (List.forall_mem_append.2 ⟨hrest, zeros_digits _⟩)
      | true =>
        refine ⟨d, rest ++ zeros _ ++ ['.', '0'], hd0, ?_, Or.inl ⟨e, ?_⟩⟩
        · exact List.forall_mem_append.2 ⟨List.forall_mem_append.2 ⟨hr, hz _⟩,
            List.forall_mem_cons.2 ⟨rfl, List.forall_mem_cons.2 ⟨rfl, hnil⟩⟩⟩
        · rw [lastOf_append_cons]; rfl
    · -- dd.ddd
      have e : layout mx dot0 (d :: rest) dp
          = (d :: rest).take dp.toNat ++ '.' :: (d :: rest).drop dp.toNat :=
        (if_neg h1).trans ((if_neg h2).trans (if_neg h3))
      cases hk : dp.toNat with
      | zero => exact absurd (Int.toNat_eq_zero.1 hk) h2
      | succ k =>
        rw [hk] at e h3
        cases hdrop : rest.drop k with
        | nil => exact absurd (Nat.succ_le_succ (List.drop_eq_nil_iff.1 hdrop)) h3
        | cons y ys =>
          have hsub : ∀ z ∈ y :: ys, z.isDigit = true := fun z hz =>
            hrest z (List.mem_of_mem_drop (hdrop ▸ hz))
          rw [List.take_succ_cons, List.drop_succ_cons, hdrop] at e
          refine ⟨d, rest.take k ++ '.' :: y :: ys, hd0, ?_, Or.inl ⟨e, ?_⟩⟩
          · exact List.forall_mem_append.2 ⟨fun x hx => hr x (List.mem_of_mem_take hx),
              List.forall_mem_cons.2 ⟨rfl, fun x hx => dd_of_digit (hsub x hx)⟩⟩
          · rw [lastOf_append_cons, lastOf_cons]
            exact hsub _ (lastOf_mem y ys)

/-- the shape of every printed number: a digit, then characters each of which continues the
    token for any test `cont` that accepts digits, `.`, `e` and a sign after `e`; the last one a digit -/
theorem layout_shape {cont} (H : NumCont cont) (mx : Int) (dot0 : Bool) (ds : List Char) (dp : Int)
    (hd : ∀ c ∈ ds, c.isDigit = true) (hne : ds ≠ []) :
    ∃ c r, layout mx dot0 ds dp = c :: r ∧ c.isDigit = true ∧ contAll cont c r = true
      ∧ (lastOf c r).isDigit = true := by
  obtain ⟨c, r, hc, hr, ⟨e, hl⟩ | e⟩ := layout_form mx dot0 ds dp hd hne
  · exact ⟨c, r, e, hc, contAll_dd H c r hr, hl⟩
  · obtain ⟨s, a, he, hs, ha, hane⟩ := expSuffix_shape (dp - 1)
    cases a with
    | nil => exact absurd rfl hane
    | cons d a' =>
      refine ⟨c, r ++ 'e' :: s :: d :: a', by rw [e, he], hc, ?_, ?_⟩
      · rw [contAll_append, contAll_dd H c r hr, contAll, contAll, H.exp, H.sign s hs,
          contAll_dd H s _ fun x hx => dd_of_digit (ha x hx)]
        rfl
      · rw [lastOf_append_cons, lastOf_cons, lastOf_cons]
        exact ha _ (lastOf_mem d a')

theorem numShape_layout (mx : Int) (dot0 : Bool) (ds : List Char) (dp : Int)
    (hd : ∀ c ∈ ds, c.isDigit = true) (hne : ds ≠ []) : numShape (layout mx dot0 ds dp) = true := by
  obtain ⟨c, r, e, hc, hr, hl⟩ := layout_shape numCont_ok mx dot0 ds dp hd hne
  rw [e, numShape_cons, hc, numContAll_eq, hr, hl]
  rfl

theorem numShape_reprFloat (x : Rat) (hx : ¬ x < 0) : numShape (reprFloat x) = true := by
  unfold reprFloat
  split
  · decide
  · simp only [reprPos, decDigits]
    obtain ⟨h1, h2⟩ := stripZeros_digits (natDigits (shortestFrom x (decExp x) 17 1).fst.m) (natDigits_digits _)
    exact numShape_layout 16 true _ _ h1 h2

theorem abs_nn (x : Rat) : ¬ (if x < 0 then -x else x) < 0 := by
  split <;> grind

theorem absInt_nn (v : Int) : ¬ (if v < 0 then -v else v) < 0 := by
  split <;> omega

/-- the literal-shape conjunct of `wfC` is a representation invariant only: it holds for every
    literal whose imaginary part is 0 unless it is complex -/
theorem litShapeOK_eq (e : Expr) : litShapeOK e = (match e with
    | .litF _ im c => c || decide (im = 0)
    | _ => true) := by
  cases e with
  | litF re im c =>
    have h1 := numShape_reprFloat _ (abs_nn re)
    have h2 := numShape_reprFloat _ (abs_nn im)
    cases c <;> simp only [litShapeOK, h1, h2, Bool.true_and, Bool.false_eq_true, if_false, if_true,
      Bool.false_or, Bool.true_or]
  | litI v => simp only [litShapeOK, numShape_fmtInt _ (absInt_nn v)]
  | _ => rfl

theorem numShape_head {cs : List Char} (h : numShape cs = true) :
    ∃ c r, cs = c :: r ∧ c ≠ '-' := by
  cases cs with
  | nil => simp [numShape] at h
  | cons c r =>
    refine ⟨c, r, rfl, ?_⟩
    simp only [numShape, Bool.and_eq_true] at h
    intro hc
    subst hc
    exact absurd h.1.1 (by decide)

theorem numPieces_pos {c : Char} {r : List Char} (h : c ≠ '-') :
    numPieces (c :: r) = [.t (.num (String.ofList (c :: r)))] := by
  unfold numPieces
  split
  · rename_i heq
    simp only [List.cons.injEq] at heq
    exact absurd heq.1 h
  · rfl

theorem reprFloat_neg {x : Rat} (h : x < 0) : reprFloat x = '-' :: reprFloat (-x) := by
  have h0 : x ≠ 0 := by grind
  have h1 : ¬ (-x < 0) := by grind
  have h2 : -x ≠ 0 := by grind
  simp only [reprFloat, h0, h, h1, h2, if_true, if_false]

theorem fmtInt_neg {v : Int} (h : v < 0) : fmtInt v = '-' :: fmtInt (-v) := by
  have h1 : ¬ (-v < 0) := by omega
  have h2 : (-v).toNat = v.natAbs := by omega
  simp only [fmtInt, h, h1, h2, if_true, if_false]

end Ffcx.LNodes.Fmt
