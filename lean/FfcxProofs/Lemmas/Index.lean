/-
Index arithmetic: row-major flattening (`flatIdx`), `MultiIndex.global_index`.
Any rank, any sizes.
-/
import FfcxModel.LNodes.Sem
import FfcxModel.LNodes.Simplify
import FfcxProofs.Lemmas.ExecBind
import FfcxProofs.Lemmas.Branches
import FfcxProofs.Lemmas.Tiling

namespace Ffcx.LNodes

/-- Σ strideₖ · valueₖ -/
def dotStrides : List Nat → List Int → Int
  | n :: ns, v :: vs => (n : Int) * v + dotStrides ns vs
  | _, _ => 0

/-- the expression `flatIdx`, `strides` and `exec (.adecl …)` write inline; `Ffcx.Layout.shapeProd` is the
    same function on the layout side -/
def sizeProd (ds : List Nat) : Nat := ds.foldr (· * ·) 1

theorem flatIdx_nil_eq_some {is : List Int} {k : Nat} (h : flatIdx [] is = some k) :
    is = [] ∧ k = 0 := by
  cases is with
  | nil => exact ⟨rfl, (Option.some.inj h).symm⟩
  | cons => cases h

theorem flatIdx_cons_eq_some {d : Nat} {ds : List Nat} {is : List Int} {k : Nat}
    (h : flatIdx (d :: ds) is = some k) :
    ∃ i js r, is = i :: js ∧ 0 ≤ i ∧ i < (d : Int) ∧ flatIdx ds js = some r ∧
      k = i.toNat * sizeProd ds + r := by
  cases is with
  | nil => cases h
  | cons i js =>
    simp only [flatIdx] at h
    split at h
    · rename_i hi
      cases hr : flatIdx ds js with
      | none => rw [hr] at h; cases h
      | some r => rw [hr] at h; exact ⟨i, js, r, rfl, hi.1, hi.2, hr, (Option.some.inj h).symm⟩
    · cases h

theorem flatIdx_lt : ∀ (ds : List Nat) (is : List Int) (k : Nat),
    flatIdx ds is = some k → k < sizeProd ds
  | [], _, _, h => by rw [(flatIdx_nil_eq_some h).2]; exact Nat.one_pos
  | d :: ds, _, _, h => by
    obtain ⟨i, js, r, rfl, h0, hd, hr, rfl⟩ := flatIdx_cons_eq_some h
    exact Lemmas.Geom.pair_lt ((Int.toNat_lt h0).mpr hd) (flatIdx_lt ds js r hr)

theorem flatIdx_length : ∀ (ds : List Nat) (is : List Int) (k : Nat),
    flatIdx ds is = some k → is.length = ds.length
  | [], _, _, h => congrArg List.length (flatIdx_nil_eq_some h).1
  | d :: ds, _, _, h => by
    obtain ⟨i, js, r, rfl, _, _, hr, _⟩ := flatIdx_cons_eq_some h
    exact congrArg (· + 1) (flatIdx_length ds js r hr)

/-- each index lies in its own extent (what C requires of a multi-dimensional subscript) -/
theorem flatIdx_inrange : ∀ (ds : List Nat) (is : List Int) (k : Nat),
    flatIdx ds is = some k → ∀ p, p ∈ List.zip ds is → 0 ≤ p.2 ∧ p.2 < (p.1 : Int)
  | [], _, _, _, p, hp => by simp only [List.zip_nil_left, List.not_mem_nil] at hp
  | d :: ds, _, _, h, p, hp => by
    obtain ⟨i, js, r, rfl, h0, hd, hr, _⟩ := flatIdx_cons_eq_some h
    rcases List.mem_cons.mp hp with rfl | hp
    · exact ⟨h0, hd⟩
    · exact flatIdx_inrange ds js r hr p hp

theorem flatIdx_inj : ∀ (ds : List Nat) (is js : List Int) (k : Nat),
    flatIdx ds is = some k → flatIdx ds js = some k → is = js
  | [], _, _, _, h1, h2 => by rw [(flatIdx_nil_eq_some h1).1, (flatIdx_nil_eq_some h2).1]
  | d :: ds, _, _, _, h1, h2 => by
    obtain ⟨i, is, r, rfl, hi0, _, hr, rfl⟩ := flatIdx_cons_eq_some h1
    obtain ⟨j, js, s, rfl, hj0, _, hs, hk⟩ := flatIdx_cons_eq_some h2
    obtain ⟨hij, rfl⟩ := Lemmas.Geom.pair_inj (flatIdx_lt ds is r hr) (flatIdx_lt ds js s hs) hk
    have : i = j := by rw [← Int.toNat_of_nonneg hi0, ← Int.toNat_of_nonneg hj0, hij]
    rw [flatIdx_inj ds is js r hr hs, this]

theorem flatIdx_dot : ∀ (ds : List Nat) (is : List Int) (k : Nat),
    flatIdx ds is = some k → dotStrides (strides ds) is = (k : Int)
  | [], _, _, h => by
    obtain ⟨rfl, rfl⟩ := flatIdx_nil_eq_some h
    rfl
  | d :: ds, _, _, h => by
    obtain ⟨i, js, r, rfl, h0, _, hr, rfl⟩ := flatIdx_cons_eq_some h
    simp only [strides, dotStrides, flatIdx_dot ds js r hr]
    rw [Int.mul_comm]
    show i * ((sizeProd ds : Nat) : Int) + r = _
    push_cast
    rw [Int.toNat_of_nonneg h0]

theorem evalI_isZero (iv ia) (e : Expr) (v : Int) (hz : isZero e = true) (h : evalI iv ia e = some v) :
    v = 0 :=
  litTest_elim (P := fun e => evalI iv ia e = some v → v = 0) 0 0 hz
    (fun _ h => by simp [evalI] at h) (fun h => by simpa [evalI] using h.symm) h

theorem evalI_isOne (iv ia) (e : Expr) (v : Int) (hz : isOne e = true) (h : evalI iv ia e = some v) :
    v = 1 :=
  litTest_elim (P := fun e => evalI iv ia e = some v → v = 1) 1 1 hz
    (fun _ h => by simp [evalI] at h) (fun h => by simpa [evalI] using h.symm) h

theorem evalI_isNegOne (iv ia) (e : Expr) (v : Int) (hz : isNegOne e = true) (h : evalI iv ia e = some v) :
    v = -1 :=
  litTest_elim (P := fun e => evalI iv ia e = some v → v = -1) (-1) (-1) hz
    (fun _ h => by simp [evalI] at h) (fun h => by simpa [evalI] using h.symm) h

theorem evalI_lRMul_lit (iv ia) (s : Expr) (c v : Int) (h : evalI iv ia s = some v) :
    evalI iv ia (lRMul s (.litI c)) = some (c * v) := by
  refine lRMul_elim (P := fun e => evalI iv ia e = some (c * v)) s (.litI c) ?_ ?_ ?_ ?_ ?_ ?_ ?_
  · intro hz; rw [h, evalI_isZero iv ia s v hz h, Int.mul_zero]
  · intro hz; rw [(isZero_litI c).mp hz, Int.zero_mul]; rfl
  · intro hz; rw [evalI_isOne iv ia s v hz h, Int.mul_one]; rfl
  · intro hz; rw [h, (isOne_litI c).mp hz, Int.one_mul]
  · intro hz; rw [(isNegOne_litI c).mp hz, Int.neg_one_mul]; simp only [evalI, h, Option.map_some]
  · intro hz; rw [evalI_isNegOne iv ia s v hz h, Int.mul_neg_one]; rfl
  · simp only [evalI, h]; rfl

theorem evalI_miTerm (iv ia) (n : Nat) (s : MSym) (v : Int)
    (h : evalI iv ia s.toExpr = some v) : evalI iv ia (miTerm n s) = some ((n : Int) * v) := by
  cases s with
  | py k => simp [MSym.toExpr, evalI] at h; subst h; simp [miTerm, evalI]
  | ex e => exact evalI_lRMul_lit iv ia e n v h

theorem evalISum_miTerms (iv ia) : ∀ (ns : List Nat) (syms : List MSym) (vals : List Int),
    evalIs iv ia (syms.map MSym.toExpr) = some vals →
    evalI.evalISum iv ia (miTerms ns syms) = some (dotStrides ns vals)
  | [], syms, _, _ => by cases syms <;> rfl
  | _ :: _, [], _, h => by cases h; rfl
  | n :: ns, s :: ss, _, h => by
    obtain ⟨v, vs, hv, hvs, rfl⟩ := evalIs_cons_eq_some h
    simp only [miTerms, evalI.evalISum, evalI_miTerm iv ia n s v hv,
      evalISum_miTerms iv ia ns ss vs hvs, dotStrides]
    rfl

end Ffcx.LNodes
