/- The collected name lists of FfcxModel/LNodes/Threads.lean against the `mentions…` predicates: an
   expression mentions exactly the names of `namesE` (`mentionsE_iff`), a statement mentions only names
   of `namesS` (`mem_namesS`). -/
import FfcxModel.LNodes.Threads

namespace Ffcx.LNodes

mutual
theorem mentionsE_iff {n : String} : ∀ (e : Expr), mentionsE n e = true ↔ n ∈ namesE e
  | .litF .. | .litI .. => by simp [mentionsE, namesE]
  | .sym m dt => by
    simp only [mentionsE, namesE, beq_iff_eq, List.mem_singleton]
    exact eq_comm
  | .mi syms z gi => by
    simp only [mentionsE, namesE, Bool.or_eq_true, List.mem_append, mentionsL_iff syms, mentionsE_iff gi]
  | .neg a | .not a => by simp only [mentionsE, namesE, mentionsE_iff a]
  | .bin op a b => by
    simp only [mentionsE, namesE, Bool.or_eq_true, List.mem_append, mentionsE_iff a, mentionsE_iff b]
  | .sum args | .prod args | .call _ _ args => by simp only [mentionsE, namesE, mentionsL_iff args]
  | .idx arr dt ix => by
    simp only [mentionsE, namesE, Bool.or_eq_true, beq_iff_eq, List.mem_cons, mentionsL_iff ix]
    exact or_congr_left eq_comm
  | .cond c t f => by
    simp only [mentionsE, namesE, Bool.or_eq_true, List.mem_append, mentionsE_iff c, mentionsE_iff t,
      mentionsE_iff f]
theorem mentionsL_iff {n : String} : ∀ (es : List Expr), mentionsL n es = true ↔ n ∈ namesEL es
  | [] => by simp [mentionsL, namesEL]
  | e :: es => by
    simp only [mentionsL, namesEL, Bool.or_eq_true, List.mem_append, mentionsE_iff e, mentionsL_iff es]
end

mutual
theorem mem_namesS {n : String} : ∀ (s : Stmt), mentionsS n s = true → n ∈ namesS s
  | .assign l r, h | .addAssign l r, h => by
    simp only [mentionsS, Bool.or_eq_true] at h
    simp only [namesS, List.mem_append]
    exact h.imp (mentionsE_iff l).1 (mentionsE_iff r).1
  | .vdecl m dt v, h => by
    simp only [mentionsS, Bool.or_eq_true, beq_iff_eq] at h
    simp only [namesS, List.mem_cons]
    exact h.imp Eq.symm (mentionsE_iff v).1
  | .adecl m dt sizes c vals, h => by
    simp only [mentionsS, Bool.or_eq_true, beq_iff_eq] at h
    simp only [namesS, List.mem_cons]
    exact h.imp Eq.symm ((mentionsL_iff _).1)
  | .forRange i lo hi body, h => by
    simp only [mentionsS, Bool.or_eq_true, beq_iff_eq] at h
    simp only [namesS, List.mem_cons, List.mem_append]
    rcases h with ((h | h) | h) | h
    · exact .inl h.symm
    · exact .inr (.inl (.inl ((mentionsE_iff lo).1 h)))
    · exact .inr (.inl (.inr ((mentionsE_iff hi).1 h)))
    · exact .inr (.inr (mem_namesSL body h))
  | .comment _, h => by cases h
  | .block ss, h => by
    simp only [mentionsS] at h
    simp only [namesS]
    exact mem_namesSL ss h
  | .sect _ decls stmts _ _ _, h => by
    simp only [mentionsS, Bool.or_eq_true] at h
    simp only [namesS, List.mem_append]
    exact h.imp (mem_namesSL decls) (mem_namesSL stmts)

theorem mem_namesSL {n : String} : ∀ (ss : List Stmt), mentionsSL n ss = true → n ∈ namesSL ss
  | [], h => by cases h
  | s :: ss, h => by
    simp only [mentionsSL, Bool.or_eq_true] at h
    simp only [namesSL, List.mem_append]
    exact h.imp (mem_namesS s) (mem_namesSL ss)
end

end Ffcx.LNodes
