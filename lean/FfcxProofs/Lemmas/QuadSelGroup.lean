/-
Generic facts about `Quad.groupInsert` / `Quad.groupBy` (the model of a Python dict of lists filled with
`d.setdefault(k, []).append(v)`) used by the quadrature-selection theorems (C11, C11Select):
keys stay distinct, flattening the groups (`ungroup`) gives back the inserted pairs up to a permutation (nothing
lost, nothing duplicated), no group is empty, every member sits under the key it was inserted with.  All of them
follow from the shape of one insertion (`groupInsert_eq`) and the fold principle `groupBy_rec`.  Core Lean only.
-/
import FfcxModel.Geometry.Quad

namespace Ffcx.Quad

variable {κ α : Type} [BEq κ] [LawfulBEq κ]

/-- the pairs a grouped list stands for -/
def ungroup (g : List (κ × List α)) : List (κ × α) :=
  g.flatMap (fun p => p.2.map (fun v => (p.1, v)))

omit [BEq κ] [LawfulBEq κ] in
@[simp] theorem ungroup_nil : ungroup ([] : List (κ × List α)) = [] := rfl

omit [BEq κ] [LawfulBEq κ] in
theorem ungroup_append (g h : List (κ × List α)) : ungroup (g ++ h) = ungroup g ++ ungroup h :=
  List.flatMap_append

omit [BEq κ] [LawfulBEq κ] in
theorem ungroup_cons (p : κ × List α) (g : List (κ × List α)) :
    ungroup (p :: g) = p.2.map (fun v => (p.1, v)) ++ ungroup g :=
  List.flatMap_cons

omit [BEq κ] [LawfulBEq κ] in
theorem mem_ungroup (k : κ) (v : α) (g : List (κ × List α)) :
    (k, v) ∈ ungroup g ↔ ∃ vs, (k, vs) ∈ g ∧ v ∈ vs := by
  simp only [ungroup, List.mem_flatMap, List.mem_map, Prod.mk.injEq]
  constructor
  · rintro ⟨⟨k', vs⟩, hp, v', hv, rfl, rfl⟩; exact ⟨vs, hp, hv⟩
  · rintro ⟨vs, hp, hv⟩; exact ⟨(k, vs), hp, v, hv, rfl, rfl⟩

/-- the one way an insertion changes a grouped list: a group with key `k` gets `v` appended (the first one;
the statement does not record that, distinct keys make it the only one), and if there is none a new group
`(k, [v])` is added at the end -/
theorem groupInsert_eq (k : κ) (v : α) (g : List (κ × List α)) :
    (∃ pre vs post, g = pre ++ (k, vs) :: post ∧ groupInsert k v g = pre ++ (k, vs ++ [v]) :: post) ∨
    (k ∉ g.map (·.1) ∧ groupInsert k v g = g ++ [(k, [v])]) := by
  induction g with
  | nil => exact .inr ⟨List.not_mem_nil, rfl⟩
  | cons p rest ih =>
    obtain ⟨k', us⟩ := p
    by_cases hk : k' = k
    · subst hk
      exact .inl ⟨[], us, rest, rfl, by simp [groupInsert]⟩
    · have e : groupInsert k v ((k', us) :: rest) = (k', us) :: groupInsert k v rest := by
        simp [groupInsert, hk]
      rw [e]
      rcases ih with ⟨pre, vs, post, hg, hi⟩ | ⟨hn, hi⟩
      · exact .inl ⟨(k', us) :: pre, vs, post, by rw [hg]; rfl, by rw [hi]; rfl⟩
      · exact .inr ⟨by simp [hn, Ne.symm hk], by rw [hi]; rfl⟩

theorem groupInsert_keys_nodup (k : κ) (v : α) (g : List (κ × List α)) (h : (g.map (·.1)).Nodup) :
    ((groupInsert k v g).map (·.1)).Nodup := by
  rcases groupInsert_eq k v g with ⟨pre, vs, post, rfl, hi⟩ | ⟨hn, hi⟩ <;> rw [hi]
  · simpa using h
  · rw [List.map_append, List.nodup_append]
    refine ⟨h, by simp, fun a ha b hb e => hn ?_⟩
    cases List.mem_singleton.mp hb
    cases e
    exact ha

theorem groupInsert_perm (k : κ) (v : α) (g : List (κ × List α)) :
    (ungroup (groupInsert k v g)).Perm (ungroup g ++ [(k, v)]) := by
  rcases groupInsert_eq k v g with ⟨pre, vs, post, rfl, hi⟩ | ⟨_, hi⟩ <;> rw [hi]
  · simp only [ungroup_append, ungroup_cons, List.map_append, List.map_cons, List.map_nil, List.append_assoc]
    exact (List.perm_append_comm.append_left _).append_left _
  · rw [ungroup_append]; exact .refl _

theorem groupInsert_nonempty (k : κ) (v : α) (g : List (κ × List α)) (h : ∀ p ∈ g, p.2 ≠ []) :
    ∀ p ∈ groupInsert k v g, p.2 ≠ [] := by
  rcases groupInsert_eq k v g with ⟨pre, vs, post, rfl, hi⟩ | ⟨_, hi⟩ <;> rw [hi]
  · rw [List.forall_mem_append, List.forall_mem_cons] at h ⊢
    exact ⟨h.1, List.append_ne_nil_of_right_ne_nil _ (List.cons_ne_nil _ _), h.2.2⟩
  · rw [List.forall_mem_append, List.forall_mem_singleton]
    exact ⟨h, List.cons_ne_nil _ _⟩

omit [LawfulBEq κ] in
/-- a grouped list is built by insertions: what holds of `[]` and is kept by every insertion (the pairs inserted
so far being `l`) holds of `groupBy l` -/
theorem groupBy_rec {P : List (κ × α) → List (κ × List α) → Prop} (h0 : P [] [])
    (hstep : ∀ l k v g, P l g → P (l ++ [(k, v)]) (groupInsert k v g)) (l : List (κ × α)) : P l (groupBy l) := by
  suffices H : ∀ pre acc, P pre acc → P (pre ++ l) (l.foldl (fun acc kv => groupInsert kv.1 kv.2 acc) acc) from
    H [] [] h0
  induction l with
  | nil => intro pre acc h; simpa using h
  | cons kv rest ih =>
    intro pre acc h
    simpa using ih (pre ++ [kv]) _ (hstep pre kv.1 kv.2 acc h)

theorem groupBy_keys_nodup (l : List (κ × α)) : ((groupBy l).map (·.1)).Nodup :=
  groupBy_rec (P := fun _ g => (g.map (·.1)).Nodup) List.nodup_nil (fun _ => groupInsert_keys_nodup) l

theorem groupBy_perm (l : List (κ × α)) : (ungroup (groupBy l)).Perm l :=
  groupBy_rec (P := fun l g => (ungroup g).Perm l) (.refl _)
    (fun _ k v g h => (groupInsert_perm k v g).trans (h.append_right _)) l

theorem groupBy_nonempty (l : List (κ × α)) : ∀ p ∈ groupBy l, p.2 ≠ [] :=
  groupBy_rec (P := fun _ g => ∀ p ∈ g, p.2 ≠ []) (fun _ h => nomatch h) (fun _ => groupInsert_nonempty) l

theorem groupBy_ne_nil {l : List (κ × α)} (h : l ≠ []) : groupBy l ≠ [] :=
  fun e => h (e ▸ groupBy_perm l).symm.eq_nil

/-- the members of the group of `k` are exactly the values inserted with `k` -/
theorem groupBy_mem_iff (l : List (κ × α)) (k : κ) (v : α) :
    (k, v) ∈ l ↔ ∃ vs, (k, vs) ∈ groupBy l ∧ v ∈ vs :=
  (groupBy_perm l).mem_iff.symm.trans (mem_ungroup k v _)

/-- the keys are distinct, so a group is determined by its key -/
theorem groupBy_key_unique (l : List (κ × α)) {p q : κ × List α} (hp : p ∈ groupBy l) (hq : q ∈ groupBy l)
    (h : p.1 = q.1) : p = q := by
  have hn := List.pairwise_map.mp (groupBy_keys_nodup l)
  exact List.Pairwise.forall_of_forall_of_flip (R := fun p q => p.1 = q.1 → p = q) (fun _ _ _ => rfl)
    (hn.imp fun hne e => absurd e hne) (hn.imp fun hne e => absurd e.symm hne) hp hq h

/-- the group filed under a key holds exactly the values inserted with that key -/
theorem groupBy_mem_group {l : List (κ × α)} {p : κ × List α} (hp : p ∈ groupBy l) (v : α) :
    v ∈ p.2 ↔ (p.1, v) ∈ l := by
  rw [groupBy_mem_iff]
  exact ⟨fun h => ⟨p.2, hp, h⟩, fun ⟨vs, hvs, hv⟩ => groupBy_key_unique l hvs hp rfl ▸ hv⟩

end Ffcx.Quad
