/-
What the proofs about the scope-aware semantics `execB` (FfcxModel/LNodes/ScopedSem.lean) share, in
this order: look-up after `AList.erase` / `AList.put`; `Same4 m σ σ'` (the stores agree on the name
`m`) and the steps that touch no other name (`St.bind`, `St.only`, `restoreFrame`); the static view
`stackNames` of the block stack under `enter`, `leave`, `declareB`; the equations of `execB` on a
statement whose checks pass — a leaf is `runLeaf` of the flat `exec`, a composite is a chain of
`Except.bind`.
-/
import FfcxModel.LNodes.ScopedSem
import FfcxProofs.Lemmas.ScopeCheck

namespace Ffcx.AList

theorem get_erase {α} (m : AList α) (x y : String) :
    get (erase m x) y = if x = y then none else get m y := by
  induction m with
  | nil => simp [erase, get]
  | cons p m ih =>
    obtain ⟨k, w⟩ := p
    by_cases hk : k = x
    · subst hk
      simp only [erase, if_true, ih, get]
      by_cases h : k = y <;> simp [h]
    · simp only [erase, hk, if_false, get, ih]
      by_cases hy : k = y
      · subst hy
        have : ¬ x = k := fun e => hk e.symm
        simp [this]
      · simp [hy]

theorem get_put {α} (m : AList α) (x y : String) (o : Option α) :
    get (put m x o) y = if x = y then o else get m y := by
  cases o with
  | none => simp [put, get_erase]
  | some v => simp [put, get_set]

end Ffcx.AList

namespace Ffcx.LNodes
variable {R : Type}

/-- the four bindings of the name `m` are the same in both stores; each equation rewrites a look-up in
    `σ'` into one in `σ` -/
structure Same4 (m : String) (σ σ' : St R) : Prop where
  iv : σ'.iv.get m = σ.iv.get m
  sv : σ'.sv.get m = σ.sv.get m
  ia : σ'.ia.get m = σ.ia.get m
  sa : σ'.sa.get m = σ.sa.get m

theorem Same4.refl (m : String) (σ : St R) : Same4 m σ σ := ⟨rfl, rfl, rfl, rfl⟩

theorem Same4.symm {m : String} {a b : St R} (h : Same4 m a b) : Same4 m b a :=
  ⟨h.iv.symm, h.sv.symm, h.ia.symm, h.sa.symm⟩

theorem Same4.trans {m : String} {a b c : St R} (h1 : Same4 m a b) (h2 : Same4 m b c) : Same4 m a c :=
  ⟨h2.iv.trans h1.iv, h2.sv.trans h1.sv, h2.ia.trans h1.ia, h2.sa.trans h1.sa⟩

/-- a value bound to a name, in one of the three name spaces a statement can bind in -/
inductive Binding (R : Type) where
  | iv (k : Int)
  | sv (w : R)
  | sa (a : Arr R)

def Binding.kind : Binding R → Kind
  | .iv _ => .ivar
  | .sv _ => .svar
  | .sa _ => .sarr

def St.bind (σ : St R) (n : String) : Binding R → St R
  | .iv k => σ.setIV n k
  | .sv w => σ.setSV n w
  | .sa a => σ.setSA n a

theorem bind_same4 (σ : St R) (n m : String) (β : Binding R) (h : n ≠ m) : Same4 m σ (σ.bind n β) := by
  cases β
  · exact ⟨AList.get_set_ne _ _ _ _ h, rfl, rfl, rfl⟩
  · exact ⟨rfl, AList.get_set_ne _ _ _ _ h, rfl, rfl⟩
  · exact ⟨rfl, rfl, rfl, AList.get_set_ne _ _ _ _ h⟩

/-- a declaration of `n` (bind, then hide its other meanings) touches no other name -/
theorem bind_only_same4 (σ : St R) (n m : String) (β : Binding R) (k : Kind) (h : n ≠ m) :
    Same4 m σ ((σ.bind n β).only n k) := by
  refine (bind_same4 σ n m β h).trans ?_
  cases k <;> constructor <;> simp [St.only, AList.get_erase, h]

theorem restore1_same4 (σ : St R) (s : Saved R) (m : String) (h : s.name ≠ m) :
    Same4 m σ (restore1 σ s) := by
  constructor <;> simp [restore1, AList.get_put, h]

theorem restoreFrame_same4 (m : String) : ∀ (f : Frame R) (σ : St R), m ∉ frameNames f →
    Same4 m σ (restoreFrame σ f)
  | [], σ, _ => Same4.refl m σ
  | s :: f, σ, h => by
    simp only [frameNames, List.map_cons, List.mem_cons, not_or] at h
    simp only [restoreFrame]
    exact (restore1_same4 σ s m (fun e => h.1 e.symm)).trans (restoreFrame_same4 m f _ h.2)

@[simp] theorem stackNames_cons (f : Frame R) (st : List (Frame R)) :
    stackNames (f :: st) = frameNames f :: stackNames st := rfl

@[simp] theorem stackNames_enter (b : BSt R) : stackNames (enter b).st = [] :: stackNames b.st := rfl

@[simp] theorem setIdx_st (b : BSt R) (i : String) (v : Int) : (b.setIdx i v).st = b.st := rfl

theorem leave_nil {b : BSt R} (h : b.st = []) : leave b = b := by rw [leave, h]

theorem leave_cons {b : BSt R} {F : Frame R} {rest : List (Frame R)} (h : b.st = F :: rest) :
    leave b = { σ := restoreFrame b.σ F, st := rest } := by rw [leave, h]

theorem stackNames_leave (b : BSt R) : stackNames (leave b).st = (stackNames b.st).tail := by
  cases h : b.st with
  | nil => rw [leave_nil h, h]; rfl
  | cons f rest => rw [leave_cons h]; rfl

/-- `declareB` is `declare` on the static view -/
theorem declareB_names (st : List (Frame R)) (σ : St R) (n : String) :
    declare (stackNames st) n =
      match declareB st σ n with
      | .ok st' => .ok (stackNames st')
      | .error e => .error e := by
  cases st with
  | nil => simp [declareB, declare, stackNames, frameNames, saveOf]
  | cons f rest =>
    simp only [declareB, declare, stackNames_cons]
    split <;> simp [stackNames, frameNames, saveOf]

theorem declareB_ok {st : List (Frame R)} {n : String} {sc' : Scopes}
    (h : declare (stackNames st) n = .ok sc') (σ : St R) :
    ∃ st', declareB st σ n = .ok st' ∧ stackNames st' = sc' := by
  have hn := declareB_names st σ n
  rw [h] at hn
  cases hd : declareB st σ n with
  | error e => rw [hd] at hn; cases hn
  | ok st' => rw [hd] at hn; exact ⟨st', rfl, (Except.ok.inj hn).symm⟩

/-- what `execB` does on a leaf whose checks pass: `exec` on the store (a failure is a run-time
    error), then `f` builds the new state -/
def runLeaf (r : Except Err (St R)) (f : St R → BSt R) : Except BErr (BSt R) :=
  match r with
  | .error e => .error (.run e)
  | .ok σ' => .ok (f σ')

theorem loopB_succ (body : BSt R → Except BErr (BSt R)) (i : String) (lo : Int) (n : Nat) (b : BSt R) :
    loopB body i lo (n + 1) b =
      (body (enter (b.setIdx i lo))).bind fun b' => loopB body i (lo + 1) n (leave b') := by
  rw [loopB]
  cases body (enter (b.setIdx i lo)) <;> rfl

section Exec
variable [Add R] [Sub R] [Mul R] [Div R] [Neg R] [IntCast R] (x : Extra R)

theorem execB_assign {s : Stmt} {l r : Expr} {b : BSt R} (hs : s = .assign l r ∨ s = .addAssign l r)
    (hl : usesOkE (stackNames b.st) l = none) (hr : usesOkE (stackNames b.st) r = none) :
    execB x s b = runLeaf (exec x s b.σ) (fun σ' => { b with σ := σ' }) := by
  rcases hs with rfl | rfl <;> simp only [execB, hl, hr, Option.orElse_none] <;> rfl

theorem execB_vdecl {n : String} {dt : DType} {v : Expr} {b : BSt R} {st' : List (Frame R)}
    (hv : usesOkE (stackNames b.st) v = none) (hd : declareB b.st b.σ n = .ok st') :
    execB x (.vdecl n dt v) b = runLeaf (exec x (.vdecl n dt v) b.σ)
      (fun σ' => { σ := σ'.only n (if dt == .int then .ivar else .svar), st := st' }) := by
  simp only [execB, hv, hd]
  rfl

theorem execB_adecl {n : String} {dt : DType} {sizes : List Nat} {c : Bool} {vals : Option (List Expr)}
    {b : BSt R} {st' : List (Frame R)}
    (hv : usesOkL (stackNames b.st) (vals.getD []) = none) (hd : declareB b.st b.σ n = .ok st') :
    execB x (.adecl n dt sizes c vals) b = runLeaf (exec x (.adecl n dt sizes c vals) b.σ)
      (fun σ' => { σ := σ'.only n .sarr, st := st' }) := by
  simp only [execB, hv, hd]
  rfl

theorem execB_forRange {i : String} {lo hi : Expr} {body : List Stmt} {b : BSt R}
    (hlo : usesOkE (stackNames b.st) lo = none) (hhi : usesOkE (stackNames b.st) hi = none) :
    execB x (.forRange i lo hi body) b =
      match evalI b.σ.iv b.σ.ia lo, evalI b.σ.iv b.σ.ia hi with
      | some l, some h =>
        (loopB (execB x (.block body)) i l (h - l).toNat
          (BSt.setIdx { σ := b.σ, st := [saveOf b.σ i] :: b.st } i l)).bind fun b2 => .ok (leave b2)
      | _, _ => .error (.run (.badIndex i)) := by
  simp only [execB, hlo, hhi, Option.orElse_none]
  cases evalI b.σ.iv b.σ.ia lo with
  | none => rfl
  | some l =>
    cases evalI b.σ.iv b.σ.ia hi with
    | none => rfl
    | some h =>
      dsimp only
      cases loopB (fun s => execBL x body s) i l (h - l).toNat
        (BSt.setIdx { σ := b.σ, st := [saveOf b.σ i] :: b.st } i l) <;> rfl

theorem execB_sect (nm : String) (decls stmts : List Stmt) (inp out an : List String) (b : BSt R) :
    execB x (.sect nm decls stmts inp out an) b =
      (execB x (.block decls) b).bind fun b1 =>
        (execB x (.block stmts) (enter b1)).bind fun b2 => .ok (leave b2) := by
  simp only [execB]
  cases execBL x decls b with
  | error e => rfl
  | ok b1 =>
    dsimp only [Except.bind]
    cases execBL x stmts (enter b1) <;> rfl

theorem execB_cons (s : Stmt) (ss : List Stmt) (b : BSt R) :
    execB x (.block (s :: ss)) b = (execB x s b).bind (execB x (.block ss)) := by
  simp only [execB, execBL]
  cases execB x s b <;> rfl

end Exec

end Ffcx.LNodes
