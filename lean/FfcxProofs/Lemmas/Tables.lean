/-
Theorems about the element-table model `FfcxModel/IR/Tables.lean` (C01, C10): `clamp_table_small_numbers`
(for tolerances with `atol + rtol < 1` the three passes are one choice, `clamp_eq`), the replacement of a
table classified zeros/ones by a literal, and compression.  Compression is treated with its two decisions
as variables (`compressWith`): the read of the generated code stays inside the stored array and is off by
one `isclose` step per reduced axis (`axis_step`, error growth `geom`).  `ClassifiedOnAllPerms` is a
hypothesis of the `access_compress*` theorems that cannot be dropped, since the classification inspects
permutation slice 0 only (`access_compress_needs_all_perms`).
-/
import FfcxModel.IR.Tables
import FfcxProofs.Lemmas.Basics

namespace Ffcx.IR

/-- `qabs` is the absolute value of the core library, which tests `0 ≤ x` where `qabs` tests `x < 0` -/
theorem qabs_eq_abs (x : Rat) : qabs x = x.abs := by
  unfold qabs Rat.abs; split <;> split <;> grind

theorem le_qabs (x : Rat) : x ≤ qabs x := qabs_eq_abs x ▸ (rabs_le x).1
theorem neg_le_qabs (x : Rat) : -x ≤ qabs x := qabs_eq_abs x ▸ (rabs_le x).2
theorem qabs_le {x c : Rat} (h1 : x ≤ c) (h2 : -x ≤ c) : qabs x ≤ c := by
  unfold qabs; split <;> assumption

theorem qabs_nonneg (x : Rat) : 0 ≤ qabs x := qabs_eq_abs x ▸ Rat.abs_nonneg
theorem qabs_tri (a b c : Rat) : qabs (a - c) ≤ qabs (a - b) + qabs (b - c) := by
  have := le_qabs (a - b); have := neg_le_qabs (a - b)
  have := le_qabs (b - c); have := neg_le_qabs (b - c)
  apply qabs_le <;> grind
theorem qabs_le_add (a b : Rat) : qabs a ≤ qabs b + qabs (a - b) := by
  have := le_qabs b; have := neg_le_qabs b
  have := le_qabs (a - b); have := neg_le_qabs (a - b)
  apply qabs_le <;> grind
theorem qabs_sub_comm (a b : Rat) : qabs (a - b) = qabs (b - a) := by
  rw [qabs_eq_abs, qabs_eq_abs, Rat.abs_sub_comm]
theorem qabs_zero : qabs 0 = 0 := by decide
theorem qabs_one : qabs 1 = 1 := by decide
theorem qabs_sub_self (a : Rat) : qabs (a - a) = 0 := by rw [Rat.sub_self, qabs_zero]
theorem eq_of_qabs_sub_le (a b : Rat) (h : qabs (a - b) ≤ 0) : a = b := by
  have := le_qabs (a - b); have := neg_le_qabs (a - b); grind

theorem tol_nonneg {rtol atol : Rat} (hr : 0 ≤ rtol) (ha : 0 ≤ atol) (x : Rat) :
    0 ≤ atol + rtol * qabs x := Rat.add_nonneg ha (Rat.mul_nonneg hr (qabs_nonneg x))

theorem isClose_iff (rtol atol a b : Rat) :
    isClose rtol atol a b = true ↔ qabs (a - b) ≤ atol + rtol * qabs b := by
  simp [isClose]

theorem isClose_refl (rtol atol a : Rat) (hr : 0 ≤ rtol) (ha : 0 ≤ atol) :
    isClose rtol atol a a = true := by
  rw [isClose_iff, qabs_sub_self]
  exact tol_nonneg hr ha a

theorem isClose_zero_tol (a b : Rat) : isClose 0 0 a b = true ↔ a = b := by
  refine ⟨fun h => ?_, fun h => h ▸ isClose_refl 0 0 a Rat.le_refl Rat.le_refl⟩
  rw [isClose_iff, Rat.zero_mul, Rat.add_zero] at h
  exact eq_of_qabs_sub_le a b h

theorem isClose_far (rtol atol m n : Rat) (hr : 0 ≤ rtol) (hsmall : atol + rtol < 1)
    (hn : qabs n ≤ 1) (hmn : 1 ≤ qabs (m - n)) : isClose rtol atol m n = false := by
  have := Rat.mul_le_mul_of_nonneg_left hn hr
  rw [← Bool.not_eq_true, isClose_iff]
  grind

theorem allBelow_iff (n : Nat) (f : Nat → Bool) :
    allBelow n f = true ↔ ∀ i, i < n → f i = true := by
  simp [allBelow, List.all_eq_true]

theorem clampTo_close {rtol atol n x : Rat} (h : isClose rtol atol x n = true) :
    clampTo rtol atol n x = n := if_pos h

theorem clampTo_far {rtol atol n x : Rat} (h : isClose rtol atol x n = false) :
    clampTo rtol atol n x = x := if_neg (by rw [h]; exact Bool.false_ne_true)

/-- For tolerances with `atol + rtol < 1` the three passes `-1, 0, 1` cannot chain (a clamped entry
is too far from the two other numbers): the entry moves to the first of `-1, 0, 1` it is close to. -/
theorem clamp_eq (rtol atol x : Rat) (hr : 0 ≤ rtol) (hsmall : atol + rtol < 1) :
    clamp rtol atol x =
      if isClose rtol atol x (-1) then -1 else if isClose rtol atol x 0 then 0
      else if isClose rtol atol x 1 then 1 else x := by
  have far := fun m n => isClose_far rtol atol m n hr hsmall
  unfold clamp
  cases h1 : isClose rtol atol x (-1)
  · rw [clampTo_far h1]
    cases h2 : isClose rtol atol x 0
    · rw [clampTo_far h2]
      cases h3 : isClose rtol atol x 1
      · rw [clampTo_far h3]; rfl
      · rw [clampTo_close h3]; rfl
    · rw [clampTo_close h2, clampTo_far (far 0 1 (by decide +kernel) (by decide +kernel))]; rfl
  · rw [clampTo_close h1, clampTo_far (far (-1) 0 (by decide +kernel) (by decide +kernel)),
      clampTo_far (far (-1) 1 (by decide +kernel) (by decide +kernel))]; rfl

/-- `|clamp x − x| ≤ atol + rtol·|n|` for the clamped-to number `n = clamp x` (and `0` if the
entry is not clamped), for tolerances with `atol + rtol < 1` (so that the three passes
`-1, 0, 1` cannot chain). -/
theorem clamp_bound (rtol atol x : Rat) (hr : 0 ≤ rtol) (ha : 0 ≤ atol) (hsmall : atol + rtol < 1) :
    qabs (clamp rtol atol x - x) ≤ atol + rtol * qabs (clamp rtol atol x) ∧
    (clamp rtol atol x = x ∨ clamp rtol atol x = -1 ∨ clamp rtol atol x = 0 ∨
      clamp rtol atol x = 1) := by
  have moved : ∀ n, isClose rtol atol x n = true → qabs (n - x) ≤ atol + rtol * qabs n :=
    fun n h => qabs_sub_comm x n ▸ (isClose_iff ..).1 h
  rw [clamp_eq rtol atol x hr hsmall]
  split
  · exact ⟨moved _ ‹_›, .inr (.inl rfl)⟩
  split
  · exact ⟨moved _ ‹_›, .inr (.inr (.inl rfl))⟩
  split
  · exact ⟨moved _ ‹_›, .inr (.inr (.inr rfl))⟩
  · exact ⟨(isClose_iff ..).1 (isClose_refl _ _ x hr ha), .inl rfl⟩

theorem clamp_idem (rtol atol x : Rat) (hr : 0 ≤ rtol) (ha : 0 ≤ atol) (hsmall : atol + rtol < 1) :
    clamp rtol atol (clamp rtol atol x) = clamp rtol atol x := by
  obtain ⟨_, h | h⟩ := clamp_bound rtol atol x hr ha hsmall
  · rw [h]; exact h
  · -- `-1`, `0`, `1` are fixed: each is close to itself and far from the numbers tried before it
    have far := fun m n => isClose_far rtol atol m n hr hsmall
    rw [clamp_eq rtol atol _ hr hsmall]
    rcases h with h | h | h <;> rw [h]
    · rw [isClose_refl _ _ _ hr ha]; rfl
    · rw [far 0 (-1) (by decide +kernel) (by decide +kernel), isClose_refl _ _ _ hr ha]; rfl
    · rw [far 1 (-1) (by decide +kernel) (by decide +kernel),
        far 1 0 (by decide +kernel) (by decide +kernel), isClose_refl _ _ _ hr ha]; rfl

/-- non-vacuity / the default tolerances -/
example : clamp (1/1000000) (1/1000000000) (1 - 1/10000000) = 1 ∧
    clamp (1/1000000) (1/1000000000) (1/2) = 1/2 ∧
    clamp (1/1000000) (1/1000000000) (-1/10000000000) = 0 := by decide +kernel

theorem clampTable_val (rtol atol : Rat) (t : Table) (p e q d : Nat) :
    (clampTable rtol atol t).val p e q d = clamp rtol atol (t.val p e q d) := by
  unfold clampTable; rfl

theorem isZeros_entry (rtol atol : Rat) (t : Table) (h : isZerosTable rtol atol t = true)
    (p e q d : Nat) (hp : p < t.P) (he : e < t.E) (hq : q < t.Q) (hd : d < t.D) :
    isClose rtol atol (t.val p e q d) 0 = true := by
  unfold isZerosTable at h
  rw [Bool.or_eq_true] at h
  rcases h with h | h
  · have h0 : t.P * t.E * t.Q * t.D = 0 := by simpa [Table.size] using h
    have := Nat.mul_pos (Nat.mul_pos (Nat.mul_pos (Nat.zero_lt_of_lt hp) (Nat.zero_lt_of_lt he))
      (Nat.zero_lt_of_lt hq)) (Nat.zero_lt_of_lt hd)
    omega
  · simp only [allBelow_iff] at h
    exact h p hp e he q hq d hd

theorem isOnes_entry (rtol atol : Rat) (t : Table) (h : isOnesTable rtol atol t = true)
    (p e q d : Nat) (hp : p < t.P) (he : e < t.E) (hq : q < t.Q) (hd : d < t.D) :
    isClose rtol atol (t.val p e q d) 1 = true := by
  unfold isOnesTable at h
  simp only [allBelow_iff] at h
  exact h p hp e he q hq d hd

/-- the `if/elif` chain of `analyse_table_type` as a function of the five predicates -/
def analyseOf (zeros ones quadrature piecewise uniform : Bool) : TType :=
  if zeros then .zeros else if ones then .ones else if quadrature then .quadrature
  else if piecewise && uniform then .fixed else if piecewise then .piecewise
  else if uniform then .uniform else .varying

theorem analyse_eq (rtol atol : Rat) (t : Table) :
    analyse rtol atol t = analyseOf (isZerosTable rtol atol t) (isOnesTable rtol atol t)
      (isQuadratureTable rtol atol t) (isPiecewiseTable rtol atol t) (isUniformTable rtol atol t) := rfl

theorem analyseOf_zeros : ∀ z o q pw un, analyseOf z o q pw un = .zeros → z = true := by decide
theorem analyseOf_ones : ∀ z o q pw un, analyseOf z o q pw un = .ones → o = true := by decide
theorem analyseOf_piecewise : ∀ z o q pw un, (analyseOf z o q pw un).isPiecewise = true →
    analyseOf z o q pw un ≠ .zeros → analyseOf z o q pw un ≠ .ones → pw = true := by decide

theorem analyse_zeros (rtol atol : Rat) (t : Table) (h : analyse rtol atol t = .zeros) :
    isZerosTable rtol atol t = true := analyseOf_zeros _ _ _ _ _ (analyse_eq rtol atol t ▸ h)

theorem analyse_ones (rtol atol : Rat) (t : Table) (h : analyse rtol atol t = .ones) :
    isOnesTable rtol atol t = true := analyseOf_ones _ _ _ _ _ (analyse_eq rtol atol t ▸ h)

/-- A table classified `zeros` (and then replaced by the literal `0`): every entry is within
`atol` of `0` (`rtol·|0| = 0`). -/
theorem zeros_replacement (rtol atol : Rat) (t : Table) (h : analyse rtol atol t = .zeros)
    (p e q d : Nat) (hp : p < t.P) (he : e < t.E) (hq : q < t.Q) (hd : d < t.D) :
    qabs (t.val p e q d - 0) ≤ atol := by
  have := (isClose_iff ..).1 (isZeros_entry rtol atol t (analyse_zeros _ _ _ h) p e q d hp he hq hd)
  rw [qabs_zero, Rat.mul_zero, Rat.add_zero] at this
  exact this

/-- A table classified `ones` (and then replaced by the literal `1`): every entry is within
`atol + rtol` of `1`. -/
theorem ones_replacement (rtol atol : Rat) (t : Table) (h : analyse rtol atol t = .ones)
    (p e q d : Nat) (hp : p < t.P) (he : e < t.E) (hq : q < t.Q) (hd : d < t.D) :
    qabs (t.val p e q d - 1) ≤ atol + rtol := by
  have := (isClose_iff ..).1 (isOnes_entry rtol atol t (analyse_ones _ _ _ h) p e q d hp he hq hd)
  rw [qabs_one, Rat.mul_one] at this
  exact this

theorem reduceByType_eq (tt : TType) (t : Table) :
    reduceByType tt t = { t with E := if tt.isUniform then min 1 t.E else t.E,
                                 Q := if tt.isPiecewise then min 1 t.Q else t.Q } := by
  unfold reduceByType Table.slicePoints Table.sliceEntities
  cases tt.isPiecewise <;> cases tt.isUniform <;> rfl

/-- `compress` for given decisions `tt` (table type) and `perm` (is permuted) -/
def compressWith (tt : TType) (perm : Bool) (t : Table) : Compressed :=
  { ttype := tt, isPermuted := perm,
    table := if perm then reduceByType tt t else (reduceByType tt t).slicePerms }

theorem compress_eq (rtol atol : Rat) (t : Table) :
    compress rtol atol t = compressWith (analyse rtol atol t)
      (isPermutedTable rtol atol (reduceByType (analyse rtol atol t) t)) t := rfl

theorem compressWith_table (tt : TType) (perm : Bool) (t : Table) :
    (compressWith tt perm t).table =
      { t with P := if perm then t.P else min 1 t.P,
               E := if tt.isUniform then min 1 t.E else t.E,
               Q := if tt.isPiecewise then min 1 t.Q else t.Q } := by
  unfold compressWith
  rw [reduceByType_eq]
  cases perm <;> rfl

/-- The read of the generated code never leaves the compressed array, and returns the entry of
the UNcompressed table at the replaced indices. -/
theorem tableAccess_compressWith (tt : TType) (perm : Bool) (t : Table) (p e q d : Nat)
    (hp : p < t.P) (he : e < t.E) (hq : q < t.Q) (hd : d < t.D) :
    tableAccess (compressWith tt perm t) p e q d =
      some (t.val (if perm then p else 0) (if tt.isUniform then 0 else e)
        (if tt.isPiecewise then 0 else q) d) := by
  show (compressWith tt perm t).table.get? (if perm then p else 0) (if tt.isUniform then 0 else e)
    (if tt.isPiecewise then 0 else q) d = _
  rw [compressWith_table]
  refine if_pos ⟨?_, ?_, ?_, hd⟩ <;> dsimp only <;> split <;> omega

/-- error growth of a chain of `k` `isclose` steps: `geom r k = Σ_{j<k} (1+r)^j` -/
def geom (r : Rat) : Nat → Rat
  | 0 => 0
  | k + 1 => (1 + r) * geom r k + 1

theorem geom_nonneg (r : Rat) (hr : 0 ≤ r) (k : Nat) : 0 ≤ geom r k := by
  induction k with
  | zero => exact Rat.le_refl
  | succ k ih =>
    have : 0 ≤ (1 + r) * geom r k := Rat.mul_nonneg (by grind) ih
    simp only [geom]; grind

theorem geom_three (r : Rat) : geom r 3 = 3 + 3 * r + r * r := by
  simp only [geom]; grind

theorem geom_mono (r : Rat) (hr : 0 ≤ r) {j k : Nat} (h : j ≤ k) : geom r j ≤ geom r k := by
  induction h with
  | refl => exact Rat.le_refl
  | @step k _ ih =>
    -- `geom r (k+1) = geom r k + (r * geom r k + 1)`
    have := Rat.mul_nonneg hr (geom_nonneg r hr k)
    simp only [geom]; grind

/-- number of axes that compression reduced (= `isclose` steps between the stored and the
original entry) -/
def nReductions (c : Compressed) : Nat :=
  (if c.ttype.isPiecewise then 1 else 0) + (if c.ttype.isUniform then 1 else 0) +
  (if c.isPermuted then 0 else 1)

theorem step_bound (rtol atol x y y' g : Rat) (hr : 0 ≤ rtol)
    (h1 : qabs (y' - y) ≤ atol + rtol * qabs y)
    (h2 : qabs (y - x) ≤ g * (atol + rtol * qabs x)) :
    qabs (y' - x) ≤ ((1 + rtol) * g + 1) * (atol + rtol * qabs x) := by
  -- `rtol·|y| ≤ rtol·(|x| + g·τ)`
  have hy := Rat.mul_le_mul_of_nonneg_left (Rat.le_trans (qabs_le_add y x)
    ((Rat.add_le_add_left (c := qabs x)).2 h2)) hr
  have ht := qabs_tri y' y x
  grind

/-- One axis of the compression.  If the axis is reduced (`b`), the code has checked
`all(allclose(a[0], a[i]) for i in range(1, n))` and reads entry `0` in place of entry `i`: one more `isclose`
step in the chain from the original entry `x`; otherwise it reads entry `i` itself. -/
theorem axis_step (rtol atol : Rat) (hr : 0 ≤ rtol) (ha : 0 ≤ atol) (b : Bool) (n : Nat)
    (inner : Nat → Bool) (v : Nat → Rat) (i : Nat) (hi : i < n) (x : Rat) (k : Nat)
    (hall : b = true → allBelow n (fun i => i == 0 || inner i) = true)
    (hin : inner i = true → isClose rtol atol (v 0) (v i) = true)
    (h2 : qabs (v i - x) ≤ geom rtol k * (atol + rtol * qabs x)) :
    qabs (v (if b then 0 else i) - x) ≤
      geom rtol (k + (if b then 1 else 0)) * (atol + rtol * qabs x) := by
  cases b
  · exact h2
  · refine step_bound rtol atol x (v i) (v 0) _ hr ?_ h2
    rw [← isClose_iff]
    rcases Bool.or_eq_true _ _ ▸ (allBelow_iff _ _).1 (hall rfl) i hi with h0 | h1
    · rw [beq_iff_eq.1 h0]; exact isClose_refl _ _ _ hr ha
    · exact hin h1

/-- what the classification itself establishes for a piecewise type: the predicate on permutation slice 0
only (`ClassifiedOnAllPerms` asks for it on every slice) -/
theorem analyse_piecewise_slice0 (rtol atol : Rat) (t : Table)
    (h : (analyse rtol atol t).isPiecewise = true)
    (hz : analyse rtol atol t ≠ .zeros) (ho : analyse rtol atol t ≠ .ones) :
    isPiecewiseTable rtol atol t = true := analyseOf_piecewise _ _ _ _ _ h hz ho

theorem classified_slices (rtol atol : Rat) (tt : TType) (t : Table)
    (hcls : classifiedOnAllPerms rtol atol tt t = true) (hz : tt ≠ .zeros) (ho : tt ≠ .ones)
    (p : Nat) (hp : p < t.P) :
    (tt.isPiecewise = true → isPiecewiseSlice rtol atol t p = true) ∧
    (tt.isUniform = true → isUniformSlice rtol atol t p = true) := by
  cases tt with
  | zeros => exact absurd rfl hz
  | ones => exact absurd rfl ho
  | fixed =>
    have h := Bool.and_eq_true_iff.1 ((allBelow_iff _ _).1 hcls p hp)
    exact ⟨fun _ => h.1, fun _ => h.2⟩
  | piecewise => exact ⟨fun _ => (allBelow_iff _ _).1 hcls p hp, Bool.noConfusion⟩
  | uniform => exact ⟨Bool.noConfusion, fun _ => (allBelow_iff _ _).1 hcls p hp⟩
  | quadrature | varying => exact ⟨Bool.noConfusion, Bool.noConfusion⟩

/-- The tolerance version for given decisions `tt`, `perm`: one `isclose` step per reduced axis
(point axis, entity axis, then the permutation axis, compared on the reduced table as
`is_permuted_table` is called there), each relative to the previous intermediate entry. -/
theorem compressWith_tol (rtol atol : Rat) (hr : 0 ≤ rtol) (ha : 0 ≤ atol) (tt : TType) (perm : Bool)
    (t : Table) (hcls : classifiedOnAllPerms rtol atol tt t = true) (hz : tt ≠ .zeros)
    (ho : tt ≠ .ones) (hperm : isPermutedTable rtol atol (reduceByType tt t) = perm)
    (p e q d : Nat) (hp : p < t.P) (he : e < t.E) (hq : q < t.Q) (hd : d < t.D) :
    qabs (t.val (if perm then p else 0) (if tt.isUniform then 0 else e)
        (if tt.isPiecewise then 0 else q) d - t.val p e q d) ≤
      geom rtol (nReductions (compressWith tt perm t)) * (atol + rtol * qabs (t.val p e q d)) := by
  have he' : (if tt.isUniform then 0 else e) < if tt.isUniform then min 1 t.E else t.E := by
    split <;> omega
  have hq' : (if tt.isPiecewise then 0 else q) < t.Q ∧
      (if tt.isPiecewise then 0 else q) < if tt.isPiecewise then min 1 t.Q else t.Q := by
    split <;> omega
  have hsl := classified_slices rtol atol tt t hcls hz ho p hp
  have s0 : qabs (t.val p e q d - t.val p e q d) ≤
      geom rtol 0 * (atol + rtol * qabs (t.val p e q d)) := by
    rw [qabs_sub_self, geom, Rat.zero_mul]; exact Rat.le_refl
  -- In each of the three steps `inner` (the body of the Python `all(...)`), the original entry `x` and the
  -- number of steps so far `k` are left to unification: `hall` is the slice predicate, which unfolds to
  -- `allBelow n (fun i => i == 0 || inner i)`, and `h2` is the bound of the previous step.
  have s1 := axis_step rtol atol hr ha tt.isPiecewise t.Q _ (fun i => t.val p e i d) q hq _ _ hsl.1
    (fun h => (allBelow_iff _ _).1 ((allBelow_iff _ _).1 h e he) d hd) s0
  have s2 := axis_step rtol atol hr ha tt.isUniform t.E _ (fun i => t.val p i _ d) e he _ _ hsl.2
    (fun h => (allBelow_iff _ _).1 ((allBelow_iff _ _).1 h _ hq'.1) d hd) s1
  have s3 := axis_step rtol atol hr ha (!perm) t.P _ (fun i => t.val i _ _ d) p hp _ _
    (fun h => by
      have hnp : isPermutedTable rtol atol (reduceByType tt t) = false := by rw [hperm]; simpa using h
      rw [reduceByType_eq] at hnp
      exact (Bool.not_eq_false' _).mp hnp)
    (fun h => (allBelow_iff _ _).1 ((allBelow_iff _ _).1 ((allBelow_iff _ _).1 h _ he') _ hq'.2) d hd) s2
  -- the permutation axis is reduced when the table is NOT permuted, hence `b := !perm` above; `e'`
  -- turns `if !perm then 1 else 0` into the `if perm then 0 else 1` of `nReductions`, and likewise the index
  have e' : ∀ (b : Bool) (x y : Nat), (if (!b) = true then x else y) = if b = true then y else x := by
    intro b x y; cases b <;> rfl
  rw [Nat.zero_add, e', e'] at s3
  exact s3

/-- **Tolerance version.**  For a table that is not replaced by a literal (`zeros`/`ones`), whose
classification holds on every permutation slice, the value the generated code reads from the
compressed table differs from the original entry by at most
`geom rtol k · (atol + rtol·|t[p][e][q][d]|)` where `k ≤ 3` is the number of reduced axes and
`geom r k = Σ_{j<k} (1+r)^j` (`k·(…)` to first order in `rtol`). -/
theorem access_compress_tol (rtol atol : Rat) (t : Table) (hr : 0 ≤ rtol) (ha : 0 ≤ atol)
    (hcls : ClassifiedOnAllPerms rtol atol t)
    (hz : analyse rtol atol t ≠ .zeros) (ho : analyse rtol atol t ≠ .ones)
    (p e q d : Nat) (hp : p < t.P) (he : e < t.E) (hq : q < t.Q) (hd : d < t.D) :
    ∃ y, tableAccess (compress rtol atol t) p e q d = some y ∧
      qabs (y - t.val p e q d) ≤
        geom rtol (nReductions (compress rtol atol t)) * (atol + rtol * qabs (t.val p e q d)) := by
  rw [compress_eq]
  exact ⟨_, tableAccess_compressWith _ _ t p e q d hp he hq hd,
    compressWith_tol rtol atol hr ha _ _ t hcls hz ho rfl p e q d hp he hq hd⟩

/-- The constant never exceeds `3 + 3·rtol + rtol²`. -/
theorem access_compress_tol3 (rtol atol : Rat) (t : Table) (hr : 0 ≤ rtol) (ha : 0 ≤ atol)
    (hcls : ClassifiedOnAllPerms rtol atol t)
    (hz : analyse rtol atol t ≠ .zeros) (ho : analyse rtol atol t ≠ .ones)
    (p e q d : Nat) (hp : p < t.P) (he : e < t.E) (hq : q < t.Q) (hd : d < t.D) :
    ∃ y, tableAccess (compress rtol atol t) p e q d = some y ∧
      qabs (y - t.val p e q d) ≤
        (3 + 3 * rtol + rtol * rtol) * (atol + rtol * qabs (t.val p e q d)) := by
  obtain ⟨y, h1, h2⟩ := access_compress_tol rtol atol t hr ha hcls hz ho p e q d hp he hq hd
  refine ⟨y, h1, Rat.le_trans h2 ?_⟩
  have hk : nReductions (compress rtol atol t) ≤ 3 := by
    unfold nReductions
    cases (compress rtol atol t).ttype.isPiecewise <;> cases (compress rtol atol t).ttype.isUniform <;>
      cases (compress rtol atol t).isPermuted <;> decide
  exact geom_three rtol ▸ Rat.mul_le_mul_of_nonneg_right (geom_mono rtol hr hk) (tol_nonneg hr ha _)

/-- **Exact version.**  With both tolerances 0 and the classification valid on every permutation
slice, the generated code reads exactly `t[p][e][q][d]` — for every table type. -/
theorem access_compress (t : Table) (hcls : ClassifiedOnAllPerms 0 0 t)
    (p e q d : Nat) (hp : p < t.P) (he : e < t.E) (hq : q < t.Q) (hd : d < t.D) :
    tableAccess (compress 0 0 t) p e q d = some (t.val p e q d) := by
  -- a table classified `zeros` or `ones` is constant
  have const : ∀ c : Rat, (∀ p e q d, p < t.P → e < t.E → q < t.Q → d < t.D → t.val p e q d = c) →
      tableAccess (compress 0 0 t) p e q d = some (t.val p e q d) := fun c ent => by
    rw [compress_eq, tableAccess_compressWith _ _ t p e q d hp he hq hd, ent p e q d hp he hq hd,
      ent _ _ _ d (by split <;> omega) (by split <;> omega) (by split <;> omega) hd]
  by_cases hz : analyse 0 0 t = .zeros
  · exact const 0 fun p e q d hp he hq hd => (isClose_zero_tol _ _).1
      (isZeros_entry 0 0 t (analyse_zeros _ _ _ hz) p e q d hp he hq hd)
  by_cases ho : analyse 0 0 t = .ones
  · exact const 1 fun p e q d hp he hq hd => (isClose_zero_tol _ _).1
      (isOnes_entry 0 0 t (analyse_ones _ _ _ ho) p e q d hp he hq hd)
  obtain ⟨y, h1, h2⟩ := access_compress_tol 0 0 t Rat.le_refl Rat.le_refl hcls hz ho p e q d hp he hq hd
  rw [Rat.zero_mul, Rat.add_zero, Rat.mul_zero] at h2
  rw [h1, eq_of_qabs_sub_le y _ h2]

/-- a `[2][2][2][1]` table, constant over points on BOTH permutation slices, different on the
two entities and on the two permutations: classified `piecewise`, permuted -/
def exPiecewise : Table :=
  Table.ofFlat 2 2 2 1 #[1/2, 1/2, 1/3, 1/3,   1/5, 1/5, 1/7, 1/7]

example : ClassifiedOnAllPerms 0 0 exPiecewise ∧ analyse 0 0 exPiecewise = .piecewise ∧
    (compress 0 0 exPiecewise).isPermuted = true ∧ (compress 0 0 exPiecewise).table.Q = 1 ∧
    tableAccess (compress 0 0 exPiecewise) 1 1 1 0 = some (1/7) := by decide +kernel

example : ClassifiedOnAllPerms (1/1000000) (1/1000000000) exPiecewise := by decide +kernel

/-- slice 0 is constant over points, slice 1 is NOT: still classified `piecewise` (only slice 0 is
inspected), the point axis of BOTH slices is dropped, after which the two slices agree and the
permutation axis is dropped too -/
def exSlice0Only : Table :=
  Table.ofFlat 2 2 2 1 #[1/2, 1/2, 1/5, 1/5,   1/2, 1/3, 1/5, 1/5]

/-- `ClassifiedOnAllPerms` cannot be dropped from `access_compress`: on `exSlice0Only` the model of
the code classifies `piecewise`, and the read for permutation 1, point 1 returns `1/2` while the
table entry is `1/3`. -/
theorem access_compress_needs_all_perms :
    ¬ ClassifiedOnAllPerms 0 0 exSlice0Only ∧ analyse 0 0 exSlice0Only = .piecewise ∧
    tableAccess (compress 0 0 exSlice0Only) 1 0 1 0 = some (1/2) ∧
    exSlice0Only.val 1 0 1 0 = 1/3 := by decide +kernel

end Ffcx.IR
