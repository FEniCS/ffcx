/-
`LawfulEnv`: what `factorize_sound` asks of the interpretation of literals and conjugation.  Then the
soundness of `graphInsert` and of the UFL constructors of the factorisation model (`mkSum … mkCond`),
each as `Yields`: the graph only grows, stays closed, and the returned node has the value of the
operation.
-/
import FfcxProofs.Lemmas.GraphEval

namespace Ffcx.IR
open Lean.Grind

structure LawfulEnv {R : Type} [Field R] (ρ : Env R) : Prop where
  ofRat_zero : ρ.ofRat 0 = 0
  ofRat_one : ρ.ofRat 1 = 1
  ofRat_add : ∀ a b, ρ.ofRat (a + b) = ρ.ofRat a + ρ.ofRat b
  ofRat_mul : ∀ a b, ρ.ofRat (a * b) = ρ.ofRat a * ρ.ofRat b
  ofRat_div : ∀ a b, ρ.ofRat (a / b) = ρ.ofRat a / ρ.ofRat b
  conj_zero : ρ.conj 0 = 0
  conj_one : ρ.conj 1 = 1
  conj_add : ∀ a b, ρ.conj (a + b) = ρ.conj a + ρ.conj b
  conj_mul : ∀ a b, ρ.conj (a * b) = ρ.conj a * ρ.conj b
  conj_conj : ∀ a, ρ.conj (ρ.conj a) = a
  conj_ofRat : ∀ q, ρ.conj (ρ.ofRat q) = ρ.ofRat q
  conj_abs : ∀ a, ρ.conj (ρ.abs a) = ρ.abs a
  conj_re : ∀ a, ρ.conj (ρ.re a) = ρ.re a
  conj_im : ∀ a, ρ.conj (ρ.im a) = ρ.im a

section
variable {R : Type} [Field R] (ρ : Env R)

theorem graphInsert_ext (F : Array Node) (n : Node) : Ext F (graphInsert F n).1 := by
  unfold graphInsert
  by_cases h : List.idxOf n F.toList < F.size
  · simp only [if_pos h]; exact Ext.refl _
  · simp only [if_neg h]; exact Ext.push _ (Ext.refl _)

theorem graphInsert_closed (F : Array Node) (n : Node) (hc : Closed F)
    (hn : ∀ d ∈ n.deps, d < F.size) : Closed (graphInsert F n).1 := by
  unfold graphInsert
  dsimp only
  split
  · exact hc
  · exact closed_push F n hc hn

/-- the returned index holds `n`: where `idxOf` found it, or at the end where it was pushed -/
theorem graphInsert_node (F : Array Node) (n : Node) :
    (graphInsert F n).2 < (graphInsert F n).1.size ∧
    nodeAt (graphInsert F n).1 (graphInsert F n).2 = n := by
  unfold graphInsert
  by_cases h : List.idxOf n F.toList < F.size
  · simp only [if_pos h]
    refine ⟨h, ?_⟩
    rw [nodeAt_eq F _ h, ← Array.getElem_toList]
    exact List.getElem_idxOf _
  · simp only [if_neg h]
    refine ⟨by simp, ?_⟩
    unfold nodeAt; simp

theorem val_of_kind (F : Array Node) (hc : Closed F) (a : Nat) (ha : a < F.size) :
    val ρ F a = evalKind ρ (kindAt F a) ((nodeAt F a).deps.map (val ρ F)) :=
  (val_eq_evalNode' ρ F hc a ha).trans (evalNode_eq ..)

theorem val_zero_of_kind (F : Array Node) (hc : Closed F) (a : Nat) (ha : a < F.size)
    (hk : kindAt F a = .zero) : val ρ F a = 0 := by
  rw [val_of_kind ρ F hc a ha, hk]; rfl

theorem val_lit_of_kind (F : Array Node) (hc : Closed F) (a : Nat) (ha : a < F.size)
    (c : Bool) (v : Rat) (hk : kindAt F a = .lit c v) : val ρ F a = ρ.ofRat v := by
  rw [val_of_kind ρ F hc a ha, hk]; rfl

/-- what every constructor on `F` guarantees: the graph grows, stays closed, and the returned
index is a node with the given value -/
structure Yields (F : Array Node) (r : Array Node × Nat) (v : R) : Prop where
  ext : Ext F r.1
  closed : Closed r.1
  lt : r.2 < r.1.size
  eq : val ρ r.1 r.2 = v

theorem Yields.old {F : Array Node} (hc : Closed F) {a : Nat} (ha : a < F.size) :
    Yields ρ F (F, a) (val ρ F a) := ⟨Ext.refl _, hc, ha, rfl⟩

/-- an inserted node: `evalNode` on the values of its operands in the OLD graph -/
theorem Yields.insert {F : Array Node} (hc : Closed F) (n : Node) (hn : ∀ d ∈ n.deps, d < F.size) :
    Yields ρ F (graphInsert F n) (evalNode ρ (val ρ F) n) := by
  have hx := graphInsert_ext F n
  have hc' := graphInsert_closed F n hc hn
  obtain ⟨hlt, hnode⟩ := graphInsert_node F n
  refine ⟨hx, hc', hlt, ?_⟩
  rw [val_eq_evalNode' ρ _ hc' _ hlt, hnode]
  exact evalNode_congr ρ _ _ _ fun d hd => hx.val_eq ρ d (hn d hd)

theorem Yields.insert_zero {F : Array Node} (hc : Closed F) :
    Yields ρ F (graphInsert F Node.zero) 0 := .insert ρ hc Node.zero (fun _ h => nomatch h)

theorem Yields.insert_lit (hρ : LawfulEnv ρ) {F : Array Node} (hc : Closed F) (c : Bool) (v : Rat) :
    Yields ρ F (graphInsert F (mkLit c v)) (ρ.ofRat v) := by
  unfold mkLit
  split
  · rename_i h; rw [h, hρ.ofRat_zero]; exact .insert_zero ρ hc
  · exact .insert ρ hc ⟨.lit c v, []⟩ (fun _ h => nomatch h)

theorem Ext.lift {F0 F : Array Node} (hx : Ext F0 F) {a : Nat} (ha : a < F0.size) :
    a < F.size ∧ val ρ F0 a = val ρ F a :=
  ⟨Nat.lt_of_lt_of_le ha hx.size_le, (hx.val_eq ρ a ha).symm⟩

theorem Yields.lifted {F0 F : Array Node} (hx : Ext F0 F) (hc : Closed F) {a : Nat}
    (ha : a < F0.size) : Yields ρ F (F, a) (val ρ F0 a) :=
  have ⟨h, e⟩ := hx.lift ρ ha
  e ▸ .old ρ hc h

theorem normPair_cases (F : Array Node) (a b : Nat) :
    normPair F a b = [a, b] ∨ normPair F a b = [b, a] := by
  unfold normPair
  split
  · exact .inl rfl
  split
  · exact .inr rfl
  split
  · exact .inl rfl
  · exact .inr rfl

theorem normPair_mem (F : Array Node) (a b d : Nat) (h : d ∈ normPair F a b) : d = a ∨ d = b := by
  rcases normPair_cases F a b with e | e <;> rw [e] at h <;> simp at h <;> omega

theorem evalNode_sum_normPair (F : Array Node) (look : Nat → R) (a b : Nat) :
    evalNode ρ look ⟨.sum, normPair F a b⟩ = look a + look b := by
  rcases normPair_cases F a b with e | e <;> rw [e]
  · rfl
  · exact AddCommMonoid.add_comm _ _

theorem evalNode_prod_normPair (F : Array Node) (look : Nat → R) (a b : Nat) :
    evalNode ρ look ⟨.prod, normPair F a b⟩ = look a * look b := by
  rcases normPair_cases F a b with e | e <;> rw [e]
  · rfl
  · exact CommSemiring.mul_comm _ _

/-! Each constructor is applied to a graph `F` that extends `F0`, on nodes of `F0`; the value is stated
in `F0`.  The exception is `mkCond_sound`: its branches `t`, `f` are nodes of `F` with values in `F`,
because `handle_conditional` may have inserted the zero node they point to after `F0`. -/

theorem mkSum_sound (hρ : LawfulEnv ρ) {F0 F : Array Node} (hx : Ext F0 F) (hc : Closed F)
    (a b : Nat) (ha : a < F0.size) (hb : b < F0.size) :
    Yields ρ F (mkSum F a b) (val ρ F0 a + val ρ F0 b) := by
  obtain ⟨ha, ea⟩ := hx.lift ρ ha
  obtain ⟨hb, eb⟩ := hx.lift ρ hb
  rw [ea, eb]
  unfold mkSum
  split
  · rw [val_zero_of_kind ρ F hc a ha ‹_›, AddCommMonoid.zero_add]; exact .old ρ hc hb
  · rw [val_zero_of_kind ρ F hc b hb ‹_›, AddCommMonoid.add_zero]; exact .old ρ hc ha
  · rw [val_lit_of_kind ρ F hc a ha _ _ ‹_›, val_lit_of_kind ρ F hc b hb _ _ ‹_›, ← hρ.ofRat_add]
    exact .insert_lit ρ hρ hc _ _
  · rw [← evalNode_sum_normPair ρ F]
    exact .insert ρ hc ⟨.sum, normPair F a b⟩ fun d hd => by
      rcases normPair_mem F a b d hd with h | h <;> omega

theorem mkProd_sound (hρ : LawfulEnv ρ) {F0 F : Array Node} (hx : Ext F0 F) (hc : Closed F)
    (a b : Nat) (ha : a < F0.size) (hb : b < F0.size) :
    Yields ρ F (mkProd F a b) (val ρ F0 a * val ρ F0 b) := by
  obtain ⟨ha, ea⟩ := hx.lift ρ ha
  obtain ⟨hb, eb⟩ := hx.lift ρ hb
  rw [ea, eb]
  unfold mkProd
  split
  · rw [val_zero_of_kind ρ F hc a ha ‹_›, Semiring.zero_mul]; exact .insert_zero ρ hc
  · rw [val_zero_of_kind ρ F hc b hb ‹_›, Semiring.mul_zero]; exact .insert_zero ρ hc
  · rw [val_lit_of_kind ρ F hc a ha _ _ ‹_›, val_lit_of_kind ρ F hc b hb _ _ ‹_›, ← hρ.ofRat_mul]
    exact .insert_lit ρ hρ hc _ _
  · split
    · rename_i h1
      rw [val_lit_of_kind ρ F hc a ha _ _ ‹_›, h1, hρ.ofRat_one, Semiring.one_mul]
      exact .old ρ hc hb
    · exact .insert ρ hc ⟨.prod, [a, b]⟩ (by simp [ha, hb])
  · split
    · rename_i h1
      rw [val_lit_of_kind ρ F hc b hb _ _ ‹_›, h1, hρ.ofRat_one, Semiring.mul_one]
      exact .old ρ hc ha
    · rw [CommSemiring.mul_comm]
      exact .insert ρ hc ⟨.prod, [b, a]⟩ (by simp [ha, hb])
  · rw [← evalNode_prod_normPair ρ F]
    exact .insert ρ hc ⟨.prod, normPair F a b⟩ fun d hd => by
      rcases normPair_mem F a b d hd with h | h <;> omega

theorem mkDiv_sound (hρ : LawfulEnv ρ) {F0 F : Array Node} (hx : Ext F0 F) (hc : Closed F)
    (a b : Nat) (ha : a < F0.size) (hb : b < F0.size) (r : Array Node × Nat)
    (h : mkDiv F a b = .ok r) : Yields ρ F r (val ρ F0 a / val ρ F0 b) := by
  obtain ⟨ha, ea⟩ := hx.lift ρ ha
  obtain ⟨hb, eb⟩ := hx.lift ρ hb
  rw [ea, eb]
  have hdiv : Yields ρ F (graphInsert F ⟨.div, [a, b]⟩) (val ρ F a / val ρ F b) :=
    .insert ρ hc ⟨.div, [a, b]⟩ (by simp [ha, hb])
  have hone : ∀ c v, kindAt F b = .lit c v → v = 1 → Yields ρ F (F, a) (val ρ F a / val ρ F b) := by
    intro c v hk h1
    rw [val_lit_of_kind ρ F hc b hb _ _ hk, h1, hρ.ofRat_one, Field.div_eq_mul_inv,
      Field.inv_one, Semiring.mul_one]
    exact .old ρ hc ha
  unfold mkDiv at h
  split at h
  · cases h
  · cases h
    have hz := val_zero_of_kind ρ F hc a ha ‹_›
    rw [Field.div_eq_mul_inv, hz, Semiring.zero_mul]
    exact ⟨Ext.refl _, hc, ha, hz⟩
  · split at h <;> cases h
    · exact hone _ _ ‹_› ‹_›
    · rw [val_lit_of_kind ρ F hc a ha _ _ ‹_›, val_lit_of_kind ρ F hc b hb _ _ ‹_›, ← hρ.ofRat_div]
      exact .insert_lit ρ hρ hc _ _
  · split at h <;> cases h
    · exact hone _ _ ‹_› ‹_›
    · exact hdiv
  · cases h; exact hdiv

/-- the classes of which `Conj.__new__` knows that the value is real (the arms of `mkConj` that return the node itself) -/
def conjFixed : Kind → Bool
  | .abs | .real | .imag | .zero | .lit .. => true
  | _ => false

theorem conj_evalNode_fixed (hρ : LawfulEnv ρ) (look : Nat → R) (k : Kind) (ds : List Nat)
    (hk : conjFixed k = true) : ρ.conj (evalNode ρ look ⟨k, ds⟩) = evalNode ρ look ⟨k, ds⟩ := by
  cases k <;> try cases hk
  case zero => exact hρ.conj_zero
  case lit c v => exact hρ.conj_ofRat v
  -- unary operators: the value is `0` unless there is exactly one operand
  case abs | real | imag =>
    rcases ds with _ | ⟨a, _ | ⟨b, t⟩⟩
    · exact hρ.conj_zero
    · first | exact hρ.conj_abs _ | exact hρ.conj_re _ | exact hρ.conj_im _
    · exact hρ.conj_zero

theorem mkConj_sound (hρ : LawfulEnv ρ) {F0 F : Array Node} (hx : Ext F0 F) (hc : Closed F)
    (a : Nat) (ha : a < F0.size) : Yields ρ F (mkConj F a) (ρ.conj (val ρ F0 a)) := by
  obtain ⟨ha, ea⟩ := hx.lift ρ ha
  rw [ea]
  have hva := val_eq_evalNode' ρ F hc a ha
  have fixed : ∀ k ds, nodeAt F a = ⟨k, ds⟩ → conjFixed k = true →
      Yields ρ F (F, a) (ρ.conj (val ρ F a)) := by
    intro k ds hn hk
    rw [hva, hn, conj_evalNode_fixed ρ hρ _ k ds hk, ← hn, ← hva]
    exact .old ρ hc ha
  unfold mkConj
  split
  iterate 4 exact fixed _ _ ‹_› rfl
  · -- `Conj(Conj(c)) = c`
    rename_i c hn
    have hca : c < a := hc a ha c (by rw [← nodeAt_eq F a ha, hn]; exact List.mem_singleton_self c)
    rw [hva, hn]
    show Yields ρ F (F, c) (ρ.conj (ρ.conj (val ρ F c)))
    rw [hρ.conj_conj]
    exact .old ρ hc (Nat.lt_trans hca ha)
  · exact fixed _ _ ‹_› rfl
  · exact .insert ρ hc ⟨.conj, [a]⟩ (by simp [ha])

theorem mkCond_sound {F0 F : Array Node} (hx : Ext F0 F) (hc : Closed F) (c t f : Nat)
    (hcc : c < F0.size) (ht : t < F.size) (hf : f < F.size) :
    Yields ρ F (mkCond F c t f)
      (if ρ.truth (val ρ F0 c) then val ρ F t else val ρ F f) := by
  obtain ⟨hcc, ec⟩ := hx.lift ρ hcc
  rw [ec]
  unfold mkCond
  split
  · rename_i h; subst h
    rw [ite_self]
    exact .old ρ hc ht
  · exact .insert ρ hc ⟨.cond, [c, t, f]⟩ (by simp [hcc, ht, hf])

end
end Ffcx.IR
