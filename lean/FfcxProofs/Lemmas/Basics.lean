/-
Facts that mention nothing of the model, by kind: conditionals (case analysis as a term, which branch an `if` took,
congruence in the second branch); Boolean predicates on names; lists (`set` and `countP`, `getD`, `filterMap`, a
sublist of a duplicate-free list as a filter, members with distinct keys, `flatMap` up to permutation); `Rat.abs`
of sums and products (`rabs_…`).
-/
namespace Ffcx

/-- Case analysis of a conditional as a term: nested conditionals are taken apart by one `refine` with a hole per
    branch. -/
theorem ite_elim {α} {P : α → Prop} {c : Prop} [Decidable c] {t e : α} (ht : c → P t) (he : ¬ c → P e) :
    P (if c then t else e) := by
  split
  · exact ht ‹_›
  · exact he ‹_›

/-- A conditional whose value is not that of its first branch took the second.  A guard `if c: raise …` that did
    not fire: with `hne := nofun`, the guards of a generator that returned `.ok` are peeled off one by one. -/
theorem ite_eq_of_ne {α : Type} {c : Prop} [Decidable c] {a X r : α} (h : (if c then a else X) = r)
    (hne : a ≠ r) : ¬ c ∧ X = r := by
  by_cases hc : c
  · rw [if_pos hc] at h; exact absurd h hne
  · exact ⟨hc, by rwa [if_neg hc] at h⟩

/-- … and one whose value is not that of its second branch took the first (a check `if ok: … else: raise`). -/
theorem ite_eq_of_else_ne {α : Type} {c : Prop} [Decidable c] {a X r : α} (h : (if c then a else X) = r)
    (hne : X ≠ r) : c ∧ a = r := by
  by_cases hc : c
  · exact ⟨hc, by rwa [if_pos hc] at h⟩
  · rw [if_neg hc] at h; exact absurd h hne

theorem ite_congr_right {α : Type} {c : Prop} [Decidable c] {a b b' : α} (h : b = b') :
    ite c a b = ite c a b' := h ▸ rfl

section BoolPred
-- on names: with `α` left open, `forall_beq_true.mp hp` against a goal `P n ∧ Q n` unifies `α := Prop`.
-- Against a goal `a ≠ z` it still takes `P := (a ≠ ·)`, `m := z`: write `forall_beq_true (P := (· ≠ z))`.
-- `ne_of_eq_false_of_eq_true h` as the argument of `forall_or_true.mp` meets an expected type with holes and
-- guesses its test from that: elaborate it first, `(ne_of_eq_false_of_eq_true h :)`, or bind it by `have`.
variable {P : String → Prop}

theorem forall_or_true {a b : String → Bool} :
    (∀ n, (a n || b n) = true → P n) ↔ (∀ n, a n = true → P n) ∧ (∀ n, b n = true → P n) := by
  simp only [Bool.or_eq_true, or_imp, forall_and]

theorem forall_beq_true {m : String} : (∀ n, (m == n) = true → P n) ↔ P m := by
  simp only [beq_iff_eq, forall_eq']

/-- a Boolean test that rejects `A` holds only of other names: from "`e` does not mention `A`" to "the names
    `e` mentions lie in `(· ≠ A)`".  The test has the name and `e` as two arguments, as `mentionsE`, `readsS`, …
    have: `g` is then found from `hm` alone. -/
theorem ne_of_eq_false_of_eq_true {α : Type} {g : String → α → Bool} {A : String} {e : α} (hm : g A e = false) :
    ∀ n, g n e = true → n ≠ A := by
  rintro n hn rfl
  rw [hm] at hn
  cases hn

end BoolPred

theorem map_fixes {α} {f : α → α} {l : List α} (h : ∀ x ∈ l, f x = x) : l.map f = l :=
  (List.map_congr_left h).trans (List.map_id l)

theorem getElem?_set_cases {α : Type} {l : List α} {i j : Nat} {a q : α} (h : (l.set i a)[j]? = some q) :
    (j = i ∧ q = a) ∨ (j ≠ i ∧ l[j]? = some q) := by
  rw [List.getElem?_set] at h
  split at h
  · split at h
    · exact .inl ⟨‹i = j›.symm, (Option.some.inj h).symm⟩
    · cases h
  · exact .inr ⟨fun e => ‹¬i = j› e.symm, h⟩

theorem countP_le_one_of_unique {α : Type} (P : α → Bool) (l : List α)
    (h : ∀ (i j : Nat) (a b : α), l[i]? = some a → l[j]? = some b → P a = true → P b = true → i = j) :
    l.countP P ≤ 1 := by
  induction l with
  | nil => simp
  | cons a l ih =>
    have ih' := ih (fun i j x y hx hy px py => by
      have := h (i + 1) (j + 1) x y (by simpa using hx) (by simpa using hy) px py
      omega)
    by_cases pa : P a = true
    · have : l.countP P = 0 := by
        rw [List.countP_eq_zero]
        intro b hb pb
        obtain ⟨j, hj⟩ := List.mem_iff_getElem?.mp hb
        have := h 0 (j + 1) a b (by simp) (by simpa using hj) pa pb
        omega
      simp [pa, this]
    · simp [pa]; exact ih'

theorem countP_set {α : Type} (P : α → Bool) (l : List α) (i : Nat) (a b : α) (h : l[i]? = some b) :
    (l.set i a).countP P + (if P b then 1 else 0) = l.countP P + (if P a then 1 else 0) := by
  obtain ⟨hi, rfl⟩ := List.getElem?_eq_some_iff.1 h
  have := List.boole_getElem_le_countP (p := P) hi
  rw [List.countP_set hi]
  omega

theorem getD_eq_getElem' {α} (l : List α) (d : α) (t : Nat) (h : t < l.length) :
    l.getD t d = l[t] :=
  (List.getElem_eq_getD d).symm

theorem range_filterMap_getElem? {α} (g : List α) :
    (List.range g.length).filterMap (g[·]?) = g := by
  induction g with
  | nil => simp
  | cons a l ih =>
    rw [List.length_cons, List.range_succ_eq_map, List.filterMap_cons]
    simp only [List.getElem?_cons_zero, List.filterMap_map]
    congr 1

theorem filterMap_eq_map_of_forall {α β} {f : α → Option β} {g : α → β} {l : List α}
    (h : ∀ x ∈ l, f x = some (g x)) : l.filterMap f = l.map g := by
  induction l with
  | nil => rfl
  | cons a l ih =>
    rw [List.filterMap_cons, h a (by simp), List.map_cons, ih (fun x hx => h x (by simp [hx]))]

theorem sublist_eq_filter {α} [DecidableEq α] {red orig : List α} (h : red.Sublist orig)
    (hn : orig.Nodup) : red = orig.filter (fun a => decide (a ∈ red)) := by
  induction h with
  | slnil => simp
  | @cons l₁ l₂ a h ih =>
    obtain ⟨ha, hn'⟩ := List.nodup_cons.mp hn
    have : a ∉ l₁ := fun hm => ha (h.subset hm)
    simp only [List.filter_cons, this, decide_false]
    exact ih hn'
  | @cons_cons l₁ l₂ a h ih =>
    obtain ⟨ha, hn'⟩ := List.nodup_cons.mp hn
    simp only [List.filter_cons, List.mem_cons, true_or, decide_true, if_true]
    congr 1
    refine (ih hn').trans (List.filter_congr fun x hx => ?_)
    have : x ≠ a := fun hh => ha (hh ▸ hx)
    simp [this]

theorem eq_of_key_eq {α κ : Type} {key : α → κ} {l : List α} (hn : (l.map key).Nodup) {a b : α}
    (ha : a ∈ l) (hb : b ∈ l) (hk : key a = key b) : a = b := by
  have h : l.Pairwise fun a b => key a ≠ key b := List.pairwise_map.mp hn
  exact List.Pairwise.forall_of_forall_of_flip (R := fun a b => key a = key b → a = b) (fun _ _ _ => rfl)
    (h.imp fun h e => absurd e h) (h.imp fun h e => absurd e.symm h) ha hb hk

theorem perm_flatMap_congr {α β : Type} (l : List α) (f g : α → List β) (h : ∀ a ∈ l, (f a).Perm (g a)) :
    (l.flatMap f).Perm (l.flatMap g) := by
  induction l with
  | nil => simp
  | cons a l ih =>
    simp only [List.flatMap_cons]
    exact (h a (by simp)).append (ih (fun b hb => h b (by simp [hb])))

theorem rabs_le (a : Rat) : a ≤ a.abs ∧ -a ≤ a.abs := by
  rw [Rat.abs]; split <;> grind

theorem rabs_add (a b : Rat) : (a + b).abs ≤ a.abs + b.abs := by
  have ha := rabs_le a
  have hb := rabs_le b
  rw [Rat.abs]; split <;> grind

theorem rabs_add_le {a b α β : Rat} (ha : a.abs ≤ α) (hb : b.abs ≤ β) : (a + b).abs ≤ α + β := by
  have := rabs_add a b
  grind

theorem rabs_mul (a b : Rat) : (a * b).abs = a.abs * b.abs := by
  -- both sides are invariant under `a ↦ -a` and `b ↦ -b`: reduce to `0 ≤ a`, `0 ≤ b`
  have key : ∀ a b : Rat, 0 ≤ a → 0 ≤ b → (a * b).abs = a.abs * b.abs := fun a b ha hb => by
    rw [Rat.abs_of_nonneg ha, Rat.abs_of_nonneg hb, Rat.abs_of_nonneg (Rat.mul_nonneg ha hb)]
  have hneg : ∀ a : Rat, ¬ 0 ≤ a → 0 ≤ -a := fun a h => by grind
  by_cases ha : 0 ≤ a <;> by_cases hb : 0 ≤ b
  · exact key a b ha hb
  · have := key a (-b) ha (hneg b hb)
    rwa [Rat.mul_neg, Rat.abs_neg, Rat.abs_neg] at this
  · have := key (-a) b (hneg a ha) hb
    rwa [Rat.neg_mul, Rat.abs_neg, Rat.abs_neg] at this
  · have := key (-a) (-b) (hneg a ha) (hneg b hb)
    rwa [Rat.neg_mul, Rat.mul_neg, Rat.neg_neg, Rat.abs_neg, Rat.abs_neg] at this

theorem rmul_le_mul {a b c d : Rat} (h1 : a ≤ b) (h2 : c ≤ d) (ha : 0 ≤ a) (hd : 0 ≤ d) : a * c ≤ b * d :=
  Rat.le_trans (Rat.mul_le_mul_of_nonneg_left h2 ha) (Rat.mul_le_mul_of_nonneg_right h1 hd)

end Ffcx
