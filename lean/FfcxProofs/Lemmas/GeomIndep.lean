/-
Frame lemma for `quadrature_permutation` over the real LNodes semantics (`FfcxModel/LNodes/Sem.lean`):
a statement that never subscripts an integer array `a` runs identically when the contents of `a`
(and nothing else) are replaced.  First the expressions — cases of `evalI_congr`, `evalEB_congr`,
`safeE_congr` (Lemmas/AgreeOn) for "all symbols, all arrays but `a`" —, then the statements: a case of
`exec_sim` (Lemmas/ExecSim).  Used by `FfcxProofs/C03.lean` (`flag_false_independent`).
-/
import FfcxModel.LNodes.Sem
import FfcxModel.IR.Perm
import FfcxProofs.Lemmas.ExecSim
import FfcxProofs.Lemmas.AgreeOn

namespace Ffcx.Lemmas.GeomIndep
open Ffcx.LNodes Ffcx.Perm

section IntEval
variable {a : String} {iv : AList Int} {ia ia' : AList (Array Int)}

/-! `evalI` does not look at an integer array it does not subscript: `evalI_congr` with every
integer variable and the integer arrays other than `a` -/

theorem evalI_agree (h : ∀ k, k ≠ a → ia.get k = ia'.get k) (e : Expr) (hr : readsE a e = false) :
    evalI iv ia e = evalI iv ia' e :=
  evalI_congr (Ps := fun _ => True) (fun _ _ => rfl) h e (fun _ _ => trivial)
    (ne_of_eq_false_of_eq_true hr)

theorem evalISum_agree (h : ∀ k, k ≠ a → ia.get k = ia'.get k) :
    ∀ es, readsL a es = false → evalI.evalISum iv ia es = evalI.evalISum iv ia' es :=
  fun es hr => evalISum_congr (Ps := fun _ => True) (fun _ _ => rfl) h es (fun _ _ => trivial)
    (ne_of_eq_false_of_eq_true hr)

theorem evalIProd_agree (h : ∀ k, k ≠ a → ia.get k = ia'.get k) :
    ∀ es, readsL a es = false → evalI.evalIProd iv ia es = evalI.evalIProd iv ia' es :=
  fun es hr => evalIProd_congr (Ps := fun _ => True) (fun _ _ => rfl) h es (fun _ _ => trivial)
    (ne_of_eq_false_of_eq_true hr)

theorem evalIs_agree (h : ∀ k, k ≠ a → ia.get k = ia'.get k) (es : List Expr)
    (hr : readsL a es = false) : evalIs iv ia es = evalIs iv ia' es :=
  evalIs_congr (Ps := fun _ => True) (fun _ _ => rfl) h es (fun _ _ => trivial)
    (ne_of_eq_false_of_eq_true hr)

end IntEval

section Eval
variable {a : String} {ia' : AList (Array Int)} {R : Type}

def setIA (σ : St R) (ia' : AList (Array Int)) : St R := { σ with ia := ia' }

/-! `setIA σ ia'` and `σ` agree on every symbol and, when `ia'` is `σ.ia` off `a`, on every array but `a`:
the four hypotheses of the congruence lemmas of Lemmas/AgreeOn at `Ps := all`, `Pa := (· ≠ a)` -/

theorem setIA_agree_iv (σ : St R) : ∀ n, True → (setIA σ ia').iv.get n = σ.iv.get n := fun _ _ => rfl
theorem setIA_agree_sv (σ : St R) : ∀ n, True → (setIA σ ia').sv.get n = σ.sv.get n := fun _ _ => rfl
theorem setIA_agree_sa (σ : St R) : ∀ n, n ≠ a → (setIA σ ia').sa.get n = σ.sa.get n := fun _ _ => rfl
theorem setIA_agree_ia {σ : St R} (h : ∀ k, k ≠ a → σ.ia.get k = ia'.get k) :
    ∀ n, n ≠ a → (setIA σ ia').ia.get n = σ.ia.get n := fun n hn => (h n hn).symm

variable [Add R] [Sub R] [Mul R] [Div R] [Neg R] [IntCast R]

section
-- `setIA` needs no operation on the scalars; these are stated with the six instances all the same
set_option linter.unusedSectionVars false

@[simp] theorem setIA_iv (σ : St R) : (setIA σ ia').iv = σ.iv := rfl
@[simp] theorem setIA_sv (σ : St R) : (setIA σ ia').sv = σ.sv := rfl
@[simp] theorem setIA_sa (σ : St R) : (setIA σ ia').sa = σ.sa := rfl
@[simp] theorem setIA_ia (σ : St R) : (setIA σ ia').ia = ia' := rfl

theorem readArr_setIA (σ : St R) (arr : String) (ix : List Int) :
    readArr (setIA σ ia') arr ix = readArr σ arr ix := rfl

end

variable {x : Extra R} {σ : St R} (h : ∀ k, k ≠ a → σ.ia.get k = ia'.get k)
include h

theorem eval_agree (e : Expr) (hr : readsE a e = false) : eval x (setIA σ ia') e = eval x σ e :=
  (evalEB_congr x (setIA_agree_iv σ) (setIA_agree_sv σ) (setIA_agree_ia h) (setIA_agree_sa σ) e
    (fun _ _ => trivial) (ne_of_eq_false_of_eq_true hr)).1

theorem evalB_agree (e : Expr) (hr : readsE a e = false) : evalB x (setIA σ ia') e = evalB x σ e :=
  (evalEB_congr x (setIA_agree_iv σ) (setIA_agree_sv σ) (setIA_agree_ia h) (setIA_agree_sa σ) e
    (fun _ _ => trivial) (ne_of_eq_false_of_eq_true hr)).2

theorem evalL_agree (es : List Expr) (hr : readsL a es = false) : evalL x (setIA σ ia') es = evalL x σ es :=
  evalL_congr x (setIA_agree_iv σ) (setIA_agree_sv σ) (setIA_agree_ia h) (setIA_agree_sa σ) es
    (fun _ _ => trivial) (ne_of_eq_false_of_eq_true hr)

end Eval

section Exec
variable {a : String} {ia' : AList (Array Int)}
variable {R : Type}

/-- `r` is the outcome of a run from a state with integer arrays `ia0`, `r'` that of the same run
from the state with `ia'` in their place: the same error, or `r = ok τ` where still `τ.ia = ia0` and
`r' = ok (setIA τ ia')`.  No statement writes an integer array (`store` refuses `dt == int`), so `ia`
is constant along a run and `setIA · ia'` commutes with every step that does not read `a`:
`exec_agree`, an instance of `exec_sim` for the relation `Swap` between the states. -/
def Rel (ia' ia0 : AList (Array Int)) (r r' : Except Err (St R)) : Prop :=
  match r with
  | .error e => r' = .error e
  | .ok τ => τ.ia = ia0 ∧ r' = .ok (setIA τ ia')

/-- `σ` has the integer arrays `ia0`, and `τ` is `σ` with `ia'` in their place -/
def Swap (ia' ia0 : AList (Array Int)) (σ τ : St R) : Prop := σ.ia = ia0 ∧ τ = setIA σ ia'

/-- `Rel` is lock step for `Swap` -/
theorem rel_iff {ia0 : AList (Array Int)} {r r' : Except Err (St R)} :
    Rel ia' ia0 r r' ↔ OutRel Eq (Swap ia' ia0) r r' := by
  cases r <;> cases r' <;> simp [Rel, OutRel, Swap, eq_comm]

/-! `setIA` commutes with the three updates of a state (definitionally: each replaces one field) -/

theorem Swap.setIV {ia0 : AList (Array Int)} {σ τ : St R} (h : Swap ia' ia0 σ τ) (n : String) (v : Int) :
    Swap ia' ia0 (σ.setIV n v) (τ.setIV n v) := ⟨h.1, h.2 ▸ rfl⟩

theorem Swap.setSV {ia0 : AList (Array Int)} {σ τ : St R} (h : Swap ia' ia0 σ τ) (n : String) (v : R) :
    Swap ia' ia0 (σ.setSV n v) (τ.setSV n v) := ⟨h.1, h.2 ▸ rfl⟩

theorem Swap.setSA {ia0 : AList (Array Int)} {σ τ : St R} (h : Swap ia' ia0 σ τ) (n : String) (b : Arr R) :
    Swap ia' ia0 (σ.setSA n b) (τ.setSA n b) := ⟨h.1, h.2 ▸ rfl⟩

theorem resolve_agree {σ : St R} (h : ∀ k, k ≠ a → σ.ia.get k = ia'.get k) (arr : String)
    (ix : List Expr) (hr : readsL a ix = false) :
    resolve (setIA σ ia') arr ix = resolve σ arr ix := by
  simp only [resolve, setIA_sa, setIA_iv, setIA_ia, evalIs_agree (iv := σ.iv) h ix hr]

theorem safeE_agree {σ : St R} (h : ∀ k, k ≠ a → σ.ia.get k = ia'.get k) (e : Expr)
    (hr : readsE a e = false) : safeE (setIA σ ia') e = safeE σ e :=
  safeE_congr (setIA_agree_iv σ) (setIA_agree_sv σ) (setIA_agree_ia h) (setIA_agree_sa σ) e
    (fun _ _ => trivial) (ne_of_eq_false_of_eq_true hr)

variable [Add R] [Sub R] [Mul R] [Div R] [Neg R] [IntCast R]
variable {x : Extra R}

-- `safeE` needs no operation on the scalars either; stated with the six instances all the same
set_option linter.unusedSectionVars false in
theorem safeL_agree {σ : St R} (h : ∀ k, k ≠ a → σ.ia.get k = ia'.get k) :
    ∀ es, readsL a es = false → safeE.safeL (setIA σ ia') es = safeE.safeL σ es :=
  fun es hr => safeL_congr (setIA_agree_iv σ) (setIA_agree_sv σ) (setIA_agree_ia h) (setIA_agree_sa σ) es
    (fun _ _ => trivial) (ne_of_eq_false_of_eq_true hr)

variable {ia0 : AList (Array Int)}

omit [Add R] [Sub R] [Mul R] [Div R] [Neg R] in
theorem store_agree (h0 : ∀ k, k ≠ a → ia0.get k = ia'.get k) {σ τ : St R} (hs : Swap ia' ia0 σ τ)
    (lhs : Expr) (hr : readsE a lhs = false) (f : R → R) :
    OutRel Eq (Swap ia' ia0) (store x σ lhs f) (store x τ lhs f) := by
  obtain ⟨rfl, rfl⟩ := hs
  have hs : Swap ia' σ.ia σ (setIA σ ia') := ⟨rfl, rfl⟩
  exact store_rel x lhs f (fun n _ _ => ⟨rfl, hs.setSV n⟩) fun arr _ ix e => by
    subst e
    simp only [readsE, Bool.or_eq_false_iff] at hr
    exact ⟨(resolve_agree h0 arr ix hr.2).symm, hs.setSA arr⟩

theorem readsS_closed (a : String) : SubClosed (readsS a · = false) (readsSL a · = false) where
  cons h := by simpa only [readsSL, Bool.or_eq_false_iff] using h
  block h := by simpa only [readsS] using h
  sect h := by simpa only [readsS, Bool.or_eq_false_iff] using h
  body h := by simp only [readsS, Bool.or_eq_false_iff] at h; exact h.2

theorem leaf_agree (h0 : ∀ k, k ≠ a → ia0.get k = ia'.get k) {s : Stmt} (hl : Leaf s)
    (hr : readsS a s = false) (σ τ : St R) (hs : Swap ia' ia0 σ τ) :
    OutRel Eq (Swap ia' ia0) (exec x s σ) (exec x s τ) := by
  obtain ⟨rfl, rfl⟩ := hs
  have hs : Swap ia' σ.ia σ (setIA σ ia') := ⟨rfl, rfl⟩
  cases hl with
  | assign lhs rhs | addAssign lhs rhs =>
    simp only [readsS, Bool.or_eq_false_iff] at hr
    simp only [exec, safeE_agree h0 rhs hr.2, eval_agree h0 rhs hr.2]
    exact .ite _ (store_agree h0 hs lhs hr.1 _) rfl
  | vdecl n dt v =>
    simp only [readsS] at hr
    refine vdecl_rel x x n dt v (evalI_agree h0 v hr) (safeE_agree h0 v hr).symm (hs.setIV n) ?_
    rw [eval_agree h0 v hr, evalB_agree h0 v hr]
    exact hs.setSV n _
  | adecl n dt sizes c vals =>
    have hv : readsL a (vals.getD []) = false := by
      cases vals with
      | none => simp [readsL]
      | some vs => simpa [readsS] using hr
    exact adecl_rel x n dt sizes c vals (evalL_agree h0 _ hv).symm (hs.setSA n)

theorem exec_agree (h0 : ∀ k, k ≠ a → ia0.get k = ia'.get k) (s : Stmt)
    (σ : St R) (hσ : σ.ia = ia0) (hr : readsS a s = false) :
    Rel ia' ia0 (exec x s σ) (exec x s (setIA σ ia')) :=
  rel_iff.2 <| exec_sim (interp_exec x) (interp_exec x) (readsS_closed a) (leaf_agree h0)
    (fun hs h => by
      obtain ⟨rfl, rfl⟩ := h
      simp only [readsS, Bool.or_eq_false_iff] at hs
      exact ⟨evalI_agree h0 _ hs.1.1, evalI_agree h0 _ hs.1.2⟩)
    (fun _ _ _ v h => h.setIV _ v) s σ _ hr ⟨hσ, rfl⟩

theorem execL_agree (h0 : ∀ k, k ≠ a → ia0.get k = ia'.get k) :
    ∀ (ss : List Stmt) (σ : St R), σ.ia = ia0 → readsSL a ss = false →
      Rel ia' ia0 (execL x ss σ) (execL x ss (setIA σ ia')) :=
  fun ss σ hσ hr => by
    simpa only [exec] using exec_agree h0 (.block ss) σ hσ (by simpa only [readsS] using hr)
end Exec

end Ffcx.Lemmas.GeomIndep
