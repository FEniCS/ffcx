/-
Relational frame lemma for C07: two runs of the same kernel from states that differ only in
the contents of the accumulate-only array `A` (by a fixed offset `d k` per entry) stay in
lock step, fail identically, and end in states that still differ by exactly the same offset.
-/
import FfcxProofs.Lemmas.AgreeOn
import FfcxProofs.Lemmas.SameShape
import FfcxProofs.Lemmas.ShapeA

namespace Ffcx.LNodes
open Lean.Grind
-- `exec` takes its `IntCast R` as a class argument: under `[Field R]` it is to be the ring's
attribute [local instance] Lean.Grind.Ring.intCast

variable {R : Type} [Field R]

/-- `τ` is `σ` with array `A` shifted entrywise by `d`. -/
structure ShiftA (A : String) (d : Nat → R) (σ τ : St R) : Prop where
  iv : σ.iv = τ.iv
  ia : σ.ia = τ.ia
  sv : σ.sv = τ.sv
  other : ∀ n, n ≠ A → σ.sa.get n = τ.sa.get n
  arrA : ∃ a b, σ.sa.get A = some a ∧ τ.sa.get A = some b ∧ a.dims = b.dims ∧ a.const = b.const ∧
      a.data.size = b.data.size ∧ ∀ k, k < a.data.size → b.data.getD k 0 = a.data.getD k 0 + d k

/-- outcomes related: both fail with the same error, or both succeed in related states
    (`RelRes2` of Lemmas/ExecSim for one scalar domain, under the name the C07 statements use) -/
def RelRes (P : St R → St R → Prop) : Except Err (St R) → Except Err (St R) → Prop
  | .ok a, .ok b => P a b
  | .error e, .error e' => e = e'
  | _, _ => False

omit [Field R] in
theorem relRes_iff {Q : St R → St R → Prop} {a b : Except Err (St R)} : RelRes Q a b ↔ OutRel Eq Q a b := by
  cases a <;> cases b <;> exact Iff.rfl

variable {A : String} {d : Nat → R} (x : Extra R)

theorem beq_false_ne {a b : String} (h : (a == b) = false) : a ≠ b :=
  ne_of_beq_false h

theorem ShiftA.agreeOn {σ τ : St R} (h : ShiftA A d σ τ) : AgreeOn (· ≠ A) σ τ :=
  ⟨fun _ _ => by rw [h.iv], fun _ _ => by rw [h.sv], fun _ _ => by rw [h.ia], h.other⟩

theorem ShiftA.sameShape {σ τ : St R} (h : ShiftA A d σ τ) : SameShape σ τ := by
  refine ⟨h.iv, h.ia, fun _ => by rw [h.sv], fun n => ?_⟩
  by_cases hn : n = A
  · obtain ⟨a, b, ha, hb, hd, hc, hs, _⟩ := h.arrA
    rw [hn, ha, hb, Option.map_some, Option.map_some, Arr.shape, Arr.shape, hd, hc, hs]
  · rw [h.other n hn]

theorem safeL_shift {σ τ : St R} (h : ShiftA A d σ τ) :
    ∀ (es : List Expr), mentionsL A es = false → safeE.safeL σ es = safeE.safeL τ es :=
  fun es _ => safeL_sameShape h.sameShape es

theorem ShiftA.setSA_other {σ τ : St R} (h : ShiftA A d σ τ) (n : String) (hn : n ≠ A) (a : Arr R) :
    ShiftA A d (σ.setSA n a) (τ.setSA n a) := by
  refine ⟨h.iv, h.ia, h.sv, fun m hm => AList.get_set_congr (h.other m hm) n a, ?_⟩
  obtain ⟨a', b', h1, h2, h3⟩ := h.arrA
  exact ⟨a', b', (AList.get_set_ne _ _ _ _ hn).trans h1, (AList.get_set_ne _ _ _ _ hn).trans h2, h3⟩

theorem ShiftA.setSV {σ τ : St R} (h : ShiftA A d σ τ) (n : String) (v : R) :
    ShiftA A d (σ.setSV n v) (τ.setSV n v) :=
  ⟨h.iv, h.ia, congrArg (·.set n v) h.sv, h.other, h.arrA⟩

theorem ShiftA.setIV {σ τ : St R} (h : ShiftA A d σ τ) (n : String) (v : Int) :
    ShiftA A d (σ.setIV n v) (τ.setIV n v) :=
  ⟨congrArg (·.set n v) h.iv, h.ia, h.sv, h.other, h.arrA⟩

theorem store_shift_other {σ τ : St R} (h : ShiftA A d σ τ) (lhs : Expr)
    (hm : mentionsE A lhs = false) (f : R → R) :
    OutRel Eq (ShiftA A d) (store x σ lhs f) (store x τ lhs f) :=
  store_rel x lhs f (fun n _ _ => ⟨by rw [h.sv], h.setSV n⟩) fun arr _ ix e => by
    subst e
    simp only [mentionsE, Bool.or_eq_false_iff, beq_eq_false_iff_ne, ne_eq] at hm
    exact ⟨by simp only [resolve, h.other arr hm.1, h.iv, h.ia], h.setSA_other arr hm.1⟩

theorem store_shift_accum {σ τ : St R} (h : ShiftA A d σ τ) (dt : DType) (ix : List Expr) (v : R) :
    OutRel Eq (ShiftA A d) (store x σ (.idx A dt ix) (fun old => old + v))
                        (store x τ (.idx A dt ix) (fun old => old + v)) := by
  obtain ⟨a, b, ha, hb, hdims, hconst, hsize, hdata⟩ := h.arrA
  simp only [store, resolve, ha, hb, h.iv, h.ia]
  refine .ite _ rfl ?_
  generalize evalIs τ.iv τ.ia ix = o
  obtain _ | is := o
  · rfl
  dsimp only
  rw [hdims]
  generalize flatIdx b.dims is = o
  obtain _ | k := o
  · rfl
  dsimp only
  rw [hsize]
  by_cases hk : k < b.data.size
  · simp only [hk, if_true, hconst]
    refine .ite _ rfl ?_
    refine ⟨h.iv, h.ia, h.sv, fun m hm => ?_, _, _, AList.get_set_self .., AList.get_set_self ..,
      hdims, rfl, ?_, fun j hj => ?_⟩
    · simp only [St.setSA, AList.get_set_ne _ _ _ _ (Ne.symm hm), h.other m hm]
    · simp only [Array.size_setIfInBounds, hsize]
    · -- entry `k` gains `v` on both sides, the other entries are untouched
      rw [Array.size_setIfInBounds] at hj
      have hd := hdata j hj
      simp only [Array.getD_eq_getD_getElem?, Array.getElem?_setIfInBounds,
        Ring.intCast_zero] at hd ⊢
      by_cases hjk : k = j
      · subst hjk
        simp only [if_true, hk, hj, Option.getD_some, hd]
        rw [Semiring.add_assoc, Semiring.add_comm (d k) v, ← Semiring.add_assoc]
      · simp only [hjk, if_false]
        exact hd
  · simp only [hk, if_false]
    rfl

theorem onlyAccum_addAssign {l r : Expr} (hs : onlyAccum A (.addAssign l r) = true) :
    mentionsE A r = false ∧ ((∃ dt ix, l = .idx A dt ix) ∨ mentionsE A l = false) := by
  cases l
  case idx arr dt ix =>
    simp only [onlyAccum] at hs
    by_cases ha : arr = A
    · simp only [ha, beq_self_eq_true, if_true, Bool.and_eq_true, Bool.not_eq_eq_eq_not,
        Bool.not_true] at hs
      exact ⟨hs.2, .inl ⟨dt, ix, by rw [ha]⟩⟩
    · simp only [beq_iff_eq, ha, if_false, Bool.and_eq_true, Bool.not_eq_eq_eq_not,
        Bool.not_true] at hs
      refine ⟨hs.2, .inr ?_⟩
      simp only [mentionsE, hs.1, Bool.or_false, beq_eq_false_iff_ne]
      exact ha
  all_goals
    simp only [onlyAccum, Bool.and_eq_true, Bool.not_eq_eq_eq_not, Bool.not_true] at hs
    exact ⟨hs.2, .inr hs.1⟩

/-! The leaf statements keep the shift as soon as their right-hand sides have the same value in the
two states — because they do not mention `A` (`exec_shift`), or because they read `A` only where the
offset vanishes (`LNodes.exec_agree`, Lemmas/Reads, for C05). -/

theorem assign_shift {σ τ : St R} (h : ShiftA A d σ τ) (l r : Expr) (hl : mentionsE A l = false)
    (he : eval x σ r = eval x τ r) :
    OutRel Eq (ShiftA A d) (exec x (.assign l r) σ) (exec x (.assign l r) τ) := by
  simp only [exec, safeE_sameShape h.sameShape r, he]
  exact .ite _ (store_shift_other x h l hl _) rfl

theorem addAssign_shift {σ τ : St R} (h : ShiftA A d σ τ) (l r : Expr)
    (hl : (∃ dt ix, l = .idx A dt ix) ∨ mentionsE A l = false) (he : eval x σ r = eval x τ r) :
    OutRel Eq (ShiftA A d) (exec x (.addAssign l r) σ) (exec x (.addAssign l r) τ) := by
  simp only [exec, safeE_sameShape h.sameShape r, he]
  refine .ite _ ?_ rfl
  obtain ⟨dt, ix, rfl⟩ | hl := hl
  · exact store_shift_accum x h dt ix _
  · exact store_shift_other x h l hl _

theorem vdecl_shift {σ τ : St R} (h : ShiftA A d σ τ) (n : String) (dt : DType) (v : Expr)
    (he : eval x σ v = eval x τ v) (hb : evalB x σ v = evalB x τ v) :
    OutRel Eq (ShiftA A d) (exec x (.vdecl n dt v) σ) (exec x (.vdecl n dt v) τ) := by
  refine vdecl_rel x x n dt v (by rw [h.iv, h.ia]) (safeE_sameShape h.sameShape v) (h.setIV n) ?_
  rw [he, hb]
  exact h.setSV n _

theorem adecl_shift {σ τ : St R} (h : ShiftA A d σ τ) (n : String) (hn : n ≠ A) (dt : DType)
    (sizes : List Nat) (c : Bool) (vals : Option (List Expr))
    (he : evalL x σ (vals.getD []) = evalL x τ (vals.getD [])) :
    OutRel Eq (ShiftA A d) (exec x (.adecl n dt sizes c vals) σ) (exec x (.adecl n dt sizes c vals) τ) :=
  adecl_rel x n dt sizes c vals he (h.setSA_other n hn)

theorem leaf_shift {s : Stmt} (hl : Leaf s) (hs : onlyAccum A s = true) (σ τ : St R)
    (h : ShiftA A d σ τ) : OutRel Eq (ShiftA A d) (exec x s σ) (exec x s τ) := by
  cases hl with
  | assign l r =>
    simp only [onlyAccum, Bool.and_eq_true, Bool.not_eq_eq_eq_not, Bool.not_true] at hs
    exact assign_shift x h l r hs.1 (eval_agreeOn x h.agreeOn r (ne_of_eq_false_of_eq_true hs.2))
  | addAssign l r =>
    obtain ⟨hr, hl⟩ := onlyAccum_addAssign hs
    exact addAssign_shift x h l r hl (eval_agreeOn x h.agreeOn r (ne_of_eq_false_of_eq_true hr))
  | vdecl n dt v =>
    simp only [onlyAccum, Bool.and_eq_true, Bool.not_eq_eq_eq_not, Bool.not_true] at hs
    exact vdecl_shift x h n dt v (eval_agreeOn x h.agreeOn v (ne_of_eq_false_of_eq_true hs.2))
      (evalB_agreeOn x h.agreeOn v (ne_of_eq_false_of_eq_true hs.2))
  | adecl n dt sizes c vals =>
    simp only [onlyAccum, Bool.and_eq_true, bne_iff_ne, ne_eq, Bool.not_eq_eq_eq_not,
      Bool.not_true] at hs
    exact adecl_shift x h n hs.1 dt sizes c vals
      (evalL_agreeOn x h.agreeOn _ (ne_of_eq_false_of_eq_true hs.2))

theorem exec_shift (s : Stmt) (σ τ : St R) (hs : onlyAccum A s = true) (h : ShiftA A d σ τ) :
    RelRes (ShiftA A d) (exec x s σ) (exec x s τ) :=
  relRes_iff.2 (exec_sim (interp_exec x) (interp_exec x) (onlyAccum_closed A) (leaf_shift x)
    (fun _ h => by rw [h.iv, h.ia]; exact ⟨rfl, rfl⟩) (fun _ _ _ v h => h.setIV _ v) s σ τ hs h)

theorem execL_shift : ∀ (ss : List Stmt) (σ τ : St R), onlyAccumL A ss = true → ShiftA A d σ τ →
    RelRes (ShiftA A d) (execL x ss σ) (execL x ss τ) :=
  fun ss σ τ hs h => by
    simpa only [exec] using exec_shift x (.block ss) σ τ (by simpa only [onlyAccum] using hs) h

end Ffcx.LNodes
