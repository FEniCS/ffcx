/-
C16 — what the two lexers have in common. A separation predicate on piece lists is a recursion over the list
with a blank test, a token test and a may-touch test for adjacent tokens (`SepEqs`: `separated`, `pySeparated`,
`pySepNL`), with rules that build accepted lists piece by piece and by appending. A lexer is a character
transducer folded over the text with a final flush (`Lexer`); `Reads` says what the three tests mean to it: read
from the start state, a token piece gives itself and a white-space piece `s` the tokens `wt s`, and the first
character of a piece ends what the piece before it left pending (`touch`, from a character test by
`touch_of_sep`). Then an accepted list is read back as its `toksW wt` (`run_render_start`). A lexer without
NEWLINE tokens takes `wt := fun _ => []` and ends with `toksW_eq_toks`: `lex_render` (Lemmas/FormatLex); the other
application is `lex_render_nl` (Lemmas/FormatPyLex). `run_break`: a line break cuts a text into parts read alone.
-/
import FfcxModel.LNodes.FormatC
namespace Ffcx.LNodes.Fmt

theorem render_append (a b : List Piece) : render (a ++ b) = render a ++ render b := by
  induction a with
  | nil => rfl
  | cons p ps ih => cases p <;> simp [render, ih]

theorem toks_append (a b : List Piece) : toks (a ++ b) = toks a ++ toks b := by
  induction a with
  | nil => rfl
  | cons p ps ih => cases p <;> simp [toks, ih]

theorem render_joinP (sepr : List Piece) (xs : List (List Piece)) :
    render (joinP sepr xs) = joinC (render sepr) (xs.map render) := by
  induction xs with
  | nil => rfl
  | cons x xs ih =>
    cases xs with
    | nil => simp [joinP, joinC]
    | cons y ys => simp only [joinP, List.map_cons, joinC, render_append, ih]

theorem toks_joinP (sepr : List Piece) (xs : List (List Piece)) :
    toks (joinP sepr xs) = joinT (toks sepr) (xs.map toks) := by
  induction xs with
  | nil => rfl
  | cons x xs ih =>
    cases xs with
    | nil => simp [joinP, joinT]
    | cons y ys => simp only [joinP, List.map_cons, joinT, toks_append, ih]

def firstP : List Piece → Option Tok
  | .t a :: _ => some a
  | _ => none

def lastP : List Piece → Option Tok
  | [] => none
  | [.t a] => some a
  | [.ws _] => none
  | _ :: p :: ps => lastP (p :: ps)

theorem lastP_append_cons (a : List Piece) (p : Piece) (b : List Piece) :
    lastP (a ++ p :: b) = lastP (p :: b) := by
  induction a with
  | nil => rfl
  | cons x xs ih =>
    cases xs with
    | nil => simp [lastP]
    | cons y ys => simpa [lastP] using ih

theorem lastP_append_ne (a : List Piece) {b : List Piece} (hb : b ≠ []) : lastP (a ++ b) = lastP b := by
  cases b with
  | nil => exact absurd rfl hb
  | cons q qs => exact lastP_append_cons a q qs

theorem firstP_append {a : List Piece} (b : List Piece) (h : a ≠ []) : firstP (a ++ b) = firstP a := by
  cases a with
  | nil => exact absurd rfl h
  | cons x xs => cases x <;> rfl

/-- `S` accepts a piece list by recursion over it: a white-space piece has to pass the blank test
    `w`, a token piece the token test `K`, and a token piece directly followed by another one the
    may-touch test `T` with it -/
structure SepEqs (S : List Piece → Bool) (w : List Char → Bool) (K : Tok → Bool) (T : Tok → Tok → Bool) : Prop where
  nil : S [] = true
  ws : ∀ s ps, S (.ws s :: ps) = (w s && S ps)
  tok : ∀ x ps, S (.t x :: ps) = (K x && (match ps with | .t y :: _ => T x y | _ => true) && S ps)

namespace SepEqs
variable {S : List Piece → Bool} {w : List Char → Bool} {K : Tok → Bool} {T : Tok → Tok → Bool}
  (E : SepEqs S w K T) {t : Tok} {ps : List Piece}
include E

theorem tok_cons (ht : K t = true) (hb : ∀ y, firstP ps = some y → T t y = true) (h : S ps = true) :
    S (.t t :: ps) = true := by
  rw [E.tok, ht, h]
  cases ps with
  | nil => rfl
  | cons p ps' =>
    cases p with
    | ws s => rfl
    | t b => simp only [hb b rfl, Bool.and_self]

/-- a token that may touch every well-shaped token (the lexer is in its start state after it) -/
theorem free_cons (ht : K t = true) (hfree : ∀ y, K y = true → T t y = true) (h : S ps = true) :
    S (.t t :: ps) = true := by
  refine E.tok_cons ht (fun y e => hfree y ?_) h
  match ps, e, h with
  | .t _ :: _, rfl, h =>
    rw [E.tok, Bool.and_eq_true, Bool.and_eq_true] at h
    exact h.1.1

theorem ws_cons {s : List Char} (hw : w s = true) (h : S ps = true) : S (.ws s :: ps) = true := by
  rw [E.ws, hw, h]; rfl

theorem sp_cons (hw : w [' '] = true) (h : S ps = true) : S (sp :: ps) = true := E.ws_cons hw h

theorem tok_ws {s : List Char} (ht : K t = true) (h : S (.ws s :: ps) = true) : S (.t t :: .ws s :: ps) = true :=
  E.tok_cons ht (fun _ e => by cases e) h

theorem single (ht : K t = true) : S [.t t] = true := E.tok_cons ht nofun E.nil

theorem toks_ok (ps : List Piece) (hps : S ps = true) : ∀ t ∈ toks ps, K t = true := by
  induction ps with
  | nil => exact fun _ h => nomatch h
  | cons pc ps ih =>
    cases pc with
    | ws s =>
      rw [E.ws, Bool.and_eq_true] at hps
      exact ih hps.2
    | t a =>
      rw [E.tok, Bool.and_eq_true, Bool.and_eq_true] at hps
      exact List.forall_mem_cons.2 ⟨hps.1.1, ih hps.2⟩

/-- accepted lists may be appended when the two tokens that meet may touch -/
theorem append {a b : List Piece} (ha : S a = true) (hb : S b = true)
    (hbr : ∀ x y, lastP a = some x → firstP b = some y → T x y = true) : S (a ++ b) = true := by
  induction a with
  | nil => exact hb
  | cons pc a' ih =>
    have hbr' : ∀ x y, lastP a' = some x → firstP b = some y → T x y = true := by
      intro x y hx hy
      cases a' with
      | nil => cases hx
      | cons q qs => exact hbr x y (by rw [lastP]; exact hx) hy
    cases pc with
    | ws s =>
      simp only [List.cons_append, E.ws, Bool.and_eq_true] at ha ⊢
      exact ⟨ha.1, ih ha.2 hbr'⟩
    | t x =>
      simp only [List.cons_append, E.tok, Bool.and_eq_true] at ha ⊢
      refine ⟨⟨ha.1.1, ?_⟩, ih ha.2 hbr'⟩
      cases a' with
      | nil =>
        cases b with
        | nil => rfl
        | cons q qs =>
          cases q with
          | ws s => rfl
          | t y => exact hbr x y rfl rfl
      | cons q qs => cases q <;> exact ha.1.2

end SepEqs

structure Lexer (σ : Type) where
  start : σ
  step : σ → Char → List Tok × σ
  flush : σ → List Tok

/-- the token pieces, and for every white-space piece `s` the tokens `wt s` -/
def toksW (wt : List Char → List Tok) : List Piece → List Tok
  | [] => []
  | .t k :: ps => k :: toksW wt ps
  | .ws s :: ps => wt s ++ toksW wt ps

theorem toksW_append (wt : List Char → List Tok) (a b : List Piece) : toksW wt (a ++ b) = toksW wt a ++ toksW wt b := by
  induction a with
  | nil => rfl
  | cons p ps ih => cases p <;> simp [toksW, ih]

theorem toksW_eq_toks : ∀ ps : List Piece, toksW (fun _ => []) ps = toks ps
  | [] => rfl
  | .t k :: ps => congrArg (k :: ·) (toksW_eq_toks ps)
  | .ws _ :: ps => toksW_eq_toks ps

namespace Lexer
variable {σ : Type}

def feed (M : Lexer σ) : σ → List Char → List Tok × σ
  | s, [] => ([], s)
  | s, c :: cs => ((M.step s c).1 ++ (feed M (M.step s c).2 cs).1, (feed M (M.step s c).2 cs).2)

variable (M : Lexer σ)

theorem feed_cons (st : σ) (c : Char) (cs : List Char) :
    M.feed st (c :: cs) = ((M.step st c).1 ++ (M.feed (M.step st c).2 cs).1, (M.feed (M.step st c).2 cs).2) := rfl

def run (st : σ) (cs : List Char) : List Tok := (M.feed st cs).1 ++ M.flush (M.feed st cs).2

theorem run_cons (st : σ) (c : Char) (cs : List Char) :
    M.run st (c :: cs) = (M.step st c).1 ++ M.run (M.step st c).2 cs :=
  List.append_assoc _ _ (M.flush _)

theorem feed_append (st : σ) (a b : List Char) :
    M.feed st (a ++ b) = ((M.feed st a).1 ++ (M.feed (M.feed st a).2 b).1, (M.feed (M.feed st a).2 b).2) := by
  induction a generalizing st with
  | nil => rfl
  | cons c cs ih => simp only [List.cons_append, feed, ih, List.append_assoc]

theorem run_append (st : σ) (a b : List Char) :
    M.run st (a ++ b) = (M.feed st a).1 ++ M.run (M.feed st a).2 b := by
  simp only [run, feed_append, List.append_assoc]

/-- `c` does not extend what is pending in `st`: reading it flushes `st` and goes on as from the
    start state -/
def Ends (st : σ) (c : Char) : Prop :=
  M.step st c = (M.flush st ++ (M.step M.start c).1, (M.step M.start c).2)

variable {M}

theorem run_ends {st : σ} {c : Char} (h : M.Ends st c) (cs : List Char) :
    M.run st (c :: cs) = M.flush st ++ M.run M.start (c :: cs) := by
  rw [run_cons, run_cons, h, List.append_assoc]

theorem run_reset {a : List Char} {o : List Tok} (st : σ) (h : M.feed st a = (o, M.start)) (b : List Char) :
    M.run st (a ++ b) = o ++ M.run M.start b := by
  rw [run_append, h]

/-- a character that flushes whatever is pending and leaves nothing pending (the line break) cuts
    the text into parts that are read independently -/
theorem run_break {c : Char} {o : List Tok} (h : ∀ st, M.step st c = (M.flush st ++ o, M.start)) (st : σ)
    (a b : List Char) : M.run st (a ++ c :: b) = M.run st a ++ (o ++ M.run M.start b) := by
  rw [run_append, run_cons, h]
  simp only [run, List.append_assoc]

variable (M) in
def after (t : Tok) : σ := (M.feed M.start t.text).2

variable (M) in
/-- What the piece lists accepted by `S` mean to the lexer `M`, piece by piece: `w`, `K`, `T` are the
    blank test, the token test and the may-touch test of `S`, and `wt s` are the tokens a white-space
    piece `s` stands for (none, or a NEWLINE) -/
structure Reads (w : List Char → Bool) (K : Tok → Bool) (T : Tok → Tok → Bool)
    (wt : List Char → List Tok) : Prop where
  /-- nothing is pending at the start -/
  idle : M.flush M.start = []
  /-- a blank is not empty: an empty one would let the tokens on its two sides meet -/
  blank_ne : ∀ {s}, w s = true → s ≠ []
  /-- read from the start state, a blank gives `wt s` and leaves nothing pending -/
  blank : ∀ {s}, w s = true → M.feed M.start s = (wt s, M.start)
  /-- the first character of a blank ends every well-shaped token, whichever it is -/
  blank_ends : ∀ {c s t}, w (c :: s) = true → K t = true → M.Ends (M.after t) c
  /-- a well-shaped token is read back as itself -/
  tok : ∀ {t}, K t = true → M.run M.start t.text = [t]
  /-- the first character of a token that may touch `x` ends `x`. Asked of every `y`, one with empty text
      (`.indent`, `.dedent`) included, so `T` has to reject those (the `match y.text` of `touch_of_sep`). -/
  touch : ∀ {x y}, T x y = true → ∃ c cs, y.text = c :: cs ∧ M.Ends (M.after x) c

section
variable {S : List Piece → Bool} {w : List Char → Bool} {K : Tok → Bool} {T : Tok → Tok → Bool}
  {wt : List Char → List Tok}

theorem Reads.text_ne (R : M.Reads w K T wt) {t : Tok} (h : K t = true) : ∃ c cs, t.text = c :: cs := by
  cases e : t.text with
  | nil => have := R.tok h; rw [e, run, feed, R.idle] at this; cases this
  | cons c cs => exact ⟨c, cs, rfl⟩

/-- the `touch` field for a may-touch test that asks a character test `sep`, which implies `Ends`,
    about the state after the first token and the first character of the second. `st` stands for
    a second spelling of `M.after x`: the tests `sepTok`, `pySepTok` write that state through the
    model's own `feed` (`stTok`, `pyStTok`), and `hst` is `stTok_eq`, `pyStTok_eq`. -/
theorem touch_of_sep {sep : σ → Char → Bool} (hsep : ∀ {st c}, sep st c = true → M.Ends st c) {x y : Tok} {st : σ}
    (hst : st = M.after x) (h : (match y.text with | [] => false | c :: _ => sep st c) = true) :
    ∃ c cs, y.text = c :: cs ∧ M.Ends (M.after x) c := by
  split at h
  · cases h
  · next c cs e => exact ⟨c, cs, e, hst ▸ hsep h⟩

theorem Reads.ends_start (R : M.Reads w K T wt) (c : Char) : M.Ends M.start c := by
  rw [Ends, R.idle]; rfl

/-- the first character of what follows a token piece ends it: a blank, or a token that may touch it -/
theorem Reads.ends_next (E : SepEqs S w K T) (R : M.Reads w K T wt) {a : Tok} {ps : List Piece}
    (h : S (.t a :: ps) = true) {c : Char} {cs : List Char} (e : render ps = c :: cs) : M.Ends (M.after a) c := by
  rw [E.tok, Bool.and_eq_true, Bool.and_eq_true] at h
  cases ps with
  | nil => cases e
  | cons pc ps =>
    cases pc with
    | ws s =>
      rw [E.ws, Bool.and_eq_true] at h
      cases s with
      | nil => exact absurd rfl (R.blank_ne h.2.1)
      | cons d s' => cases e; exact R.blank_ends h.2.1 h.1.1
    | t b =>
      obtain ⟨d, ds, eb, hE⟩ := R.touch h.1.2
      rw [render, eb] at e
      cases e
      exact hE

/-- From any state whose pending token the first character ends, an accepted piece list is read as
    that pending token followed by the tokens of the pieces. -/
theorem run_render (E : SepEqs S w K T) (R : M.Reads w K T wt) (ps : List Piece) (hps : S ps = true) (st : σ)
    (hhd : ∀ c cs, render ps = c :: cs → M.Ends st c) : M.run st (render ps) = M.flush st ++ toksW wt ps := by
  induction ps generalizing st with
  | nil => exact (List.append_nil _).symm
  | cons pc ps ih =>
    cases pc with
    | ws s =>
      have h := hps
      rw [E.ws, Bool.and_eq_true] at h
      cases s with
      | nil => exact absurd rfl (R.blank_ne h.1)
      | cons c s' =>
        show M.run st (c :: (s' ++ render ps)) = _
        rw [run_ends (hhd c _ rfl)]
        show _ ++ M.run M.start ((c :: s') ++ render ps) = _
        rw [run_reset _ (R.blank h.1), ih h.2 M.start fun c _ _ => R.ends_start c, R.idle]
        rfl
    | t a =>
      have h := hps
      rw [E.tok, Bool.and_eq_true, Bool.and_eq_true] at h
      obtain ⟨c, cs, e⟩ := R.text_ne h.1.1
      have hr : render (.t a :: ps) = c :: (cs ++ render ps) := by rw [render, e]; rfl
      rw [hr, run_ends (hhd c _ hr), ← hr, render, run_append]
      show _ ++ (_ ++ M.run (M.after a) (render ps)) = _
      rw [ih h.2 (M.after a) fun _ _ => R.ends_next E hps, ← List.append_assoc (M.feed M.start a.text).1]
      show _ ++ (M.run M.start a.text ++ _) = _
      rw [R.tok h.1.1]
      rfl

theorem run_render_start (E : SepEqs S w K T) (R : M.Reads w K T wt) (ps : List Piece) (hps : S ps = true) :
    M.run M.start (render ps) = toksW wt ps := by
  rw [run_render E R ps hps _ fun c _ _ => R.ends_start c, R.idle]; rfl

end
end Lexer
end Ffcx.LNodes.Fmt
