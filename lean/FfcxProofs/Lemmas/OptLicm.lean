/-
Loop-invariant code motion, semantic core: a product `Π args` inside a loop nest over `(o, n)` may be
replaced by `Π (rem ++ [temp[o]])` when `temp[v]` holds the value of the removed factors for every
value `v` of the outer index and `args` is a permutation of `rem ++ hoisted`.

The idea (`licm_core`): the pre-loops establish, and the new nest keeps, the invariant that every
temporary holds what it must (`TempInv`); under it old and new nest run through the SAME states
(`SameIn`), statement by statement (`HStmt`).  The pre-loops run if the hoisted factors are safe
(`pre_all_ok`).  At the end, for the files that apply `licm_core` to the model: what `leaves` (one
level of `StatementList` opened) preserves.

Scalars: any field (`Lean.Grind.Field`).  Floating point is out of scope: reassociating a product
changes rounding.
-/
import FfcxProofs.Lemmas.OptObs
import FfcxProofs.Lemmas.Fold

namespace Ffcx.LNodes
open Ffcx.LNodes.Opt
open Lean.Grind
attribute [local instance] Lean.Grind.Ring.intCast

section
variable {R : Type}

theorem safeL_append (σ : St R) (l₁ l₂ : List Expr) :
    safeE.safeL σ (l₁ ++ l₂) = (safeE.safeL σ l₁ && safeE.safeL σ l₂) := by
  induction l₁ with
  | nil => simp [safeE.safeL]
  | cons a as ih => simp [safeE.safeL, ih, Bool.and_assoc]

theorem safeL_perm (σ : St R) {l₁ l₂ : List Expr} (h : l₁.Perm l₂) :
    safeE.safeL σ l₁ = safeE.safeL σ l₂ := by
  induction h with
  | nil => rfl
  | cons a _ ih => simp [safeE.safeL, ih]
  | swap a b l => simp only [safeE.safeL]; rw [← Bool.and_assoc, ← Bool.and_assoc, Bool.and_comm (safeE σ b)]
  | trans _ _ ih1 ih2 => rw [ih1, ih2]

theorem evalIs_sym (σ : St R) (o : String) (v : Int) (h : σ.iv.get o = some v) :
    evalIs σ.iv σ.ia [.sym o .int] = some [v] := by
  simp [evalIs, evalI, h]

theorem safeE_prod (σ : St R) (args : List Expr) : safeE σ (.prod args) = safeE.safeL σ args := by
  simp [safeE]

end

variable {R : Type} [Field R] (x : Extra R)

/-- one hoisting of `licm`: the array `temp` is to hold, per value of the outer index, the product
    of the factors `hoisted` -/
structure HRec where
  temp : String
  hoisted : List Expr

/-- `t[o]`, what replaces the hoisted factors in the inner loop -/
def tempAccess (t o : String) : Expr := .idx t .scalar [.sym o .int]

/-- what one temporary must hold: for every `v < N` its entry `v` is the product of the hoisted
    factors at `o = v`, and these are safe to evaluate there -/
def TempOK (o : String) (N : Nat) (τ : St R) (r : HRec) : Prop :=
  ∃ a, τ.sa.get r.temp = some a ∧ a.dims = [N] ∧ a.data.size = N ∧ a.const = false ∧
    ∀ v : Nat, v < N →
      a.data.getD v (IntCast.intCast 0) = eval x (τ.setIV o v) (.prod r.hoisted) ∧
      safeE.safeL (τ.setIV o v) r.hoisted = true

/-- the invariant of the new loop nest: every temporary holds what it must -/
def TempInv (recs : List HRec) (o : String) (N : Nat) (τ : St R) : Prop :=
  ∀ r, r ∈ recs → TempOK x o N τ r

/-- names the invariant of `r` depends on -/
def footOf (r : HRec) (m : String) : Prop := m = r.temp ∨ mentionsL m r.hoisted = true

theorem setIV_setIV (σ : St R) (i : String) (a b : Int) : (σ.setIV i a).setIV i b = σ.setIV i b := by
  cases σ
  simp only [St.setIV]
  congr 1
  rename_i iv _ _ _
  induction iv with
  | nil => simp [AList.set]
  | cons p m ih =>
    obtain ⟨k, w⟩ := p
    by_cases hk : k = i <;> simp [AList.set, hk, ih]

theorem hoisted_agree {σ τ : St R} {hoisted : List Expr}
    (hag : AgreeOn (fun m => mentionsL m hoisted = true) σ τ) :
    eval x σ (.prod hoisted) = eval x τ (.prod hoisted) ∧
      safeE.safeL σ hoisted = safeE.safeL τ hoisted :=
  ⟨eval_agreeOn x hag (.prod hoisted) (fun m hm => by simpa [mentionsE] using hm),
    safeL_agreeOn hag hoisted (fun m hm => hm)⟩

/-- `TempOK` with the two states and the bound it speaks of apart: the temporary of `r` in `σ` is an `N`-array whose
    entries below `u` hold the hoisted factors at `o = w` as `τ0` evaluates them.
    `TempOK x o N τ r` is `Filled x o N r τ N τ`. -/
def Filled (o : String) (N : Nat) (r : HRec) (τ0 : St R) (u : Nat) (σ : St R) : Prop :=
  ∃ a, σ.sa.get r.temp = some a ∧ a.dims = [N] ∧ a.data.size = N ∧ a.const = false ∧
    ∀ w : Nat, w < u →
      a.data.getD w (IntCast.intCast 0) = eval x (τ0.setIV o w) (.prod r.hoisted) ∧
      safeE.safeL (τ0.setIV o w) r.hoisted = true

theorem Filled.congr {o : String} {N u : Nat} {r : HRec} {τ0 τ0' σ σ' : St R}
    (hsa : σ.sa.get r.temp = σ'.sa.get r.temp)
    (hag : ∀ w : Nat, AgreeOn (fun m => mentionsL m r.hoisted = true) (τ0.setIV o w) (τ0'.setIV o w))
    (h : Filled x o N r τ0 u σ) : Filled x o N r τ0' u σ' := by
  obtain ⟨a, ha, hd, hs, hc, hv⟩ := h
  refine ⟨a, hsa ▸ ha, hd, hs, hc, fun w hw => ?_⟩
  obtain ⟨he, hsf⟩ := hoisted_agree x (hag w)
  rw [← he, ← hsf]
  exact hv w hw

/-- the invariant of `r` only depends on the footprint of `r`, and not on the integer variable `o` -/
theorem TempOK.frame {o : String} {N : Nat} {τ τ' : St R} {r : HRec}
    (hag : AgreeOnQ (fun m => mentionsL m r.hoisted = true ∧ m ≠ o) (footOf r) τ τ') (h : TempOK x o N τ r) :
    TempOK x o N τ' r :=
  Filled.congr x (hag.sa r.temp (Or.inl rfl))
    (fun v => hag.agreeOn_setIV o v (fun _ hm hne => ⟨hm, hne⟩) (fun _ hm => Or.inr hm)) h

theorem TempOK.setIV {o : String} {N : Nat} {τ : St R} {r : HRec} (i : String) (v : Int)
    (hi : i = o ∨ mentionsL i r.hoisted = false) (h : TempOK x o N τ r) :
    TempOK x o N (τ.setIV i v) r :=
  TempOK.frame x ((AgreeOnQ.refl τ).setIV_right i v (fun hm => by
    rcases hi with hi | hi
    · exact hm.2 hi
    · rw [hm.1] at hi; cases hi)) h

/-- the state at iteration `v` of the outer loop: the invariant, and `o = v` -/
structure AtIter (recs : List HRec) (o : String) (N : Nat) (v : Nat) (τ : St R) : Prop where
  inv : TempInv x recs o N τ
  ov : τ.iv.get o = some (v : Int)

/-- old and new run are in the same state, in which `I` holds.  From equal start states
    `SimRes (SameIn I) a b` says: `a` and `b` are the same outcome (up to the error value), and `I`
    holds of the final state; so a step is proved by showing `a = b` and then `I` once. -/
def SameIn (I : St R → Prop) (σ τ : St R) : Prop := σ = τ ∧ I τ

/-- old and new statement of the inner body under the hoistings `recs` (`H` as in `HRec`): equal, or
    a product with the factors of one record replaced by its `temp[o]` -/
inductive HStmt (recs : List HRec) (o : String) : Stmt → Stmt → Prop
  | same (arr : String) (dt : DType) (ix args : List Expr) :
      HStmt recs o (.addAssign (.idx arr dt ix) (.prod args)) (.addAssign (.idx arr dt ix) (.prod args))
  | hoist (arr : String) (dt : DType) (ix args rem : List Expr) (r : HRec) :
      r ∈ recs → args.Perm (rem ++ r.hoisted) →
      HStmt recs o (.addAssign (.idx arr dt ix) (.prod args))
        (.addAssign (.idx arr dt ix) (.prod (rem ++ [tempAccess r.temp o])))

/-- `H` lifted to lists, element by element (what `List.Forall₂` would be; core has none); used at
    `H = HStmt recs o` -/
inductive HList (H : Stmt → Stmt → Prop) : List Stmt → List Stmt → Prop
  | nil : HList H [] []
  | cons {s s' : Stmt} {b b' : List Stmt} : H s s' → HList H b b' → HList H (s :: b) (s' :: b')

/-- side conditions on a statement of the inner body: it writes nothing a temporary's invariant
    depends on, and not `o` -/
structure BodyOK (recs : List HRec) (o : String) (s : Stmt) : Prop where
  keep : ∀ r, r ∈ recs → ∀ m, footOf r m → neverWritten m s = true
  keepO : neverWritten o s = true

theorem flatIdx_singleNat (N v : Nat) (h : v < N) : flatIdx [N] [(v : Int)] = some v := by
  simp [flatIdx, h]

theorem inv_after {recs : List HRec} {o : String} {N : Nat} {τ τ' : St R} {s' : Stmt}
    (hk : ∀ r, r ∈ recs → ∀ m, footOf r m → neverWritten m s' = true)
    (h : exec x s' τ = .ok τ') (hinv : TempInv x recs o N τ) : TempInv x recs o N τ' := by
  intro r hr
  refine TempOK.frame x ?_ (hinv r hr)
  have f := exec_frameQ x s' τ τ' h
  exact f.mono (fun m hm => hk r hr m (Or.inr hm.1)) (fun m hm => Or.inl (hk r hr m hm))

theorem hstmt_sim (recs : List HRec) (o : String) (N v : Nat) (hv : v < N)
    {s s' : Stmt} (hs : HStmt recs o s s') (hok : BodyOK recs o s) (τ : St R)
    (hlr : AtIter x recs o N v τ) :
    SimRes (SameIn (AtIter x recs o N v)) (exec x s τ) (exec x s' τ) := by
  -- both cases: the same left-hand side, right-hand sides with the same guard and value
  obtain ⟨arr, dt, ix, args, rhs', rfl, rfl, hsafe_eq, hval_eq⟩ : ∃ arr dt ix args rhs',
      s = .addAssign (.idx arr dt ix) (.prod args) ∧ s' = .addAssign (.idx arr dt ix) rhs' ∧
      safeE τ (.prod args) = safeE τ rhs' ∧ eval x τ (.prod args) = eval x τ rhs' := by
    cases hs with
    | same arr dt ix args => exact ⟨_, _, _, _, _, rfl, rfl, rfl, rfl⟩
    | hoist arr dt ix args rem r hr hperm =>
      obtain ⟨a, ha, hd, _, _, hvals⟩ := hlr.inv r hr
      obtain ⟨hval, hsafe⟩ := hvals v hv
      rw [setIV_same τ o v hlr.ov] at hval hsafe
      have hacc_safe : safeE τ (tempAccess r.temp o) = true := by
        simp [tempAccess, safeE, ha, evalIs_sym τ o v hlr.ov, hd, flatIdx_singleNat N v hv]
      have hacc_val : eval x τ (tempAccess r.temp o) = eval x τ (.prod r.hoisted) := by
        rw [← hval]
        simp [tempAccess, eval, readArr, ha, evalIs_sym τ o v hlr.ov, hd, flatIdx_singleNat N v hv]
      refine ⟨_, _, _, _, _, rfl, rfl, ?_, ?_⟩
      · rw [safeE_prod, safeE_prod, safeL_perm τ hperm, safeL_append, safeL_append, hsafe]
        simp [safeE.safeL, hacc_safe]
      · exact (licm_factor_sound τ args rem r.hoisted _ hperm hacc_val).symm
  have key : exec x (.addAssign (.idx arr dt ix) (.prod args)) τ =
      exec x (.addAssign (.idx arr dt ix) rhs') τ := by
    simp only [exec, hsafe_eq, hval_eq]
  rw [key]
  -- the statement writes `arr` only: the invariant and `o` are kept.  `hok` speaks of the OLD statement
  -- and serves for the new one: `neverWritten m (.addAssign lhs _)` does not look at the right-hand side
  exact (SimRes.refl (fun _ => rfl) _).imp (fun _ _ h => h) fun a b _ h2 e =>
    e ▸ ⟨rfl, inv_after x (s' := .addAssign (.idx arr dt ix) rhs') hok.keep (e ▸ h2) hlr.inv, by
      rw [(exec_sameAt x o (.addAssign (.idx arr dt ix) rhs') τ a hok.keepO (e ▸ h2)).iv]; exact hlr.ov⟩

/-- a one-statement step lifted to `HList`-related lists, for any `Q`, `H` and side condition `OK` -/
theorem list_sim {Q : St R → St R → Prop} {H : Stmt → Stmt → Prop} {OK : Stmt → Prop}
    (hstep : ∀ s s', H s s' → OK s → ∀ σ τ, Q σ τ → SimRes Q (exec x s σ) (exec x s' τ))
    {b b' : List Stmt} (hl : HList H b b') : (∀ s, s ∈ b → OK s) → ∀ σ τ : St R, Q σ τ →
      SimRes Q (execL x b σ) (execL x b' τ) := by
  induction hl with
  | nil => exact fun _ _ _ h => h
  | cons h1 _ ih =>
    intro hok σ τ h
    rw [execL_cons_bind, execL_cons_bind]
    exact (hstep _ _ h1 (hok _ (by simp)) σ τ h).bind (ih (fun t ht => hok t (by simp [ht])))

theorem inner_sim (recs : List HRec) (o n : String) (N v : Nat) (hv : v < N)
    (lo2 hi2 : Expr) (b b' : List Stmt) (hf : HList (HStmt recs o) b b')
    (hok : ∀ s, s ∈ b → BodyOK recs o s) (hno : n ≠ o)
    (hnm : ∀ r, r ∈ recs → mentionsL n r.hoisted = false) (τ : St R) (h : AtIter x recs o N v τ) :
    SimRes (SameIn (AtIter x recs o N v)) (exec x (.forRange n lo2 hi2 b) τ)
      (exec x (.forRange n lo2 hi2 b') τ) := by
  simp only [exec]
  split
  · refine loopN_lockstep n _ (fun _ => SameIn (AtIter x recs o N v)) _ τ τ ⟨rfl, h⟩ fun _ s t _ hq =>
      list_sim x (fun _ _ h1 hok1 σ τ h => h.1 ▸ hstmt_sim x recs o N v hv h1 hok1 τ h.2) hf hok _ _ ?_
    obtain ⟨rfl, hq⟩ := hq
    refine ⟨rfl, fun r hr => TempOK.setIV x n _ (Or.inr (hnm r hr)) (hq.inv r hr), ?_⟩
    simp only [St.setIV]
    rw [AList.get_set_ne _ _ _ _ hno]
    exact hq.ov
  · simp [OutRel]

abbrev fillBody (o : String) (r : HRec) : List Stmt := [.assign (tempAccess r.temp o) (.prod r.hoisted)]

/-- the pre-loop of one temporary: `temp = {0}; for o<N { temp[o] = Π hoisted }` -/
def preOf (o : String) (N : Nat) (r : HRec) : List Stmt :=
  [.adecl r.temp .scalar [N] false (some [.litI 0]), .forRange o (.litI 0) (.litI (N : Int)) (fillBody o r)]

/-- state while the pre-loop of one temporary runs from `τ0`: entries below `u` are filled -/
structure PreInv (o : String) (N : Nat) (r : HRec) (τ0 : St R) (u : Nat) (σ : St R) : Prop where
  base : AgreeOnQ (fun m => m ≠ o) (fun m => m ≠ r.temp) τ0 σ
  arr : Filled x o N r τ0 u σ

theorem fill_agree {o : String} {N u : Nat} {r : HRec} {τ0 σ : St R}
    (hf : PreInv x o N r τ0 u σ) (hfresh : mentionsL r.temp r.hoisted = false) (w : Int) :
    AgreeOn (fun m => mentionsL m r.hoisted = true) (τ0.setIV o w) (σ.setIV o w) :=
  hf.base.agreeOn_setIV o w (fun _ _ hne => hne)
    (fun m hm e => by subst e; rw [hfresh] at hm; cases hm)

/-- one iteration of the pre-loop at `o = u`: it runs iff the hoisted factors are safe there, and then
    fills entry `u` -/
theorem fill_step {o : String} {N u : Nat} {r : HRec} {τ0 σ : St R}
    (hfresh : mentionsL r.temp r.hoisted = false) (hf : PreInv x o N r τ0 u σ) (huN : u < N) :
    (∀ σ1, execL x (fillBody o r) (σ.setIV o u) = .ok σ1 →
      safeE.safeL (τ0.setIV o u) r.hoisted = true) ∧
    (safeE.safeL (τ0.setIV o u) r.hoisted = true →
      ∃ σ1, execL x (fillBody o r) (σ.setIV o u) = .ok σ1 ∧ PreInv x o N r τ0 (u + 1) σ1) := by
  obtain ⟨hval, hsafe'⟩ := hoisted_agree x (fill_agree x hf hfresh (u : Int))
  obtain ⟨a, ha, hd, hsz, hc, hvals⟩ := hf.arr
  have hiv : (σ.setIV o u).iv.get o = some (u : Int) := by simp [St.setIV]
  have hsa : (σ.setIV o u).sa.get r.temp = some a := by simpa [St.setIV] using ha
  have hsafe : safeE (σ.setIV o u) (.prod r.hoisted) = safeE.safeL (τ0.setIV o u) r.hoisted :=
    (safeE_prod _ _).trans hsafe'.symm
  refine ⟨fun σ1 h1 => ?_, fun hs => ?_⟩
  · rw [← hsafe]
    rw [execL_singleton] at h1
    simp only [exec] at h1
    exact (ite_eq_of_else_ne h1 nofun).1
  · let a' : Arr R :=
      { a with data := a.data.setIfInBounds u (eval x (σ.setIV o u) (.prod r.hoisted)) }
    refine ⟨(σ.setIV o u).setSA r.temp a', ?_, ?_, a', by simp [St.setSA], hd, by simp [a', hsz], hc,
      ?_⟩
    · rw [← hsafe] at hs
      simp [execL, exec, hs, tempAccess, store, resolve, hsa, evalIs_sym _ o u hiv, hd,
        flatIdx_singleNat N u huN, hsz, huN, hc, a']
    · exact (hf.base.setIV_right o u (fun h => h rfl)).setSA_right r.temp a' (fun h => h rfl)
    · intro w hw
      by_cases hwu : w = u
      · subst hwu
        exact ⟨by simp [hval, a', Array.getD, show w < a.data.size by omega], hs⟩
      · obtain ⟨h1, h2⟩ := hvals w (by omega)
        exact ⟨by rw [← h1, Array.getD_eq_getD_getElem?, Array.getD_eq_getD_getElem?,
          Array.getElem?_setIfInBounds_ne (Ne.symm hwu)], h2⟩

theorem preOf_exec (o : String) (N : Nat) (r : HRec) (τ : St R) :
    ∃ τ1, PreInv x o N r τ 0 τ1 ∧ execL x (preOf o N r) τ = loopN (execL x (fillBody o r)) o 0 N τ1 := by
  let a0 : Arr R := { dims := [N], data := initData x τ N [.litI 0], const := false }
  refine ⟨τ.setSA r.temp a0,
    ⟨(AgreeOnQ.refl τ).setSA_right r.temp a0 (fun h => h rfl),
      a0, by simp [St.setSA], rfl, by simp [a0, initData], rfl, fun w hw => by omega⟩, ?_⟩
  · have hN : ((N : Int) - 0).toNat = N := by omega
    have hdecl : exec x (.adecl r.temp .scalar [N] false (some [.litI 0])) τ =
        .ok (τ.setSA r.temp a0) := by simp [exec, a0]
    rw [preOf, execL_cons_bind, hdecl]
    show execL x [_] _ = _
    rw [execL_singleton, exec_for_lit, hN]

theorem pre_one_ok (o : String) (N : Nat) (r : HRec) (hfresh : mentionsL r.temp r.hoisted = false)
    (τ : St R) (hsafe : ∀ w : Nat, w < N → safeE.safeL (τ.setIV o w) r.hoisted = true) :
    ∃ τ', execL x (preOf o N r) τ = .ok τ' := by
  obtain ⟨τ1, f0, he⟩ := preOf_exec x o N r τ
  rw [he]
  exact (loopN_inv _ o N (PreInv x o N r τ) 0 τ1 f0 fun t σ ht hσ => by
    rw [Int.zero_add]; exact (fill_step x hfresh hσ ht).2 (hsafe t ht)).imp fun _ h => h.1

theorem pre_one (o : String) (N : Nat) (r : HRec) (hfresh : mentionsL r.temp r.hoisted = false)
    (τ τ' : St R) (h : execL x (preOf o N r) τ = .ok τ') :
    TempOK x o N τ' r ∧ AgreeOnQ (fun m => m ≠ o) (fun m => m ≠ r.temp) τ τ' := by
  obtain ⟨τ1, f0, he⟩ := preOf_exec x o N r τ
  rw [he] at h
  have fN := loopN_inv_of_ok _ o N (PreInv x o N r τ) 0 τ1 τ' f0 (fun t σ σ' ht hσ hb => by
    rw [Int.zero_add] at hb
    obtain ⟨hok, hstep⟩ := fill_step x hfresh hσ ht
    obtain ⟨σ2, h2, hf2⟩ := hstep (hok σ' hb)
    cases hb.symm.trans h2
    exact hf2) h
  exact ⟨fN.arr.congr x rfl fun v => fill_agree x fN hfresh v, fN.base⟩

/-- the pre-loops of all temporaries, in the order of `recs` -/
def preAll (o : String) (N : Nat) : List HRec → List Stmt
  | [] => []
  | r :: rs => preOf o N r ++ preAll o N rs

/-- freshness of the temporaries: distinct names, mentioned by no hoisted factor -/
def TempsFresh : List HRec → Prop
  | [] => True
  | r :: rs => mentionsL r.temp r.hoisted = false ∧
      (∀ r', r' ∈ rs → r'.temp ≠ r.temp ∧ mentionsL r'.temp r.hoisted = false ∧
        mentionsL r.temp r'.hoisted = false) ∧ TempsFresh rs

theorem pre_all (o : String) (N : Nat) : ∀ (recs : List HRec), TempsFresh recs →
    ∀ τ τ' : St R, execL x (preAll o N recs) τ = .ok τ' →
    TempInv x recs o N τ' ∧
      AgreeOnQ (fun m => m ≠ o) (fun m => ∀ r, r ∈ recs → m ≠ r.temp) τ τ'
  | [], _, τ, τ', h => by
    simp [preAll, execL] at h; subst h
    exact ⟨fun r hr => absurd hr List.not_mem_nil, AgreeOnQ.refl τ⟩
  | r :: rs, hf, τ, τ', h => by
    simp only [preAll, execL_append'] at h
    cases h1 : execL x (preOf o N r) τ with
    | error e => simp [h1, Except.bind] at h
    | ok τ1 =>
      simp only [h1, Except.bind] at h
      obtain ⟨ok1, ag1⟩ := pre_one x o N r hf.1 τ τ1 h1
      obtain ⟨inv2, ag2⟩ := pre_all o N rs hf.2.2 τ1 τ' h
      refine ⟨?_, ?_⟩
      · intro r' hr'
        rcases List.mem_cons.mp hr' with rfl | hr'
        · refine TempOK.frame x ?_ ok1
          refine ag2.mono (fun m hm => hm.2) ?_
          intro m hm r'' hr''
          rcases hm with hm | hm
          · subst hm; exact fun e => (hf.2.1 r'' hr'').1 e.symm
          · intro e; subst e
            rw [(hf.2.1 r'' hr'').2.1] at hm; cases hm
        · exact inv2 r' hr'
      · refine AgreeOnQ.trans (ag1.mono (fun _ h => h) ?_) (ag2.mono (fun _ h => h) ?_)
        · intro m hm; exact hm r (by simp)
        · intro m hm r' hr'; exact hm r' (by simp [hr'])

theorem pre_all_ok (o : String) (N : Nat) : ∀ (recs : List HRec), TempsFresh recs →
    ∀ τ : St R, (∀ r, r ∈ recs → ∀ w : Nat, w < N → safeE.safeL (τ.setIV o w) r.hoisted = true) →
    ∃ τ', execL x (preAll o N recs) τ = .ok τ'
  | [], _, τ, _ => ⟨τ, by simp [preAll, execL]⟩
  | r :: rs, hf, τ, hs => by
    obtain ⟨τ1, h1⟩ := pre_one_ok x o N r hf.1 τ (hs r (by simp))
    obtain ⟨_, ag1⟩ := pre_one x o N r hf.1 τ τ1 h1
    have hs' : ∀ r', r' ∈ rs → ∀ w : Nat, w < N → safeE.safeL (τ1.setIV o w) r'.hoisted = true := by
      intro r' hr' w hw
      rw [← hs r' (by simp [hr']) w hw]
      exact (hoisted_agree x (ag1.symm.agreeOn_setIV o w (fun _ _ hne => hne)
        (fun m hm e => by subst e; rw [(hf.2.1 r' hr').2.2] at hm; cases hm))).2
    obtain ⟨τ', h2⟩ := pre_all_ok o N rs hf.2.2 τ1 hs'
    exact ⟨τ', by simp only [preAll, execL_append', h1, Except.bind, h2]⟩

/-- The section with the hoisted nest against the original one, from any state in which the
    declarations (`hd`) and the pre-loops (`hp`) succeed: the outcomes agree on everything except the
    temporaries and the integer variable `o`.
    Two steps.  The old nest does not see the pre-loops: it mentions no temporary (`hT`) and binds
    `o` itself (the frame lemma `exec_agreeOnQ`).  From the state the pre-loops leave, old and new
    nest do the same (`SameIn`): `hl` relates the two bodies statement by statement (`HStmt`: equal, or
    a product with some factors replaced by `temp[o]`), the temporaries hold what they must
    (`pre_all`) and the body writes nothing a hoisted factor reads (`BodyOK`). -/
theorem licm_core (recs : List HRec) (o n : String) (N : Nat) (lo2 hi2 : Expr)
    (body body' decls : List Stmt) (nm : String) (i1 o1 a1 i2 o2 a2 : List String)
    (hfresh : TempsFresh recs) (hno : n ≠ o)
    (hnm : ∀ r, r ∈ recs → mentionsL n r.hoisted = false)
    (hT : ∀ m, m ∈ recs.map (·.temp) →
      mentionsS m (.forRange o (.litI 0) (.litI (N : Int)) [.forRange n lo2 hi2 body]) = false)
    (hok : ∀ s, s ∈ body → BodyOK recs o s)
    (hl : HList (HStmt recs o) body body') (σ σd τP : St R)
    (hd : execL x decls σ = .ok σd) (hp : execL x (preAll o N recs) σd = .ok τP) :
    SimRes (Obs2 [o] (recs.map (·.temp)))
      (exec x (.sect nm decls [.forRange o (.litI 0) (.litI (N : Int)) [.forRange n lo2 hi2 body]] i1 o1 a1) σ)
      (exec x (.sect nm decls (preAll o N recs ++
        [.forRange o (.litI 0) (.litI (N : Int)) [.forRange n lo2 hi2 body']]) i2 o2 a2) σ) := by
  obtain ⟨inv, ag⟩ := pre_all x o N recs hfresh σd τP hp
  have stepA := exec_agreeOnQ x
    (.forRange o (.litI 0) (.litI (N : Int)) [.forRange n lo2 hi2 body]) (fun m => m ≠ o) σd τP
    (Q := fun m => m ∉ recs.map (·.temp))
    (fun m hm e => by subst e; simp [freeS, mentionsE] at hm)
    (fun m hm ht => by rw [hT m ht] at hm; cases hm)
    (ag.mono (fun _ h => h) (fun m hm r hr e => hm (List.mem_map.mpr ⟨r, hr, e.symm⟩)))
  have hN : ((N : Int) - 0).toNat = N := by omega
  rw [exec_sect_eq_bind, exec_sect_eq_bind, hd]
  simp only [Except.bind]
  rw [execL_append', hp]
  simp only [Except.bind, execL_singleton]
  refine SimRes.trans (stepA.anyErr.mono fun _ _ h => h.mono (fun _ h => by simpa using h.1) fun _ h => h)
    ?_ fun _ _ _ => AgreeOnQ.trans
  rw [exec_for_lit, exec_for_lit, hN]
  -- the outer loop: between iterations the states are equal with `TempInv`; iteration `t` runs `inner_sim` at `o = t`
  refine (loopN_lockstep o N (fun _ => SameIn (TempInv x recs o N)) 0 τP τP ⟨rfl, inv⟩ fun t τ _ ht hq => ?_).mono
    fun _ _ h => h.1 ▸ AgreeOnQ.refl _
  obtain ⟨rfl, hq⟩ := hq
  have hin : AtIter x recs o N t (τ.setIV o t) :=
    ⟨fun r hr => TempOK.setIV x o t (Or.inl rfl) (hq r hr), by simp [St.setIV]⟩
  rw [Int.zero_add, execL_singleton, execL_singleton]
  exact (inner_sim x recs o n N t ht lo2 hi2 body body' hl hok hno hnm _ hin).mono fun _ _ st => ⟨st.1, st.2.inv⟩

/-! ## the normal form of an inner body

`leaves body`: one level of `StatementList` opened.  The certificate (`licmShapeCert`) and the
collection loop of `licm` speak of `leaves body`; so do the proofs, after the step `nest_leaves`.
It runs like `body`, mentions the same names and writes the same names. -/

theorem execL_leaves : ∀ (body : List Stmt), execL x (leaves body) = execL x body
  | [] => rfl
  | t :: r => by
    have tl : ∀ s : Stmt, execL x (s :: leaves r) = execL x (s :: r) := fun s => by
      funext σ; rw [execL_cons_bind, execL_cons_bind, execL_leaves r]
    cases t with
    | block ss =>
      funext σ
      rw [leaves, execL_block_cons, execL_append', execL_append', execL_leaves r]
    | _ => exact tl _

theorem nest_leaves (o n : String) (lo hi lo2 hi2 : Expr) (body : List Stmt) :
    exec x (.forRange o lo hi [.forRange n lo2 hi2 (leaves body)]) =
      exec x (.forRange o lo hi [.forRange n lo2 hi2 body]) := by
  funext σ
  simp only [exec, execL, execL_leaves]

theorem mentionsSL_append (n : String) (a b : List Stmt) :
    mentionsSL n (a ++ b) = (mentionsSL n a || mentionsSL n b) := by
  induction a with
  | nil => rfl
  | cons s a ih => simp only [List.cons_append, mentionsSL, ih, Bool.or_assoc]

theorem mentionsSL_leaves (m : String) : ∀ (body : List Stmt),
    mentionsSL m (leaves body) = mentionsSL m body
  | [] => rfl
  | t :: r => by
    cases t with
    | block ss => simp only [leaves, mentionsSL_append, mentionsSL, mentionsS, mentionsSL_leaves m r]
    | _ => simp only [leaves, mentionsSL, mentionsSL_leaves m r]

theorem mentionsSL_of_mem {m : String} {s : Stmt} : ∀ {ss : List Stmt}, s ∈ ss →
    mentionsS m s = true → mentionsSL m ss = true
  | [], hs, _ => by cases hs
  | a :: r, hs, h => by
    simp only [mentionsSL, Bool.or_eq_true]
    rcases List.mem_cons.mp hs with rfl | hs'
    · exact Or.inl h
    · exact Or.inr (mentionsSL_of_mem hs' h)

theorem neverWrittenL_append (m : String) : ∀ (a b : List Stmt),
    neverWrittenL m (a ++ b) = (neverWrittenL m a && neverWrittenL m b)
  | [], _ => rfl
  | s :: a, b => by
    simp only [List.cons_append, neverWrittenL, neverWrittenL_append m a b, Bool.and_assoc]

theorem neverWrittenL_leaves (m : String) : ∀ (body : List Stmt),
    neverWrittenL m (leaves body) = neverWrittenL m body
  | [] => rfl
  | t :: r => by
    cases t with
    | block ss =>
      simp only [leaves, neverWrittenL_append, neverWrittenL, neverWritten, neverWrittenL_leaves m r]
    | _ => simp only [leaves, neverWrittenL, neverWrittenL_leaves m r]

theorem exec_sect_congr (nm : String) (decls : List Stmt) {a b : List Stmt} (i1 o1 a1 : List String)
    (h : ∀ τ : St R, execL x a τ = execL x b τ) (σ : St R) :
    exec x (.sect nm decls a i1 o1 a1) σ = exec x (.sect nm decls b i1 o1 a1) σ := by
  rw [exec_sect_eq_bind, exec_sect_eq_bind, funext h]

end Ffcx.LNodes
