/-
The sequencing equations of `exec` / `execL` / `loopN` in `Except.bind` form (lists, blocks, sections,
loops with literal bounds); the two loop rules for one run with an invariant indexed by the iteration
(`loopN_inv`, `loopN_inv_of_ok`); and what a successful `evalIs`, `resolve`, `store` or declaration
tells about its arguments and its final state (`store_ok_cases`, `vdecl_ok_cases`, `adecl_ok_cases`; for an
assignment `Overwrite`, and `store_undeclared_mentions` when `store` fails).
The frame and lock-step lemmas are all inductions over these equations.  In front, three facts about
`AList` that Base/AList does not have.
-/
import FfcxModel.LNodes.Sem
import FfcxModel.LNodes.Static
import FfcxProofs.Lemmas.ExceptBind
import FfcxProofs.Lemmas.Basics

namespace Ffcx.AList

theorem set_of_get {α} : ∀ (m : AList α) (k : String) (v : α), m.get k = some v → m.set k v = m
  | [], k, v, h => by simp [AList.get] at h
  | (k', w) :: m, k, v, h => by
    by_cases hk : k' = k
    · simp [AList.get, hk] at h; subst h; simp [AList.set, hk]
    · simp [AList.get, hk] at h
      simp [AList.set, hk, set_of_get m k v h]

theorem get_map {α β : Type} (f : α → β) : ∀ (m : AList α) (n : String),
    AList.get (m.map (fun p => (p.1, f p.2))) n = (AList.get m n).map f
  | [], _ => rfl
  | (k, v) :: m, n => by
    simp only [List.map, AList.get]
    split
    · rfl
    · exact get_map f m n

theorem get_set_congr {α : Type} {m m' : AList α} {k : String} (h : m.get k = m'.get k)
    (n : String) (v : α) : (m.set n v).get k = (m'.set n v).get k := by
  simp only [AList.get_set, h]

end Ffcx.AList

namespace Ffcx.LNodes

theorem evalIs_cons_eq_some {iv : AList Int} {ia : AList (Array Int)} {e : Expr} {es : List Expr}
    {vals : List Int} (h : evalIs iv ia (e :: es) = some vals) :
    ∃ v vs, evalI iv ia e = some v ∧ evalIs iv ia es = some vs ∧ vals = v :: vs := by
  simp only [evalIs] at h
  cases hv : evalI iv ia e with
  | none => rw [hv] at h; cases h
  | some v =>
    cases hvs : evalIs iv ia es with
    | none => rw [hv, hvs] at h; cases h
    | some vs => rw [hv, hvs] at h; exact ⟨v, vs, rfl, rfl, (Option.some.inj h).symm⟩

theorem loopN_succ_bind {R : Type} (body : St R → Except Err (St R)) (i : String) (lo : Int)
    (n : Nat) (σ : St R) :
    loopN body i lo (n + 1) σ = (body (σ.setIV i lo)).bind (loopN body i (lo + 1) n) := by
  simp only [loopN]; cases body (σ.setIV i lo) <;> rfl

theorem loopN_one {R : Type} (body : St R → Except Err (St R)) (i : String) (lo : Int) (σ : St R) :
    loopN body i lo 1 σ = body (σ.setIV i lo) := by
  simp only [loopN]; cases body (σ.setIV i lo) <;> rfl

/-- **The loop rule** (total correctness, one run): `I t` holds before iteration `t`; an iteration started in a
    state satisfying `I t`, with the index set to `lo + t`, succeeds and establishes `I (t + 1)`. -/
theorem loopN_inv {R : Type} (body : St R → Except Err (St R)) (i : String) :
    ∀ (n : Nat) (I : Nat → St R → Prop) (lo : Int) (σ : St R), I 0 σ →
      (∀ (t : Nat) (τ : St R), t < n → I t τ →
        ∃ τ', body (τ.setIV i (lo + t)) = .ok τ' ∧ I (t + 1) τ') →
      ∃ σ', loopN body i lo n σ = .ok σ' ∧ I n σ'
  | 0, _, _, σ, h0, _ => ⟨σ, rfl, h0⟩
  | n + 1, I, lo, σ, h0, step => by
    obtain ⟨σ₁, hb, h1⟩ := step 0 σ (Nat.succ_pos n) h0
    rw [Int.natCast_zero, Int.add_zero] at hb
    obtain ⟨σ', hl, hn⟩ := loopN_inv body i n (fun t => I (t + 1)) (lo + 1) σ₁ h1 fun t τ ht hτ => by
      have := step (t + 1) τ (Nat.succ_lt_succ ht) hτ
      rwa [show lo + ((t + 1 : Nat) : Int) = lo + 1 + t by omega] at this
    exact ⟨σ', by rw [loopN_succ_bind, hb]; exact hl, hn⟩

/-- the loop rule for a run that is known to succeed: every iteration that succeeds carries `I t` to `I (t + 1)` -/
theorem loopN_inv_of_ok {R : Type} (body : St R → Except Err (St R)) (i : String) :
    ∀ (n : Nat) (I : Nat → St R → Prop) (lo : Int) (σ σ' : St R), I 0 σ →
      (∀ (t : Nat) (τ τ' : St R), t < n → I t τ → body (τ.setIV i (lo + t)) = .ok τ' → I (t + 1) τ') →
      loopN body i lo n σ = .ok σ' → I n σ'
  | 0, _, _, σ, σ', h0, _, h => by cases h; exact h0
  | n + 1, I, lo, σ, σ', h0, step, h => by
    rw [loopN_succ_bind] at h
    obtain ⟨σ₁, hb, h⟩ := bind_eq_ok.mp h
    refine loopN_inv_of_ok body i n (fun t => I (t + 1)) (lo + 1) σ₁ σ'
      (step 0 σ σ₁ (Nat.succ_pos n) h0 (by rwa [Int.natCast_zero, Int.add_zero])) (fun t τ τ' ht hτ hb' => ?_) h
    refine step (t + 1) τ τ' (Nat.succ_lt_succ ht) hτ ?_
    rwa [show lo + ((t + 1 : Nat) : Int) = lo + 1 + t by omega]

theorem resolve_ok_get {R : Type} {σ : St R} {arr : String} {ix : List Expr} {a : Arr R} {k : Nat}
    (h : resolve σ arr ix = .ok (a, k)) : σ.sa.get arr = some a := by
  unfold resolve at h
  split at h
  · cases h
  · split at h
    · cases h
    · split at h
      · cases h
      · split at h
        · cases h; assumption
        · cases h

theorem resolve_undeclared {R : Type} {σ : St R} {arr : String} {ix : List Expr} {n : String}
    (h : resolve σ arr ix = .error (.undeclared n)) : n = arr := by
  unfold resolve at h
  split at h
  · cases h; rfl
  · split at h
    · cases h
    · split at h
      · cases h
      · split at h <;> cases h

theorem setIV_same {R : Type} (σ : St R) (i : String) (v : Int) (h : σ.iv.get i = some v) : σ.setIV i v = σ := by
  cases σ; simp only [St.setIV] at *; simp [AList.set_of_get _ _ _ h]

variable {R : Type} [Add R] [Sub R] [Mul R] [Div R] [Neg R] [IntCast R] (x : Extra R)

theorem exec_block (ss : List Stmt) (σ : St R) : exec x (.block ss) σ = execL x ss σ := by
  simp only [exec]

theorem execL_cons_bind (t : Stmt) (l : List Stmt) (σ : St R) :
    execL x (t :: l) σ = (exec x t σ).bind (execL x l) := by
  simp only [execL]; cases exec x t σ <;> rfl

theorem execL_singleton (s : Stmt) (σ : St R) : execL x [s] σ = exec x s σ := by
  simp only [execL]; cases exec x s σ <;> rfl

theorem exec_sect_eq_bind (n : String) (decls stmts : List Stmt) (i o a : List String) (σ : St R) :
    exec x (.sect n decls stmts i o a) σ = (execL x decls σ).bind (execL x stmts) := by
  simp only [exec]; cases execL x decls σ <;> rfl

/-- primed: `execL_append` is the name of this statement in `match` form (C17) -/
theorem execL_append' (l₁ l₂ : List Stmt) (σ : St R) :
    execL x (l₁ ++ l₂) σ = (execL x l₁ σ).bind (execL x l₂) := by
  induction l₁ generalizing σ with
  | nil => rfl
  | cons s ss ih =>
    rw [List.cons_append, execL_cons_bind, execL_cons_bind, except_bind_assoc]
    exact congrArg _ (funext ih)

theorem execL_cons_cons (a t : Stmt) (r : List Stmt) (σ : St R) :
    execL x (a :: t :: r) σ = ((exec x a σ).bind (exec x t)).bind (execL x r) := by
  rw [execL_cons_bind, except_bind_assoc]
  congr 1; funext s; exact execL_cons_bind x t r s

theorem execL_sect_cons (n : String) (d s : List Stmt) (i o a : List String) (q : List Stmt) (σ : St R) :
    execL x (.sect n d s i o a :: q) σ = execL x (.block d :: .block s :: q) σ := by
  rw [execL_cons_bind, exec_sect_eq_bind, execL_cons_cons]
  rfl

theorem execL_pre_congr (pre a b : List Stmt) (h : ∀ τ : St R, execL x a τ = execL x b τ) (σ : St R) :
    execL x (pre ++ a) σ = execL x (pre ++ b) σ := by
  rw [execL_append', execL_append']
  congr 1; funext τ; exact h τ

theorem execL_block_cons (b q : List Stmt) (σ : St R) :
    execL x (.block b :: q) σ = execL x (b ++ q) σ := by
  rw [execL_cons_bind, exec_block, execL_append']

theorem execL_blocks_flatten : ∀ (bs : List (List Stmt)) (q : List Stmt) (σ : St R),
    execL x (bs.map Stmt.block ++ q) σ = execL x (bs.flatten ++ q) σ
  | [], q, σ => rfl
  | b :: bs, q, σ => by
    rw [List.map_cons, List.cons_append, List.flatten_cons, List.append_assoc, execL_block_cons,
      execL_append', execL_append']
    exact congrArg _ (funext (execL_blocks_flatten bs q))

theorem exec_for_lit (i : String) (a b : Int) (body : List Stmt) (σ : St R) :
    exec x (.forRange i (.litI a) (.litI b) body) σ = loopN (execL x body) i a (b - a).toNat σ := by
  simp [exec, evalI]

theorem loopN_eq_exec (i : String) (lo : Int) (n : Nat) (A : List Stmt) :
    loopN (execL x A) i lo n = exec x (.forRange i (.litI lo) (.litI (lo + n)) A) := by
  funext s; rw [exec_for_lit]; congr 1; omega

omit [Add R] [Sub R] [Mul R] [Div R] [Neg R] in
theorem store_ok_cases {σ σ' : St R} {lhs : Expr} {f : R → R} (h : store x σ lhs f = .ok σ') :
    (∃ n dt v, lhs = .sym n dt ∧ σ.sv.get n = some v ∧ σ' = σ.setSV n (f v)) ∨
    (∃ arr dt ix a k, lhs = .idx arr dt ix ∧ σ.sa.get arr = some a ∧ a.const = false ∧
      σ' = σ.setSA arr { a with data := a.data.setIfInBounds k (f (a.data.getD k (IntCast.intCast 0))) }) := by
  unfold store at h
  split at h
  · rename_i arr dt ix
    split at h
    · cases h
    · split at h
      · cases h
      · rename_i a k hr
        split at h
        · cases h
        · rename_i hc
          cases h
          exact .inr ⟨arr, dt, ix, a, k, rfl, resolve_ok_get hr, by simpa using hc, rfl⟩
  · rename_i n dt
    split at h
    · cases h
    · split at h
      · cases h
      · rename_i v hv
        cases h
        exact .inl ⟨n, dt, v, rfl, hv, rfl⟩
  · cases h

/-- `σ'` is `σ` with one scalar or array that was bound already overwritten -/
inductive Overwrite (σ : St R) : St R → Prop
  | sv {n : String} {v : R} (w : R) : σ.sv.get n = some v → Overwrite σ (σ.setSV n w)
  | sa {n : String} {a : Arr R} (a' : Arr R) : σ.sa.get n = some a → Overwrite σ (σ.setSA n a')

/-- the only stores an assignment produces -/
theorem exec_assign_overwrite {s : Stmt} {l r : Expr} {σ σ' : St R}
    (hs : s = .assign l r ∨ s = .addAssign l r) (h : exec x s σ = .ok σ') : Overwrite σ σ' := by
  have hst {f : R → R} (h : store x σ l f = .ok σ') : Overwrite σ σ' := by
    obtain ⟨n, _, v, _, hv, rfl⟩ | ⟨arr, _, _, a, _, _, ha, _, rfl⟩ := store_ok_cases x h
    · exact .sv _ hv
    · exact .sa _ ha
  rcases hs with rfl | rfl <;> simp only [exec] at h <;> split at h
  · exact hst h
  · cases h
  · exact hst h
  · cases h

omit [Add R] [Sub R] [Mul R] [Div R] [Neg R] in
/-- when `store` fails with `Err.undeclared n`, `n` is the head name of the lvalue -/
theorem store_undeclared_mentions (σ : St R) (l : Expr) (f : R → R) (n : String)
    (h : store x σ l f = .error (.undeclared n)) : mentionsE n l = true := by
  unfold store at h
  split at h
  · split at h
    · cases h
    · split at h
      · rename_i hres
        cases h
        cases resolve_undeclared hres
        simp [mentionsE]
      · split at h <;> cases h
  · split at h
    · cases h
    · split at h <;> cases h
      simp [mentionsE]
  · cases h

theorem vdecl_ok_cases {n : String} {dt : DType} {v : Expr} {σ σ' : St R}
    (h : exec x (.vdecl n dt v) σ = .ok σ') : (∃ k, σ' = σ.setIV n k) ∨ (∃ r, σ' = σ.setSV n r) := by
  simp only [exec] at h
  split at h
  · split at h
    · cases h; exact .inl ⟨_, rfl⟩
    · cases h
  · cases (ite_eq_of_else_ne h nofun).2; exact .inr ⟨_, rfl⟩

theorem adecl_ok_cases {n : String} {dt : DType} {sz : List Nat} {c : Bool} {vals : Option (List Expr)}
    {σ σ' : St R} (h : exec x (.adecl n dt sz c vals) σ = .ok σ') : ∃ a, σ' = σ.setSA n a := by
  simp only [exec] at h
  split at h
  · cases h
  · cases h; exact ⟨_, rfl⟩

end Ffcx.LNodes
