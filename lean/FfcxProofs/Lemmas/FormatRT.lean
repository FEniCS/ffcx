/-
C16 — token-level round trip, part 1: the token stream of each constructor, grammar levels, follow
conditions; then `Reads l ts x`, "the parser reads the tokens `ts` as the tree `x` wherever the grammar
allows an expression of level `l`", stated at every large enough fuel (`Ev`). Its introduction rules
are the grammar (any token lists, nothing about the formatter); `Reads.parenT` is the one lemma about
the formatter's "possibly parenthesised".
-/
import FfcxProofs.Lemmas.FormatParse
import FfcxProofs.Lemmas.LexGen
namespace Ffcx.LNodes.Fmt

@[simp] theorem toks_sp (ps : List Piece) : toks (sp :: ps) = toks ps := rfl
@[simp] theorem toks_pp (o : P) (ps : List Piece) : toks (pp o :: ps) = .p o :: toks ps := rfl
@[simp] theorem toks_t (t : Tok) (ps : List Piece) : toks (.t t :: ps) = t :: toks ps := rfl
@[simp] theorem toks_nil : toks [] = [] := rfl

-- `joinT`: here, not with the C statements that join initialisers by it, so that FormatPyRT (argument
-- lists) need not import the statement file
theorem joinT_cons_cons (sep a b : List Tok) (l : List (List Tok)) :
    joinT sep (a :: b :: l) = a ++ sep ++ joinT sep (b :: l) := rfl

theorem joinT_head {sep : List Tok} {a : List Tok} {l : List (List Tok)} {t : Tok} {r : List Tok} (ha : a = t :: r) :
    ∃ r', joinT sep (a :: l) = t :: r' := by
  cases l with
  | nil => exact ⟨r, by simp [joinT, ha]⟩
  | cons b l => exact ⟨_, by rw [joinT_cons_cons, ha]; rfl⟩

/-- `parenIf` on token streams -/
def parenT (b : Bool) (ts : List Tok) : List Tok :=
  if b then .p .lpar :: ts ++ [.p .rpar] else ts

theorem toks_parenIf (b : Bool) (ps : List Piece) : toks (parenIf b ps) = parenT b (toks ps) := by
  cases b <;> simp [parenIf, parenT, toks_append]

/-- the token stream the C formatter intends for `e`; what the parser is run on throughout -/
abbrev tk (sc : Scalar) (e : Expr) : List Tok := tokExprC sc e

/-- tokens of the operands of an n-ary node after the first: `op X₁ op X₂ …` -/
def tkTail (sc : Scalar) (o : P) (p : Nat) : List Expr → List Tok
  | [] => []
  | x :: xs => .p o :: parenT (decide ((precF x) ≥ p)) (tk sc x) ++ tkTail sc o p xs

def tkArgs (sc : Scalar) : List Expr → List Tok
  | [] => []
  | [a] => tk sc a
  | a :: b :: r => tk sc a ++ .p .comma :: tkArgs sc (b :: r)

def tkIx (sc : Scalar) : List Expr → List Tok
  | [] => []
  | [a] => tk sc a
  | a :: b :: r => tk sc a ++ .p .rbrack :: .p .lbrack :: tkIx sc (b :: r)

theorem tk_sym (sc n dt) : tk sc (.sym n dt) = [.id n] := by
  simp [tk, tokExprC, piecesC]

theorem tk_mi (sc s z gi) : tk sc (.mi s z gi) = tk sc gi := by
  simp [tk, tokExprC, piecesC]

theorem tk_neg (sc a) : tk sc (.neg a) = .p .minus :: parenT (decide ((precF a) ≥ 3) || startsWith '-' (piecesC sc a)) (tk sc a) := by
  simp [tk, tokExprC, piecesC, toks_parenIf]

theorem tk_not (sc a) : tk sc (.not a) = .p .bang :: parenT (decide ((precF a) ≥ 3) || startsWith '!' (piecesC sc a)) (tk sc a) := by
  simp [tk, tokExprC, piecesC, toks_parenIf]

theorem tk_bin (sc op a b) : tk sc (.bin op a b) =
    parenT (decide ((precF a) ≥ op.prec)) (tk sc a) ++ .p (opTok op) :: parenT (decide ((precF b) ≥ op.prec)) (tk sc b) := by
  simp [tk, tokExprC, piecesC, toks_parenIf, toks_append]

theorem tk_cond (sc c t f) : tk sc (.cond c t f) =
    parenT (decide ((precF c) ≥ 13)) (tk sc c) ++ .p .quest :: (parenT (decide ((precF t) ≥ 13)) (tk sc t)
      ++ .p .colon :: parenT (decide ((precF f) ≥ 13)) (tk sc f)) := by
  simp [tk, tokExprC, piecesC, toks_parenIf, toks_append]

theorem toks_joinNary (sc : Scalar) (o : P) (p : Nat) (a : Expr) (as : List Expr) :
    toks (joinP [sp, pp o, sp] (piecesNary sc p (a :: as)))
      = parenT (decide ((precF a) ≥ p)) (tk sc a) ++ tkTail sc o p as := by
  induction as generalizing a with
  | nil => simp [piecesNary, joinP, tkTail, toks_parenIf, tk, tokExprC]
  | cons b bs ih =>
    have := ih b
    simp only [piecesNary] at this ⊢
    simp [joinP, toks_append, toks_parenIf, tkTail, this, tk, tokExprC]

theorem tk_sum (sc a as) : tk sc (.sum (a :: as)) =
    parenT (decide ((precF a) ≥ 5)) (tk sc a) ++ tkTail sc .plus 5 as := by
  have := toks_joinNary sc .plus 5 a as
  simpa [tk, tokExprC, piecesC] using this

theorem tk_prod (sc a as) : tk sc (.prod (a :: as)) =
    parenT (decide ((precF a) ≥ 4)) (tk sc a) ++ tkTail sc .star 4 as := by
  have := toks_joinNary sc .star 4 a as
  simpa [tk, tokExprC, piecesC] using this

theorem toks_joinArgs (sc : Scalar) (as : List Expr) :
    toks (joinP [pp .comma, sp] (piecesList sc as)) = tkArgs sc as := by
  induction as with
  | nil => simp [piecesList, joinP, tkArgs]
  | cons a as ih =>
    cases as with
    | nil => simp [piecesList, joinP, tkArgs, tk, tokExprC]
    | cons b bs =>
      simp only [piecesList] at ih ⊢
      simp [joinP, toks_append, tkArgs, ih, tk, tokExprC]

theorem toks_joinIx (sc : Scalar) (as : List Expr) :
    toks (joinP [pp .rbrack, pp .lbrack] (piecesList sc as)) = tkIx sc as := by
  induction as with
  | nil => simp [piecesList, joinP, tkIx]
  | cons a as ih =>
    cases as with
    | nil => simp [piecesList, joinP, tkIx, tk, tokExprC]
    | cons b bs =>
      simp only [piecesList] at ih ⊢
      simp [joinP, toks_append, tkIx, ih, tk, tokExprC]

theorem tk_call (sc f dt args) : tk sc (.call f dt args) =
    .id (cMathName sc args f) :: .p .lpar :: (tkArgs sc args ++ [.p .rpar]) := by
  simp [tk, tokExprC, piecesC, toks_append, toks_joinArgs]

theorem tk_idx (sc arr dt ix) : tk sc (.idx arr dt ix) =
    .id arr :: .p .lbrack :: (tkIx sc ix ++ [.p .rbrack]) := by
  simp [tk, tokExprC, piecesC, toks_append, toks_joinIx]

/-- LNodes precedence ↦ a C grammar level that the printed text of a node of that precedence is
    guaranteed to have (literals may print as unary minus + number: 12). The precedences in use
    (`Expr.prec`): 0 literals, symbols, calls; 2 subscripts; 3 unary; 4 `* /` and Product; 5 `+ -` and
    Sum; 7 `< <= > >=`; 8 `== !=`; 11 `&&`; 12 `||`; 13 the conditional. No node has 1, 6, 9, 10. -/
def lvP : Nat → Nat
  | 0 | 1 | 2 | 3 => 12
  | 4 => 11 | 5 => 10 | 6 => 9 | 7 => 8 | 8 => 7 | 9 => 6 | 10 => 5 | 11 => 3 | 12 => 2
  | _ => 1

theorem binOf_opTok (op : BinOp) : binOf (.p (opTok op)) = some (op, lvP op.prec) := by
  cases op <;> rfl

/-- a precedence `p` below that of a binary operator, `q`, has a strictly tighter level. The binders
    stand in this order (`q ≤ 12` before `p` is introduced, `p < q` before the rest) so that every `∀`
    is bounded when `decide` meets it. -/
theorem lvP_strict : ∀ q, q ≤ 12 → ∀ p, p < q → 4 ≤ q → lvP q + 1 ≤ lvP p := by decide

theorem lvP_ge2 : ∀ p, p ≤ 12 → 2 ≤ lvP p := by decide

theorem lvP_ge1 (p : Nat) : 1 ≤ lvP p := by
  unfold lvP; split <;> decide

theorem lvP_unary : ∀ {p}, p < 4 → 12 ≤ lvP p
  | 0, _ | 1, _ | 2, _ | 3, _ => Nat.le_refl 12

theorem binop_prec_range (op : BinOp) : 4 ≤ op.prec ∧ op.prec ≤ 12 := by cases op <;> decide

/-- `t` ends the postfix loop `parsePost`: no subscript and no call follows -/
def postStopT (t : Tok) : Bool := t != .p .lbrack && t != .p .lpar

/-- `t` may follow an operand of level `l`: it starts no postfix operator (`post`) and is no binary
    operator (`lev`) that binds tighter than `l`. Shared by the C and the Python grammar. -/
def noTighter (post : Tok → Bool) (lev : Tok → Option (BinOp × Nat)) (l : Nat) (t : Tok) : Bool :=
  post t && (match lev t with | some (_, lv) => decide (lv ≤ l) | none => true)

abbrev noTighterT := noTighter postStopT binOf

/-- `t` continues no expression at any level (no postfix or binary operator, no `?`): a full
    expression ends in front of it -/
def closedT (t : Tok) : Bool := postStopT t && t != .p .quest && (binOf t).isNone

/-- the condition `p` on the token that follows, if any: the form of every follow condition of the
    round trip (the end of the input stops every loop) -/
def headAll (p : Tok → Bool) : List Tok → Bool
  | [] => true
  | t :: _ => p t

theorem postStop_of_binOf {t op lv} (h : binOf t = some (op, lv)) : postStopT t = true := by
  simp only [postStopT, Bool.and_eq_true, bne_iff_ne, ne_eq]
  constructor <;> (rintro rfl; cases h)

theorem noTighter_postStop {post lev rest l} (h : headAll (noTighter post lev l) rest = true) :
    headAll post rest = true := by
  cases rest with
  | nil => rfl
  | cons t r =>
    simp only [headAll, noTighter, Bool.and_eq_true] at h ⊢
    exact h.1

theorem noTighter_level {post lev l t r op lv} (h : headAll (noTighter post lev l) (t :: r) = true)
    (hb : lev t = some (op, lv)) : lv ≤ l := by
  simp only [headAll, noTighter, hb, Bool.and_eq_true, decide_eq_true_eq] at h
  exact h.2

theorem noTighter_mono {post lev rest l l'} (h : headAll (noTighter post lev l) rest = true)
    (hl : l ≤ l') : headAll (noTighter post lev l') rest = true := by
  cases rest with
  | nil => rfl
  | cons t r =>
    have hp := noTighter_postStop h
    cases hb : lev t with
    | none =>
      simp only [headAll, noTighter, hb, Bool.and_eq_true] at hp ⊢
      exact ⟨hp, trivial⟩
    | some p =>
      obtain ⟨op, lv⟩ := p
      have hlv := noTighter_level h hb
      simp only [headAll, noTighter, hb, Bool.and_eq_true, decide_eq_true_eq] at hp ⊢
      exact ⟨hp, Nat.le_trans hlv hl⟩

theorem noTighter_of_closed {post lev} {c : Tok → Bool}
    (hc : ∀ t, c t = true → post t = true ∧ lev t = none) {rest l} (h : headAll c rest = true) :
    headAll (noTighter post lev l) rest = true := by
  cases rest with
  | nil => rfl
  | cons t r =>
    obtain ⟨h1, h2⟩ := hc t h
    simp only [headAll, noTighter, h1, h2, Bool.and_self]

theorem noTighter_head {post lev} {t : Tok} {op lv L} (hp : post t = true) (hb : lev t = some (op, lv))
    (hL : lv ≤ L) (r : List Tok) : headAll (noTighter post lev L) (t :: r) = true := by
  simp only [headAll, noTighter, hb, hp, Bool.true_and, decide_eq_true_eq]
  exact hL

theorem closed_noTighter {rest l} (h : headAll closedT rest = true) : headAll (noTighterT l) rest = true :=
  noTighter_of_closed (fun t h => by
    simp only [closedT, Bool.and_eq_true, Option.isNone_iff_eq_none] at h
    exact ⟨h.1.1, h.2⟩) h

theorem loopBin_stop {m l X rest} (h : headAll (noTighterT l) rest = true) (hl : l < m) :
    Ev fun F => loopBin F m X rest = some (X, rest) :=
  .step0 fun _ => by
    cases rest with
    | nil => exact loopBin_nil
    | cons t r =>
      cases hb : binOf t with
      | none => exact loopBin_noop hb
      | some p => exact loopBin_low hb (Nat.not_le.mpr (Nat.lt_of_le_of_lt (noTighter_level h hb) hl))

theorem parsePost_stop {b rest} (h : headAll postStopT rest = true) :
    Ev fun F => parsePost F b rest = some (b, rest) :=
  .step0 fun _ => by
    cases rest with
    | nil => exact parsePost_nil
    | cons t r =>
      simp only [headAll, postStopT, Bool.and_eq_true, bne_iff_ne, ne_eq] at h
      exact parsePost_other h.1 h.2

theorem closed_not_quest {rest} (h : headAll closedT rest = true) :
    rest.head? ≠ some (.p .quest) := by
  cases rest with
  | nil => exact nofun
  | cons t r =>
    simp only [headAll, closedT, Bool.and_eq_true, bne_iff_ne, ne_eq] at h
    exact fun e => h.1.2 (Option.some.inj e)

theorem binOf_level {t op lv} (h : binOf t = some (op, lv)) : 2 ≤ lv ∧ lv < 12 := by
  cases t with
  | p o => cases o <;> cases h <;> decide
  | _ => cases h

/-- tokens an expression text can start with -/
def cStart : Tok → Bool
  | .num _ | .id _ | .p .minus | .p .bang | .p .lpar => true
  | _ => false

theorem cStart_ne {t : Tok} (h : cStart t = true) : t ≠ .p .rpar ∧ t ≠ .p .lbrace ∧ t ≠ .p .rbrace := by
  refine ⟨?_, ?_, ?_⟩ <;> (rintro rfl; cases h)

theorem atomOf_start {t b} (h : atomOf t = some b) : cStart t = true := by
  cases t with
  | num _ | id _ => rfl
  | _ => cases h

theorem head_append {P : Tok → Prop} {ts : List Tok} (h : ∃ t r, ts = t :: r ∧ P t) (more : List Tok) :
    ∃ t r, ts ++ more = t :: r ∧ P t := by
  obtain ⟨t, r, rfl, h2⟩ := h
  exact ⟨t, r ++ more, rfl, h2⟩

/-- The parser reads `ts` as `x` at grammar level `l` (1 conditional, 2–11 binary, ≥ 12 unary /
    postfix / primary), in front of anything that cannot continue an expression of that level. -/
structure Reads (l : Nat) (ts : List Tok) (x : PT) : Prop where
  full : ∀ rest, headAll closedT rest = true → Ev fun F => parseCond F (ts ++ rest) = some (x, rest)
  /-- as the left operand of a loop at level `m ≤ l`: `parseBin` goes on with `loopBin` -/
  bin : 2 ≤ l → ∀ m rest res, m ≤ l → headAll (noTighterT l) rest = true →
    Ev (fun F => loopBin F m x rest = some res) → Ev fun F => parseBin F m (ts ++ rest) = some res
  un : 12 ≤ l → ∀ rest, headAll postStopT rest = true →
    Ev fun F => parseUnary F (ts ++ rest) = some (x, rest)
  /-- the text is not empty and begins like an expression: not with `)`, which after `f(` would make
      `parsePost` read the empty call, nor with a brace, which decides how an initialiser is read -/
  hd : ∃ t r, ts = t :: r ∧ cStart t = true

theorem ev_cond_of_bin {ts x rest} (hc : headAll closedT rest = true)
    (h : Ev fun F => parseBin F 2 ts = some (x, rest)) : Ev fun F => parseCond F ts = some (x, rest) :=
  .step1 (fun h => parseCond_plain h (closed_not_quest hc)) h

theorem Reads.of_bin {l ts x} (h2 : 2 ≤ l) (h12 : l < 12)
    (hbin : ∀ m rest res, m ≤ l → headAll (noTighterT l) rest = true →
      Ev (fun F => loopBin F m x rest = some res) → Ev fun F => parseBin F m (ts ++ rest) = some res)
    (hd : ∃ t r, ts = t :: r ∧ cStart t = true) : Reads l ts x where
  full rest hc := ev_cond_of_bin hc
    (hbin 2 rest _ h2 (closed_noTighter hc) (loopBin_stop (closed_noTighter (l := 1) hc) (Nat.lt_succ_self 1)))
  bin _ := hbin
  un h := absurd h (Nat.not_le.mpr h12)
  hd := hd

/-- from the `un` property: a unary expression is an operand at every level. Its `full` is that of
    `of_bin` at the loosest binary level, 2 (any binary level would give the same); `bin` and `un`
    are then stated at the level asked for. -/
theorem Reads.of_un {ts x}
    (hun : ∀ rest, headAll postStopT rest = true → Ev fun F => parseUnary F (ts ++ rest) = some (x, rest))
    (hd : ∃ t r, ts = t :: r ∧ cStart t = true) (l : Nat) : Reads l ts x :=
  have hbin : ∀ l m rest res, headAll (noTighterT l) rest = true →
      Ev (fun F => loopBin F m x rest = some res) → Ev fun F => parseBin F m (ts ++ rest) = some res :=
    fun _ _ rest _ hnt hloop => .step2 parseBin_of (hun rest (noTighter_postStop hnt)) hloop
  { (Reads.of_bin (l := 2) (Nat.le_refl 2) (by decide) (fun m rest res _ => hbin 2 m rest res) hd) with
    bin := fun _ m rest res _ => hbin l m rest res
    un := fun _ => hun }

theorem Reads.mono {l l' ts x} (h : Reads l ts x) (hl : l' ≤ l) : Reads l' ts x where
  full := h.full
  bin h2 m rest res hm hnt := h.bin (Nat.le_trans h2 hl) m rest res (Nat.le_trans hm hl) (noTighter_mono hnt hl)
  un h12 := h.un (Nat.le_trans h12 hl)
  hd := h.hd

/-- what the callers at statement level use: the parser is run there with `fuelFor` of its input -/
theorem Reads.full_fuelFor {l ts x} (h : Reads l ts x) {rest} (hc : headAll closedT rest = true) :
    parseCond (fuelFor (ts ++ rest)) (ts ++ rest) = some (x, rest) :=
  (h.full rest hc).elim fun _ => parseCond_fuelFor

theorem Reads.parseExprC {l ts x} (h : Reads l ts x) : parseExprC ts = some x := by
  rw [Fmt.parseExprC, ← ts.append_nil, h.full_fuelFor (rest := []) rfl]

theorem Reads.un_fuelFor {l ts x} (h : Reads l ts x) (hl : 12 ≤ l) {rest} (hps : headAll postStopT rest = true) :
    parseUnary (fuelFor (ts ++ rest)) (ts ++ rest) = some (x, rest) :=
  (h.un hl rest hps).elim fun _ => parseUnary_fuelFor

theorem reads_atom {t b} (h : atomOf t = some b) (l : Nat) : Reads l [t] b :=
  .of_un (fun _ hps => .step1 (parseUnary_atom h) (parsePost_stop hps)) ⟨t, [], rfl, atomOf_start h⟩ l

theorem reads_paren {l ts x} (h : Reads l ts x) (L : Nat) : Reads L (.p .lpar :: (ts ++ [.p .rpar])) x :=
  .of_un (fun rest hps => by
    rw [List.cons_append, List.append_assoc]
    exact .step2 parseUnary_paren (h.full (.p .rpar :: rest) rfl) (parsePost_stop hps))
    ⟨_, _, rfl, rfl⟩ L

/-- the formatter's "parenthesise if it binds too loosely" -/
theorem Reads.parenT {l ts x} (h : Reads l ts x) {p : Bool} {L : Nat} (hp : p = false → L ≤ l) :
    Reads L (parenT p ts) x := by
  cases p with
  | false => exact h.mono (hp rfl)
  | true => exact reads_paren h L

theorem reads_prefix {o : P} {u : UOp}
    (rule : ∀ {k r x r'}, parseUnary k r = some (x, r') → parseUnary (k + 1) (.p o :: r) = some (.un u x, r'))
    (ho : cStart (.p o) = true) {ts x} (h : Reads 12 ts x) (l : Nat) : Reads l (.p o :: ts) (.un u x) :=
  .of_un (fun rest hps => .step1 rule (h.un (Nat.le_refl _) rest hps)) ⟨_, _, rfl, ho⟩ l

theorem reads_neg {ts x} (h : Reads 12 ts x) (l : Nat) : Reads l (.p .minus :: ts) (.un .neg x) :=
  reads_prefix parseUnary_neg rfl h l

theorem reads_not {ts x} (h : Reads 12 ts x) (l : Nat) : Reads l (.p .bang :: ts) (.un .not x) :=
  reads_prefix parseUnary_not rfl h l

/-- left associative: the left operand at the operator's level, the right one a level tighter -/
theorem reads_bin {t op lv as a bs b} (hb : binOf t = some (op, lv)) (ha : Reads lv as a)
    (hbs : Reads (lv + 1) bs b) : Reads lv (as ++ t :: bs) (.bin op a b) := by
  have hlv := binOf_level hb
  refine .of_bin hlv.1 hlv.2 ?_ (head_append ha.hd _)
  intro m rest res hm hnt hloop
  rw [List.append_assoc, List.cons_append]
  -- the loop sees the operator, reads the right operand one level tighter, and goes on
  exact ha.bin hlv.1 m _ res hm (noTighter_head (postStop_of_binOf hb) hb (Nat.le_refl _) _)
    (.step2 (loopBin_op hb hm)
      (hbs.bin (Nat.le_succ_of_le hlv.1) _ rest _ (Nat.le_refl _) (noTighter_mono hnt (Nat.le_succ _))
        (loopBin_stop hnt (Nat.lt_succ_self _)))
      hloop)

theorem reads_cond {cs c ts t fs f} (hc : Reads 2 cs c) (ht : Reads 1 ts t) (hf : Reads 1 fs f) :
    Reads 1 (cs ++ .p .quest :: (ts ++ .p .colon :: fs)) (.cond c t f) where
  full rest hcl := by
    simp only [List.append_assoc, List.cons_append]
    exact .step3 parseCond_tern
      (hc.bin (Nat.le_refl _) 2 _ _ (Nat.le_refl _) rfl (loopBin_stop (l := 1) rfl (Nat.lt_succ_self 1)))
      (ht.full _ rfl) (hf.full rest hcl)
  bin h := absurd h (by decide)
  un h := absurd h (by decide)
  hd := head_append hc.hd _

-- used by nothing: a fact about `lvP` in its own right
theorem lvP_le12 : ∀ p, p ≤ 13 → lvP p ≤ 12 := by decide

end Ffcx.LNodes.Fmt
