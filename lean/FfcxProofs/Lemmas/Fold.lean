/-
The values of the literals that operator folding recognises (`eval_isZero`, …, `eval_isNegOne`); `prodR` /
`sumR`, the right-nested product and sum that a `Product` / `Sum` node and C's left-to-right
evaluation both compute (`eval_prod`, `eval_sum`); for `prodR` its behaviour under `++` and
permutation, and the two facts about a `Product` that `licm` rests on (`prod_perm_sound`,
`licm_factor_sound`).
-/
import FfcxModel.LNodes.Sem
import FfcxModel.LNodes.Simplify
import FfcxProofs.Lemmas.Branches

namespace Ffcx.LNodes
open Lean.Grind
-- `eval`, `exec`, … take their `IntCast R` as an instance argument; under `[Field R]` it is the one of
-- the ring structure, which is not a global instance in core.  Every file that states something about
-- the semantics over a field has this line; without it such a statement does not elaborate.
attribute [local instance] Lean.Grind.Ring.intCast

/-- What the folding theorems need from the literal embedding. -/
structure LawfulExtra {R : Type} [Field R] (x : Extra R) : Prop where
  ofRat_zero : x.ofRat 0 0 = 0
  ofRat_one : x.ofRat 1 0 = 1
  ofRat_neg : ∀ re im, x.ofRat (-re) (-im) = - x.ofRat re im

variable {R : Type} [Field R] {x : Extra R}

theorem LawfulExtra.ofRat_neg_one (h : LawfulExtra x) : x.ofRat (-1) 0 = -1 := by
  have := h.ofRat_neg 1 0
  simp at this   -- `-0 = 0` in the imaginary part
  rw [this, h.ofRat_one]

theorem eval_isZero (h : LawfulExtra x) (σ : St R) (e : Expr) (hz : isZero e = true) :
    eval x σ e = 0 :=
  litTest_elim (P := fun e => eval x σ e = 0) 0 0 hz (fun _ => by simp only [eval, h.ofRat_zero])
    (by simp only [eval, Ring.intCast_zero])

theorem eval_isOne (h : LawfulExtra x) (σ : St R) (e : Expr) (hz : isOne e = true) :
    eval x σ e = 1 :=
  litTest_elim (P := fun e => eval x σ e = 1) 1 1 hz (fun _ => by simp only [eval, h.ofRat_one])
    (by simp only [eval, Ring.intCast_one])

theorem eval_isNegOne (h : LawfulExtra x) (σ : St R) (e : Expr) (hz : isNegOne e = true) :
    eval x σ e = -1 :=
  litTest_elim (P := fun e => eval x σ e = -1) (-1) (-1) hz
    (fun _ => by simp only [eval, h.ofRat_neg_one]) (by simp only [eval, Ring.intCast_neg_one])

def prodR : List R → R
  | [] => 1
  | a :: as => a * prodR as

def sumR : List R → R
  | [] => 0
  | a :: as => a + sumR as

theorem foldl_mul_eq (a : R) (l : List R) : l.foldl (· * ·) a = a * prodR l := by
  induction l generalizing a with
  | nil => exact (Semiring.mul_one a).symm
  | cons b bs ih => exact (ih (a * b)).trans (Semiring.mul_assoc a b _)

theorem foldl_add_eq (a : R) (l : List R) : l.foldl (· + ·) a = a + sumR l := by
  induction l generalizing a with
  | nil => exact (Semiring.add_zero a).symm
  | cons b bs ih => exact (ih (a + b)).trans (Semiring.add_assoc a b _)

/-- C evaluates `a0 * a1 * a2` left to right; by associativity this is the product. -/
theorem foldOp_mul (l : List R) : foldOp (· * ·) (IntCast.intCast 1) l = prodR l := by
  cases l with
  | nil => exact Ring.intCast_one
  | cons a as => exact foldl_mul_eq a as

theorem foldOp_add (l : List R) : foldOp (· + ·) (IntCast.intCast 0) l = sumR l := by
  cases l with
  | nil => exact Ring.intCast_zero
  | cons a as => exact foldl_add_eq a as

theorem eval_prod (σ : St R) (l : List Expr) : eval x σ (.prod l) = prodR (evalL x σ l) := by
  simp only [eval, foldOp_mul]

theorem eval_sum (σ : St R) (l : List Expr) : eval x σ (.sum l) = sumR (evalL x σ l) := by
  simp only [eval, foldOp_add]

theorem prodR_filter_ones (h : LawfulExtra x) (σ : St R) (l : List Expr) :
    prodR (evalL x σ (l.filter (fun f => !isOne f))) = prodR (evalL x σ l) := by
  induction l with
  | nil => rfl
  | cons a as ih =>
    by_cases ha : isOne a = true
    · simp only [List.filter, ha, Bool.not_true, evalL, prodR, ih, eval_isOne h σ a ha,
        Semiring.one_mul]
    · simp only [List.filter, ha, Bool.not_false, evalL, prodR, ih]

theorem prodR_append (l₁ l₂ : List R) : prodR (l₁ ++ l₂) = prodR l₁ * prodR l₂ := by
  induction l₁ with
  | nil => exact (Semiring.one_mul _).symm
  | cons a as ih => simp only [List.cons_append, prodR, ih, Semiring.mul_assoc]

theorem prodR_perm {l₁ l₂ : List R} (h : l₁.Perm l₂) : prodR l₁ = prodR l₂ := by
  induction h with
  | nil => rfl
  | cons a _ ih => simp only [prodR, ih]
  | swap a b l => exact CommSemiring.mul_left_comm ..
  | trans _ _ ih1 ih2 => rw [ih1, ih2]

theorem evalL_append (σ : St R) (l₁ l₂ : List Expr) :
    evalL x σ (l₁ ++ l₂) = evalL x σ l₁ ++ evalL x σ l₂ := by
  induction l₁ with
  | nil => simp [evalL]
  | cons a as ih => simp [evalL, ih]

theorem evalL_perm (σ : St R) {l₁ l₂ : List Expr} (h : l₁.Perm l₂) :
    (evalL x σ l₁).Perm (evalL x σ l₂) := by
  induction h with
  | nil => simp [evalL]
  | cons a _ ih => simp [evalL, ih]
  | swap a b l => simp only [evalL]; exact List.Perm.swap _ _ _
  | trans _ _ ih1 ih2 => exact ih1.trans ih2

theorem prod_perm_sound (σ : St R) {l₁ l₂ : List Expr} (h : l₁.Perm l₂) :
    eval x σ (.prod l₁) = eval x σ (.prod l₂) := by
  rw [eval_prod, eval_prod]; exact prodR_perm (evalL_perm σ h)

/-- licm's rewrite of one product: if `args` is a permutation of `kept ++ hoisted` and the
    temporary `t` holds the value of `Π hoisted`, then `Π (kept ++ [t])` has the value of `Π args`.
    Any number of factors, any values. -/
theorem licm_factor_sound (σ : St R) (args kept hoisted : List Expr) (t : Expr)
    (hperm : args.Perm (kept ++ hoisted))
    (ht : eval x σ t = eval x σ (.prod hoisted)) :
    eval x σ (.prod (kept ++ [t])) = eval x σ (.prod args) := by
  rw [prod_perm_sound σ hperm]
  simp only [eval_prod, evalL_append, prodR_append, evalL, prodR]
  rw [ht, eval_prod, Semiring.mul_one]

end Ffcx.LNodes
