/-
From the loop invariant to the two halves of the soundness theorem: the invariant holds of the initial
state (`F` = arguments in `AV` order, then `1.0`) and, acceptance implying topological order and operand
counts, at the end of the run; it gives the identity for the nodes (`factorize_nodes_sound`).  For the
targets the argkeys are re-keyed from node indices of `S` to indices into `AV`, where the arguments are the
first nodes of `F`; that this merges no two terms is ASSUMED (`wfTarget`, part of `wfCheck`).
-/
import FfcxProofs.Lemmas.FactorizeInv

namespace Ffcx.IR
open Lean.Grind

section
variable {R : Type} [Field R] (ρ : Env R)

theorem mem_argIndices (S : Array Node) (si : Nat) :
    si ∈ argIndices S ↔ si < S.size ∧ isArgKind (kindAt S si) = true := by
  unfold argIndices
  rw [(isort_perm _ _).mem_iff]
  simp [List.mem_filter]

theorem argIndices_nodup (S : Array Node) : (argIndices S).Nodup := by
  unfold argIndices
  apply (isort_perm _ _).nodup_iff.mpr
  exact List.Nodup.sublist List.filter_sublist List.nodup_range

theorem arg_no_deps (S : Array Node) (h : arityB S = true) (si : Nat) (hm : si ∈ argIndices S) :
    (nodeAt S si).deps = [] := by
  obtain ⟨hlt, hk⟩ := (mem_argIndices S si).mp hm
  have := Array.all_eq_true.1 h si hlt
  unfold kindAt at hk
  rw [nodeAt_eq S si hlt] at hk ⊢
  generalize S[si] = n at this hk
  obtain ⟨k, ds⟩ := n
  cases k <;> simp [isArgKind] at hk
  simp [Kind.arityOk] at this
  exact this

theorem foldl_insert_closed {α : Type} (node : α → Node) :
    ∀ (l : List α) (F : Array Node), Closed F → (∀ x ∈ l, (node x).deps = []) →
      Closed (l.foldl (fun F x => (graphInsert F (node x)).1) F) := by
  intro l
  induction l with
  | nil => intro F hc _; exact hc
  | cons x l ih =>
    intro F hc hd
    have hx : ∀ d ∈ (node x).deps, d < F.size := by
      rw [hd x (List.mem_cons_self ..)]; exact fun _ h => nomatch h
    exact ih _ (graphInsert_closed F (node x) hc hx) fun y hy => hd y (List.mem_cons_of_mem _ hy)

/-- `arityB S` is needed only for the argument nodes: they have no operands, so inserting them keeps `F`
closed -/
theorem initState_inv (hρ : LawfulEnv ρ) (S : Array Node) (har : arityB S = true) :
    Inv ρ S (initState S) 0 := by
  have hc0 := foldl_insert_closed (fun si => nodeAt S si) (argIndices S) #[] closed_empty
    (arg_no_deps S har)
  unfold initState
  simp only
  generalize (argIndices S).foldl (fun F si => (graphInsert F (nodeAt S si)).1) #[] = F0 at hc0
  have y := Yields.insert ρ hc0 ⟨.lit false 1, []⟩ (fun _ h => nomatch h)
  exact ⟨rfl, rfl, y.closed, y.lt, y.eq.trans hρ.ofRat_one, fun j hj => by omega⟩

theorem factorize_ok (S : Graph) (rank : Nat) (res : FResult) (h : factorize S rank = .ok res) :
    ∃ st, runNodes (fun si => (argIndices S.nodes).idxOf si) (initState S.nodes) 0 S.nodes.toList = .ok st ∧
      res.F = st.F ∧ res.nodeFacs = st.facs ∧ res.argIndices = argIndices S.nodes ∧
      res.targetDicts = S.targets.map (fun (t, comps) =>
        (t, comps, targetDict (fun si => (argIndices S.nodes).idxOf si) rank st t)) ∧
      (∀ t ∈ S.targets, t.1 < S.nodes.size) ∧
      (∀ t ∈ S.targets, targetRejected rank st S.nodes t.1 = false) := by
  unfold factorize at h
  simp only at h
  split at h
  · cases h
  rename_i st hrun
  obtain ⟨hrange, h⟩ := ite_eq_of_ne h nofun
  obtain ⟨hrej, h⟩ := ite_eq_of_ne h nofun
  cases h
  refine ⟨st, hrun, rfl, rfl, rfl, rfl, fun t ht => ?_, fun t ht => ?_⟩
  · exact Nat.lt_of_not_le fun hle => hrange (List.any_eq_true.2 ⟨t, ht, decide_eq_true hle⟩)
  · exact Bool.eq_false_iff.2 fun hr => hrej (List.any_eq_true.2 ⟨t, ht, hr⟩)

theorem wfCheck_spec (S : Graph) (rank : Nat) (res : FResult) (h : wfCheck S rank res = true) :
    (res.argIndices.map fun si => argPos (kindAt S.nodes si)) = List.range res.argIndices.length ∧
    (∀ i (hi : i < S.nodes.size), wfNode res.nodeFacs S.nodes[i] = true) ∧
    (∀ t ∈ S.targets, wfTarget (fun si => res.argIndices.idxOf si) S.nodes rank res.nodeFacs t.1 = true) := by
  unfold wfCheck at h
  simp only [Bool.and_eq_true, decide_eq_true_eq, List.all_eq_true] at h
  obtain ⟨⟨h3, h4⟩, h5⟩ := h
  exact ⟨h3, Array.all_eq_true.1 h4, h5⟩

/-- Acceptance implies shape: a graph the algorithm accepts is in topological order and every
node has the operand count of its class. -/
theorem accepted_closed (S : Array Node) (avIndex : Nat → Nat) (st0 fin : FState)
    (h : runNodes avIndex st0 0 S.toList = .ok fin) : Closed S ∧ arityB S = true := by
  have hk := (runNodes_steps avIndex fin S.toList st0 0 h).2.2
  constructor
  · intro i hi d hd
    have := (hk i (by simpa using hi)).1
    simp only [Array.getElem_toList, Nat.zero_add, List.all_eq_true, decide_eq_true_eq] at this
    exact this d hd
  · unfold arityB
    rw [Array.all_eq_true]
    intro i hi
    have := (hk i (by simpa using hi)).2
    simpa using this

theorem factorize_inv (hρ : LawfulEnv ρ) (hreal : RealArgs ρ) (S : Graph) (rank : Nat) (res : FResult)
    (st : FState)
    (hrun : runNodes (fun si => (argIndices S.nodes).idxOf si) (initState S.nodes) 0 S.nodes.toList = .ok st)
    (hfacs : res.nodeFacs = st.facs) (hwf : wfCheck S rank res = true) :
    Inv ρ S.nodes st S.nodes.size ∧ Ext (initState S.nodes).F st.F := by
  obtain ⟨_, hwfall, _⟩ := wfCheck_spec S rank res hwf
  obtain ⟨hcS, har⟩ := accepted_closed S.nodes _ _ st hrun
  rw [hfacs] at hwfall
  exact runNodes_inv ρ hρ hreal S.nodes hcS _ st hwfall S.nodes.size 0 (initState S.nodes)
    (Nat.zero_add _) (initState_inv ρ hρ S.nodes har) hrun

/-- For every node `j` of an accepted, well-formed graph that depends on arguments:
`S[j] = Σ_{(k,f) ∈ S.nodes[j]["factors"]} F[f] · Π_{a ∈ k} S[a]`. -/
theorem factorize_nodes_sound (hρ : LawfulEnv ρ) (hreal : RealArgs ρ) (S : Graph) (rank : Nat)
    (res : FResult) (h : factorize S rank = .ok res) (hwf : wfCheck S rank res = true)
    (j : Nat) (hj : j < S.nodes.size) (hne : res.nodeFacs[j]?.getD [] ≠ []) :
    val ρ S.nodes j = factSum ρ res.F (val ρ S.nodes) (res.nodeFacs[j]?.getD []) := by
  obtain ⟨st, hrun, hF, hfacs, _, _, _, _⟩ := factorize_ok S rank res h
  obtain ⟨hinv, _⟩ := factorize_inv ρ hρ hreal S rank res st hrun hfacs hwf
  rw [hfacs] at hne ⊢
  rw [hF]
  exact (hinv.node j hj).dep hne

theorem foldl_insert_distinct {α : Type} (node : α → Node) :
    ∀ (l : List α) (F : Array Node), (F.toList ++ l.map node).Nodup →
      l.foldl (fun F x => (graphInsert F (node x)).1) F = F ++ (l.map node).toArray := by
  intro l
  induction l with
  | nil => intro F _; simp
  | cons x l ih =>
    intro F hnd
    simp only [List.foldl_cons, List.map_cons]
    have hx : node x ∉ F.toList := by
      intro hm
      rw [List.nodup_append] at hnd
      exact hnd.2.2 _ hm _ (by simp) rfl
    have hins : (graphInsert F (node x)).1 = F.push (node x) := by
      unfold graphInsert
      have : ¬ List.idxOf (node x) F.toList < F.size := by
        intro hlt
        have : List.idxOf (node x) F.toList < F.toList.length := by simpa using hlt
        exact hx (List.idxOf_lt_length_iff.mp this)
      simp [this]
    rw [hins, ih (F.push (node x)) (by
      simp only [Array.toList_push, List.append_assoc, List.singleton_append]
      simpa using hnd)]
    apply Array.ext'
    simp

/-- `F[arg_indices.index(si)]` is the argument node `S[si]` -/
theorem init_args (S : Array Node)
    (hpos : ((argIndices S).map fun si => argPos (kindAt S si)) = List.range (argIndices S).length)
    (si : Nat) (hm : si ∈ argIndices S) :
    (argIndices S).idxOf si < (initState S).F.size ∧
    nodeAt (initState S).F ((argIndices S).idxOf si) = nodeAt S si := by
  -- distinct `pos`, hence distinct nodes
  have hnd : ((argIndices S).map fun si => nodeAt S si).Nodup :=
    List.Pairwise.of_map (S := (· ≠ ·)) (fun n : Node => argPos n.kind)
      (fun _ _ h e => h (e ▸ rfl)) (by rw [List.map_map]; exact hpos ▸ List.nodup_range)
  have hF0 := foldl_insert_distinct (fun si => nodeAt S si) (argIndices S) #[] (by simpa using hnd)
  have hidx : (argIndices S).idxOf si < (argIndices S).length := List.idxOf_lt_length_iff.mpr hm
  unfold initState
  simp only
  rw [hF0]
  generalize hF : (#[] ++ ((argIndices S).map fun si => nodeAt S si).toArray : Array Node) = F0
  have hsz : F0.size = (argIndices S).length := by rw [← hF]; simp
  have hext : Ext F0 (graphInsert F0 ⟨.lit false 1, []⟩).1 := graphInsert_ext _ _
  refine ⟨Nat.lt_of_lt_of_le (hsz ▸ hidx) hext.size_le, ?_⟩
  rw [hext.nodeAt _ (hsz ▸ hidx)]
  unfold nodeAt
  rw [← hF]
  simp [hidx]
  rfl

theorem foldl_set_map (rk : Key → Key) :
    ∀ (d acc : Dict), (acc.keys ++ d.keys.map rk).Nodup →
      d.foldl (fun acc kv => acc.set (rk kv.1) kv.2) acc = acc ++ d.map (fun kv => (rk kv.1, kv.2)) := by
  intro d
  induction d with
  | nil => intro acc _; simp
  | cons e d ih =>
    intro acc hnd
    simp only [List.foldl_cons, List.map_cons]
    have hfresh : rk e.1 ∉ acc.keys := by
      intro hm
      rw [List.nodup_append] at hnd
      exact hnd.2.2 _ hm _ (by simp [Dict.keys]) rfl
    rw [Dict.set_fresh acc _ _ hfresh, ih (acc ++ [(rk e.1, e.2)]) (by
      rw [Dict.keys_append]
      simp only [Dict.keys, List.map_cons, List.map_nil, List.append_assoc, List.singleton_append] at hnd ⊢
      exact hnd)]
    simp

theorem arg_value (S : Array Node) (hcS : Closed S)
    (hpos : ((argIndices S).map fun si => argPos (kindAt S si)) = List.range (argIndices S).length)
    (F : Array Node) (hcF : Closed F) (hx : Ext (initState S).F F)
    (a : Nat) (ha : a < S.size) (hk : isArgKind (kindAt S a) = true) :
    val ρ F ((argIndices S).idxOf a) = val ρ S a := by
  obtain ⟨hlt, hnode⟩ := init_args S hpos a ((mem_argIndices S a).mpr ⟨ha, hk⟩)
  have hlt' := Nat.lt_of_lt_of_le hlt hx.size_le
  rw [val_eq_evalNode' ρ F hcF _ hlt', hx.nodeAt _ hlt, hnode, val_eq_evalNode' ρ S hcS a ha]
  rw [evalNode_arg ρ _ _ hk, evalNode_arg ρ _ _ hk]

/-- For every graph the algorithm accepts and that is well formed
(`wfCheck`), in every field with a lawful interpretation of literals and conjugation and
real-valued argument tables: the value of every target node is
`Σ_{(k,f) ∈ factors(target)} F[f] · Π_{a ∈ k} F[a]` — argkeys `k` index the argument nodes at the
beginning of `F`, exactly what `compute_argument_factorization` returns. -/
theorem factorize_targets_sound (hρ : LawfulEnv ρ) (hreal : RealArgs ρ) (S : Graph) (rank : Nat)
    (res : FResult) (h : factorize S rank = .ok res) (hwf : wfCheck S rank res = true)
    (e : Nat × List Nat × Dict) (he : e ∈ res.targetDicts) :
    val ρ S.nodes e.1 = factSum ρ res.F (val ρ res.F) e.2.2 := by
  obtain ⟨st, hrun, hF, hfacs, hav, htd, hrange, hnrej⟩ := factorize_ok S rank res h
  obtain ⟨hinv, hxF⟩ := factorize_inv ρ hρ hreal S rank res st hrun hfacs hwf
  obtain ⟨hpos, _, hwft⟩ := wfCheck_spec S rank res hwf
  obtain ⟨hcS, _⟩ := accepted_closed S.nodes _ _ st hrun
  rw [hav] at hpos
  rw [htd] at he
  obtain ⟨⟨t, comps⟩, hmem, rfl⟩ := List.mem_map.1 he
  have hwt := hwft _ hmem
  have htlt : t < S.nodes.size := hrange _ hmem
  have hnr := hnrej _ hmem
  have hnode := hinv.node t htlt
  unfold wfTarget at hwt
  unfold targetRejected at hnr
  dsimp only at hwt hnr
  rw [hfacs, hav] at hwt
  show val ρ S.nodes t = factSum ρ res.F (val ρ res.F) (targetDict _ rank st t)
  rw [hF]
  unfold targetDict
  dsimp only
  by_cases hemp : facAt st t = []
  · rw [show st.facs[t]?.getD [] = [] from hemp] at hnr ⊢
    rw [if_pos List.isEmpty_nil]
    by_cases hr : rank = 0
    · -- a functional's argument-free target: the single entry `([], sf t)`
      rw [if_pos hr]
      show _ = val ρ st.F (sfAt st t) * 1 + 0
      rw [(hnode.free hemp).2, Semiring.mul_one, AddCommMonoid.add_zero]
    · -- `rank ≠ 0` and no factors: not rejected, so the target is a `zero` node and its dict is empty
      rw [if_neg hr, val_zero_of_kind ρ S.nodes hcS t htlt (by simpa [hr] using hnr)]
      rfl
  · -- `wfTarget` (distinct re-keyed keys) turns the `foldl` of `set`s into a `map`; then `arg_value`
    -- exchanges `val F (idxOf a)` for `val S a` inside every key product
    have hie : (st.facs[t]?.getD []).isEmpty = false := by
      rw [← Bool.not_eq_true, List.isEmpty_iff]; exact hemp
    rw [hie] at hwt ⊢
    rw [if_neg Bool.false_ne_true, foldl_set_map _ _ [] (of_decide_eq_true hwt), hnode.dep hemp]
    unfold factSum
    rw [List.nil_append, lsum_map]
    refine lsum_congr _ _ _ fun kv hkv => congrArg _ ?_
    rw [keyProd_perm _ (sortNat_perm _), keyProd_map]
    refine keyProd_congr _ _ _ fun a ha => ?_
    obtain ⟨hk, hlt, _⟩ := hnode.real kv.1 ((Dict.mem_keys ..).2 ⟨kv.2, hkv⟩) a ha
    exact (arg_value ρ S.nodes hcS hpos st.F hinv.closed hxF a hlt hk).symm

end
end Ffcx.IR
