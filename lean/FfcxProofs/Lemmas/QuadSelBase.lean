/-
Structural lemmas about the quadrature-selection model (FfcxModel/Quadrature/Select.lean).  The loops over the
integrals of a group (`analyzeAll`, `selectSeq`, hence `selectGroup`) and over cell types (`createEach`) stop at the
first error; a run that succeeds relates inputs and outputs one by one (`Rel2`; for the loops over integrals this is
an equivalence), so a theorem about a group is a theorem about one integral.  For one integral, the scan of its
elements returns the custom quadrature of the first element that has one (`analyze_ok`).  Core Lean only.
-/
import FfcxModel.Quadrature.Select
import FfcxProofs.Lemmas.Basics

namespace Ffcx.QuadSel

/-- the pointwise lifting of a relation to two lists of equal length (`List.Forall₂` of Mathlib, kept local: core
only).  `HList` (Lemmas/OptLicm.lean, on statements) and `Pieces` (C20.lean, at one relation) are the same inductive,
declared on their own. -/
inductive Rel2 {α β : Type} (R : α → β → Prop) : List α → List β → Prop where
  | nil : Rel2 R [] []
  | cons {a b l m} : R a b → Rel2 R l m → Rel2 R (a :: l) (b :: m)

namespace Rel2
variable {α β : Type} {R S : α → β → Prop}

theorem length_eq {l : List α} {m : List β} (h : Rel2 R l m) : l.length = m.length := by
  induction h with
  | nil => rfl
  | cons _ _ ih => rw [List.length_cons, List.length_cons, ih]

theorem imp (hRS : ∀ a b, R a b → S a b) {l : List α} {m : List β} (h : Rel2 R l m) : Rel2 S l m := by
  induction h with
  | nil => exact .nil
  | cons h _ ih => exact .cons (hRS _ _ h) ih

theorem congr (hRS : ∀ a b, R a b ↔ S a b) {l : List α} {m : List β} : Rel2 R l m ↔ Rel2 S l m :=
  ⟨imp fun a b => (hRS a b).mp, imp fun a b => (hRS a b).mpr⟩

theorem singleton {a : α} {b : β} : Rel2 R [a] [b] ↔ R a b :=
  ⟨fun h => by cases h with | cons h _ => exact h, fun h => .cons h .nil⟩

theorem get {l : List α} {m : List β} (h : Rel2 R l m) (i : Nat) (hi : i < l.length) (hj : i < m.length) :
    R l[i] m[i] := by
  induction h generalizing i with
  | nil => exact absurd hi (Nat.not_lt_zero _)
  | cons h _ ih =>
    cases i with
    | zero => exact h
    | succ n => exact ih n (Nat.lt_of_succ_lt_succ hi) (Nat.lt_of_succ_lt_succ hj)

theorem of_mem_left {l : List α} {m : List β} (h : Rel2 R l m) {a : α} (ha : a ∈ l) : ∃ b ∈ m, R a b := by
  induction h with
  | nil => cases ha
  | cons h _ ih =>
    rcases List.mem_cons.mp ha with rfl | ha
    · exact ⟨_, List.mem_cons_self, h⟩
    · obtain ⟨b, hb, hr⟩ := ih ha
      exact ⟨b, List.mem_cons_of_mem _ hb, hr⟩

/-- relating `l` to some `m` and the pairs `l.zip m` to `n` is relating `l` to `n` through a middle value -/
theorem zip_iff {γ : Type} {R : α → β → Prop} {S : α × β → γ → Prop} {l : List α} {n : List γ} :
    (∃ m, Rel2 R l m ∧ Rel2 S (l.zip m) n) ↔ Rel2 (fun a c => ∃ b, R a b ∧ S (a, b) c) l n := by
  constructor
  · rintro ⟨m, h1, h2⟩
    induction h1 generalizing n with
    | nil => cases h2; exact .nil
    | cons hab _ ih =>
      cases h2 with
      | cons hs hrest => exact .cons ⟨_, hab, hs⟩ (ih hrest)
  · intro h
    induction h with
    | nil => exact ⟨[], .nil, .nil⟩
    | cons hab _ ih =>
      obtain ⟨b, hr, hs⟩ := hab
      obtain ⟨m, h1, h2⟩ := ih
      exact ⟨b :: m, .cons hr h1, .cons hs h2⟩

theorem map_right {f : β → α} {P : α → β → Prop} {l : List α} {m : List β}
    (h : Rel2 (fun a b => f b = a ∧ P a b) l m) : m.map f = l ∧ ∀ b ∈ m, P (f b) b := by
  induction h with
  | nil => exact ⟨rfl, nofun⟩
  | cons h _ ih =>
    obtain ⟨rfl, hp⟩ := h
    exact ⟨congrArg _ ih.1, List.forall_mem_cons.mpr ⟨hp, ih.2⟩⟩

theorem perm {l l' : List α} (hp : l'.Perm l) {m : List β} (h : Rel2 R l m) :
    ∃ m', m'.Perm m ∧ Rel2 R l' m' := by
  induction hp generalizing m with
  | nil => cases h; exact ⟨[], .refl _, .nil⟩
  | cons a _ ih =>
    cases h with
    | cons hab hrest =>
      obtain ⟨m', hm, hr⟩ := ih hrest
      exact ⟨_ :: m', hm.cons _, .cons hab hr⟩
  | swap a b l =>
    cases h with
    | cons h1 hrest =>
      cases hrest with
      | cons h2 hrest =>
        exact ⟨_ :: _ :: _, List.Perm.swap _ _ _, .cons h2 (.cons h1 hrest)⟩
  | trans _ _ ih1 ih2 =>
    obtain ⟨m2, hm2, hr2⟩ := ih2 h
    obtain ⟨m1, hm1, hr1⟩ := ih1 hr2
    exact ⟨m1, hm1.trans hm2, hr1⟩

end Rel2

/-- no element of the integral carries a custom quadrature (no quadrature element) -/
def NoCustom (it : IntegralIn) : Prop := ∀ e ∈ it.elements, e.hasCustom = false

/-- the first element with a custom quadrature is `e` -/
def FirstCustom (it : IntegralIn) (e : ElemIn) : Prop :=
  ∃ pre post, it.elements = pre ++ e :: post ∧ (∀ x ∈ pre, x.hasCustom = false) ∧ e.hasCustom = true

/-- the custom quadrature an element brings, if any -/
def ElemIn.customQ? (e : ElemIn) : Option CustomQ :=
  if e.hasCustom then some ⟨e.customPts, e.customWts, e.customN⟩ else none

/-- one step keeps a custom quadrature already found (a later one is only compared) and otherwise takes the
element's own -/
theorem customStep_ok (acc : Option CustomQ) (e : ElemIn) (r : Option CustomQ) (h : customStep acc e = .ok r) :
    r = acc.or e.customQ? := by
  unfold customStep at h
  unfold ElemIn.customQ?
  by_cases he : e.hasCustom = true
  · rw [if_pos he] at h ⊢
    cases acc with
    | none => exact (Except.ok.inj h).symm
    | some q => exact (Except.ok.inj (ite_eq_of_ne (ite_eq_of_ne (ite_eq_of_ne h nofun).2 nofun).2 nofun).2).symm
  · rw [if_neg he] at h ⊢
    rw [Option.or_none]
    exact (Except.ok.inj h).symm

/-- a scan that does not raise returns the custom quadrature of the FIRST element that
has one -/
theorem customScan_ok (acc : Option CustomQ) (es : List ElemIn) (r : Option CustomQ)
    (h : customScan acc es = .ok r) : r = acc.or (es.findSome? ElemIn.customQ?) := by
  induction es generalizing acc with
  | nil => rw [List.findSome?_nil, Option.or_none]; exact (Except.ok.inj h).symm
  | cons e es ih =>
    unfold customScan at h
    split at h
    · cases h
    · rename_i acc' hstep
      rw [ih acc' h, customStep_ok acc e acc' hstep, Option.or_assoc, List.findSome?_cons]
      cases e.customQ? <;> rfl

theorem findSome_noCustom {es : List ElemIn} (h : ∀ e ∈ es, e.hasCustom = false) :
    es.findSome? ElemIn.customQ? = none :=
  List.findSome?_eq_none_iff.mpr fun e he => by rw [ElemIn.customQ?, h e he]; rfl

/-- `maxList` is core's `List.max?` -/
theorem maxList_spec (l : List Int) (m : Int) (hm : maxList l = some m) : (∀ e ∈ l, e ≤ m) ∧ m ∈ l := by
  have : l.max? = some m := by cases l <;> exact hm
  exact (List.max?_eq_some_iff.mp this).symm

/-- what an analysis that does not raise returns: the custom quadrature of the first element that has one; without
one the integral's scheme, with its explicit degree (≥ 0) or else the largest estimate -/
theorem analyze_ok (itype : IType) (it : IntegralIn) (a : Analysed) (h : analyze itype it = .ok a) :
    match it.elements.findSome? ElemIn.customQ? with
    | some q => a = .custom q.pts q.wts
    | none => ∃ d, a = .std d (it.mdScheme.getD "default") ∧
        (0 ≤ it.mdDegree.getD (-1) → d = it.mdDegree.getD (-1)) ∧
        (it.mdDegree.getD (-1) < 0 → maxList it.estDegrees = some d) := by
  unfold analyze at h
  replace h := (ite_eq_of_ne h nofun).2
  cases hq : customScan none it.elements with
  | error err => rw [hq] at h; cases h
  | ok r =>
    rw [hq] at h
    rw [← (customScan_ok none _ r hq).trans Option.none_or]
    cases r with
    | some q => exact (Except.ok.inj h).symm
    | none =>
      dsimp only at h ⊢
      by_cases hlt : it.mdDegree.getD (-1) < 0
      · rw [if_pos hlt] at h
        cases hm : maxList it.estDegrees with
        | none => rw [hm] at h; cases h
        | some m => rw [hm] at h; cases h; exact ⟨m, rfl, fun h0 => absurd hlt (Int.not_lt.mpr h0), fun _ => rfl⟩
      · rw [if_neg hlt] at h
        cases h
        exact ⟨_, rfl, fun _ => rfl, fun h' => absurd h' hlt⟩

theorem analyze_noCustom (itype : IType) (it : IntegralIn) (hc : NoCustom it) (a : Analysed)
    (h : analyze itype it = .ok a) :
    ∃ d, a = .std d (it.mdScheme.getD "default") ∧
      ((0 ≤ it.mdDegree.getD (-1) → d = it.mdDegree.getD (-1)) ∧
       (it.mdDegree.getD (-1) < 0 → maxList it.estDegrees = some d)) := by
  have := analyze_ok itype it a h
  rwa [findSome_noCustom hc] at this

theorem analyze_firstCustom (itype : IType) (it : IntegralIn) (e : ElemIn) (hf : FirstCustom it e)
    (a : Analysed) (h : analyze itype it = .ok a) : a = .custom e.customPts e.customWts := by
  obtain ⟨pre, post, hel, hpre, he⟩ := hf
  have := analyze_ok itype it a h
  rwa [hel, List.findSome?_append, findSome_noCustom hpre, List.findSome?_cons, ElemIn.customQ?, if_pos he] at this

theorem analyze_vertex_discontinuous (it : IntegralIn) (e : ElemIn) (he : e ∈ it.elements)
    (hd : e.discontinuous = true) : analyze .vertex it = .error .vertexDiscontinuous := by
  unfold analyze
  have : it.elements.any (·.discontinuous) = true := List.any_eq_true.mpr ⟨e, he, hd⟩
  simp [this]

theorem analyzeAll_iff (itype : IType) (l : List IntegralIn) (as : List Analysed) :
    analyzeAll itype l = .ok as ↔ Rel2 (fun it a => analyze itype it = .ok a) l as := by
  constructor
  · intro h
    induction l generalizing as with
    | nil => cases h; exact .nil
    | cons x xs ih =>
      simp only [analyzeAll] at h
      split at h
      · cases h
      · rename_i a ha
        split at h
        · cases h
        · rename_i as' has
          cases h
          exact .cons ha (ih as' has)
  · intro h
    induction h with
    | nil => rfl
    | cons ha _ ih => simp only [analyzeAll, ha, ih]

theorem selectSeq_iff (o : Options) (g : GroupIn) (l : List (IntegralIn × Analysed)) (outs : List IntegralOut) :
    selectSeq o g l = .ok outs ↔
      Rel2 (fun p out => out.tag = p.1.tag ∧ selectStep o g p.1 p.2 = .ok out.sels) l outs := by
  constructor
  · intro h
    induction l generalizing outs with
    | nil => cases h; exact .nil
    | cons p rest ih =>
      obtain ⟨it, a⟩ := p
      simp only [selectSeq] at h
      split at h
      · cases h
      · rename_i sels hs
        split at h
        · cases h
        · rename_i outs' ho
          cases h
          exact .cons ⟨rfl, hs⟩ (ih outs' ho)
  · intro h
    induction h with
    | nil => rfl
    | @cons p out _ _ hab _ ih =>
      obtain ⟨it, a⟩ := p
      obtain ⟨tag, sels⟩ := out
      obtain ⟨rfl, hs⟩ := hab
      simp only [selectSeq, hs, ih]

/-- a group is accepted exactly when every integral is analysed and selected
on its own, and the outputs are those of the single integrals -/
theorem selectGroup_iff (o : Options) (g : GroupIn) (outs : List IntegralOut) :
    selectGroup o g = .ok outs ↔
    Rel2 (fun it out => ∃ a, analyze g.itype it = .ok a ∧ out.tag = it.tag ∧
      selectStep o g it a = .ok out.sels) g.integrals outs := by
  -- `selectGroup` is `analyzeAll`, then `selectSeq` on the integrals zipped with the analyses
  have hseq : selectGroup o g = .ok outs ↔ ∃ as, analyzeAll g.itype g.integrals = .ok as ∧
      selectSeq o g (g.integrals.zip as) = .ok outs := by
    unfold selectGroup
    cases analyzeAll g.itype g.integrals with
    | error e => exact ⟨(nomatch ·), fun ⟨_, h, _⟩ => nomatch h⟩
    | ok as => exact ⟨fun h => ⟨as, rfl, h⟩, fun ⟨_, h, hs⟩ => by cases h; exact hs⟩
  -- each pass is a `Rel2`; `zip_iff` composes the two through the analysis `a` of each integral
  simp only [hseq, analyzeAll_iff, selectSeq_iff]
  exact Rel2.zip_iff (R := fun it a => analyze g.itype it = .ok a)
    (S := fun p (out : IntegralOut) => out.tag = p.1.tag ∧ selectStep o g p.1 p.2 = .ok out.sels)

theorem createEach_rel {d : Int} {s : String} {ps : List Polyset} {cs : List Cell} {rs : List Sel}
    (h : createEach d s ps cs = .ok rs) :
    Rel2 (fun c x => x.cell = c ∧ createQuadrature c d s ps = .ok x.rule) cs rs := by
  induction cs generalizing rs with
  | nil => cases h; exact .nil
  | cons c cs ih =>
    simp only [createEach] at h
    split at h
    · cases h
    · rename_i r hr
      split at h
      · cases h
      · rename_i rs' hrs
        cases h
        exact .cons ⟨rfl, hr⟩ (ih hrs)

/-- what `create_quadrature` can return: the one-point rule for a vertex, otherwise the Basix rule of
exactly that cell, type of the scheme string, that degree, polyset of the argument elements -/
theorem createQuadrature_spec (c : Cell) (d : Int) (s : String) (ps : List Polyset) (r : Rule)
    (h : createQuadrature c d s ps = .ok r) :
    (c = .point ∧ r = .point) ∨
    (c ≠ .point ∧ ∃ qt, stringToType s = some qt ∧ 0 ≤ d ∧
      basixAccepts c qt (ps.foldl Polyset.superset .standard) d.toNat = true ∧
      r = .basix c qt d.toNat (ps.foldl Polyset.superset .standard)) := by
  unfold createQuadrature at h
  by_cases hc : (c == .point) = true
  · rw [if_pos hc] at h
    cases h
    exact .inl ⟨eq_of_beq hc, rfl⟩
  · rw [if_neg hc] at h
    refine .inr ⟨fun e => hc (e ▸ beq_self_eq_true _), ?_⟩
    cases hq : stringToType s with
    | none => rw [hq] at h; cases h
    | some qt =>
      rw [hq] at h
      dsimp only at h
      by_cases hd : d < 0
      · rw [if_pos hd] at h; cases h
      · rw [if_neg hd] at h
        by_cases hacc : basixAccepts c qt (ps.foldl Polyset.superset .standard) d.toNat = true
        · rw [if_pos hacc] at h
          cases h
          exact ⟨qt, rfl, Int.not_lt.mp hd, hacc, rfl⟩
        · rw [if_neg hacc] at h; cases h

end Ffcx.QuadSel
