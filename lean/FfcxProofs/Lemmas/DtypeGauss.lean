/-
C09 soundness of the dtype discipline — a concrete model: Gaussian rationals.

Shows that the hypotheses of `dtype_sound` (`ComplexLike`, `LawfulComplexExtra`) are satisfiable by a
carrier with genuinely non-real values, and provides the carrier of the counterexamples.
The math functions are interpreted totally by stand-ins (`gaussFn`: `real`, `imag`, `conj` as what
they are — `fn_real_valued` of `gauss_lawful` needs that —, `abs` ↦ |z|², every other name ↦ the
product of its arguments): only the *laws* matter here, not the analytic functions.
-/
import FfcxProofs.Lemmas.DtypeBase

namespace Ffcx.LNodes

/-- `re + im·i` with rational parts -/
structure GRat where
  re : Rat
  im : Rat
  deriving DecidableEq, Repr

namespace GRat

@[ext] theorem ext' {a b : GRat} (h1 : a.re = b.re) (h2 : a.im = b.im) : a = b := by
  cases a; cases b; simp_all

def conj (a : GRat) : GRat := ⟨a.re, -a.im⟩
def normSq (a : GRat) : Rat := a.re * a.re + a.im * a.im
def inv (a : GRat) : GRat := ⟨a.re / a.normSq, -a.im / a.normSq⟩

instance : Add GRat := ⟨fun a b => ⟨a.re + b.re, a.im + b.im⟩⟩
instance : Sub GRat := ⟨fun a b => ⟨a.re - b.re, a.im - b.im⟩⟩
instance : Neg GRat := ⟨fun a => ⟨-a.re, -a.im⟩⟩
instance : Mul GRat := ⟨fun a b => ⟨a.re * b.re - a.im * b.im, a.re * b.im + a.im * b.re⟩⟩
instance : Div GRat := ⟨fun a b => a * b.inv⟩
instance : IntCast GRat := ⟨fun n => ⟨(n : Rat), 0⟩⟩

@[simp] theorem add_re (a b : GRat) : (a + b).re = a.re + b.re := rfl
@[simp] theorem add_im (a b : GRat) : (a + b).im = a.im + b.im := rfl
@[simp] theorem sub_re (a b : GRat) : (a - b).re = a.re - b.re := rfl
@[simp] theorem sub_im (a b : GRat) : (a - b).im = a.im - b.im := rfl
@[simp] theorem neg_re (a : GRat) : (-a).re = -a.re := rfl
@[simp] theorem neg_im (a : GRat) : (-a).im = -a.im := rfl
@[simp] theorem mul_re (a b : GRat) : (a * b).re = a.re * b.re - a.im * b.im := rfl
@[simp] theorem mul_im (a b : GRat) : (a * b).im = a.re * b.im + a.im * b.re := rfl
@[simp] theorem conj_re (a : GRat) : a.conj.re = a.re := rfl
@[simp] theorem conj_im (a : GRat) : a.conj.im = -a.im := rfl
@[simp] theorem intCast_re (n : Int) : (IntCast.intCast n : GRat).re = (n : Rat) := rfl
@[simp] theorem intCast_im (n : Int) : (IntCast.intCast n : GRat).im = 0 := rfl
theorem div_def (a b : GRat) : a / b = a * b.inv := rfl

theorem conj_mul (a b : GRat) : (a * b).conj = a.conj * b.conj := by
  ext <;> simp only [conj_re, conj_im, mul_re, mul_im, Rat.neg_mul, Rat.mul_neg, Rat.neg_neg,
    Rat.neg_add]

theorem normSq_conj (a : GRat) : a.conj.normSq = a.normSq := by
  simp only [normSq, conj_re, conj_im]
  grind

theorem conj_inv (a : GRat) : a.inv.conj = a.conj.inv := by
  ext
  · simp [inv, normSq_conj]
  · simp only [inv, normSq_conj, conj_im, conj_re]
    grind

end GRat

/-- Gaussian rationals with complex conjugation; `re` drops the imaginary part -/
def gaussC : ComplexLike GRat where
  conj := GRat.conj
  re := fun a => ⟨a.re, 0⟩
  conj_add := by intro a b; ext <;> simp <;> grind
  conj_sub := by intro a b; ext <;> simp <;> grind
  conj_mul := GRat.conj_mul
  conj_div := by intro a b; rw [GRat.div_def, GRat.div_def, GRat.conj_mul, GRat.conj_inv]
  conj_neg := by intro a; ext <;> simp
  conj_intCast := by intro n; ext <;> simp
  conj_conj := by intro a; ext <;> simp
  re_real := by intro a; ext <;> simp
  re_of_real := by
    intro a h
    have h2 : -a.im = a.im := congrArg GRat.im h
    ext
    · rfl
    · show (0 : Rat) = a.im
      grind

theorem gauss_isReal_iff (a : GRat) : gaussC.IsReal a ↔ a.im = 0 := by
  constructor
  · intro h
    have h2 : -a.im = a.im := congrArg GRat.im h
    grind
  · intro h
    show a.conj = a
    ext <;> simp [h]

theorem gauss_realStore {Γ : DEnv} {σ : St GRat} (hsv : ∀ p ∈ σ.sv, p.2.im = 0)
    (hsa : ∀ p ∈ σ.sa, (∀ d ∈ Γ.get p.1, d.isRealTy = false) ∨ ∀ v ∈ p.2.data.toList, v.im = 0) :
    RealStore gaussC Γ σ where
  sv _ _ v _ _ hv := (gauss_isReal_iff v).2 (hsv _ (AList.mem_of_get hv))
  sa _ d a hn hd ha k := by
    rcases hsa _ (AList.mem_of_get ha) with h | h
    · rw [h d hn] at hd
      cases hd
    · exact (gauss_isReal_iff _).2 (getD_of_all (fun v : GRat => v.im = 0) rfl h k)

def gaussFn (f : String) (args : List GRat) : GRat :=
  if f = "real" then ⟨(args.headD (IntCast.intCast 0)).re, 0⟩
  else if f = "imag" then ⟨(args.headD (IntCast.intCast 0)).im, 0⟩
  else if f = "abs" then ⟨(args.headD (IntCast.intCast 0)).normSq, 0⟩
  else if f = "conj" then (args.headD (IntCast.intCast 0)).conj
  else args.foldl (· * ·) (IntCast.intCast 1)

def gaussExtra : Extra GRat where
  ofRat := fun re im => ⟨re, im⟩
  lt := fun a b => decide (a.re < b.re)
  le := fun a b => decide (a.re ≤ b.re)
  eqb := fun a b => decide (a = b)
  fn := gaussFn

theorem gaussFn_isReal {f : String} {args : List GRat}
    (h : realValued f = true ∨ ∀ a, a ∈ args → gaussC.IsReal a) :
    gaussC.IsReal (gaussFn f args) := by
  unfold gaussFn
  have mk (q : Rat) : gaussC.IsReal ⟨q, 0⟩ := (gauss_isReal_iff _).2 rfl
  refine ite_elim (fun _ => mk _) fun h1 => ite_elim (fun _ => mk _) fun h2 =>
    ite_elim (fun _ => mk _) fun h3 => ?_
  have hargs := h.resolve_left (by simp [realValued, h1, h2, h3])
  refine ite_elim (fun _ => gaussC.isReal_conj ?_) fun _ =>
    gaussC.isReal_foldl (fun _ _ => gaussC.isReal_mul) args (gaussC.isReal_intCast 1) hargs
  cases args with
  | nil => exact gaussC.isReal_intCast 0
  | cons a _ => exact hargs a List.mem_cons_self

/-- the hypotheses of `dtype_sound` are satisfiable: the Gaussian rationals are a lawful model -/
theorem gauss_lawful : LawfulComplexExtra gaussC gaussExtra where
  ofRat_real _ := (gauss_isReal_iff _).2 rfl
  fn_real_valued _ _ h := gaussFn_isReal (.inl h)
  fn_real_closed _ _ h := gaussFn_isReal (.inr h)

end Ffcx.LNodes
