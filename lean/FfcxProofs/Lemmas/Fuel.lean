/-
C16 — fuel of the fuel-indexed parsers, kept out of the round-trip proofs.  `Settled` is what one
induction over the fuel proves of every successful run (it gives monotonicity and a bound that depends
on the input alone); `Ev` is how the round-trip proofs speak of a run ("at every large enough fuel"):
a production of the parser, `k ↦ k + 1`, lifts to `Ev` with no arithmetic. `mono_of_step` serves the
statement parsers, whose fuel stays explicit.
-/
namespace Ffcx.LNodes.Fmt

/-- `p` gives `r` at every fuel from `min f b` on: a run that succeeded with fuel `f` is repeated by
    every larger fuel, and by every fuel above the bound `b`, however small `f` was.

    In a use, `p` is one parser function on a fixed input `x`, `f` the fuel of the run that is given
    and `b = a * |x| + c` a bound in the length of the input alone. For a family of mutually recursive
    parser functions (`FuelC`, `FuelPy`) one states, per function `pᵢ`,
      `pᵢ f x = some r → |rest left by r| < |x| ∧ Settled (pᵢ · x) f (a * |x| + cᵢ) r`
    (`≤` for a function that may read nothing), and proves all of them together by induction over `f`.
    The offsets `cᵢ ≥ 1` decrease along every call that hands the input on unread (`pᵢ` calls `pⱼ` on
    the same `x`: `cⱼ < cᵢ`), and `a` is at least the largest offset. A case of the step takes the run
    at fuel `f + 1` apart into the calls at fuel `f` it made, has `s, s' : Settled …` of these from the
    hypothesis, and ends with
      `.succ fun k hk => production (s.le hk (Nat.le_refl _)) (s'.le hk (bound_lt hlen (by decide)))`
    where `production` is the lemma "results of the callees at fuel `k` give the result at fuel
    `k + 1`", `Nat.le_refl` serves a callee on the same input whose offset is the caller's less one,
    and `bound_lt` a callee on a shorter input (`hlen`). Of the `Settled` that comes out, `Settled.mono` is
    monotonicity in the fuel; `Settled.above` says that a fuel above `a * |x| + cᵢ` finds whatever any fuel
    finds: no run fails for want of such a fuel. The model runs every parser with
    `fuelFor x = 8 * |x| + 8`, one definition for all grammars: the lemmas `…_fuelFor` are the
    inequality `a * |x| + cᵢ ≤ fuelFor x`, which holds as long as the chain has at most 8 functions. -/
def Settled {β} (p : Nat → Option β) (f b : Nat) (r : β) : Prop :=
  ∀ F, f ≤ F ∨ b ≤ F → p F = some r

theorem Settled.mono {β} {p : Nat → Option β} {f b F : Nat} {r : β} (s : Settled p f b r) (h : f ≤ F) :
    p F = some r := s F (.inl h)

theorem Settled.above {β} {p : Nat → Option β} {f b F : Nat} {r : β} (s : Settled p f b r) (h : b ≤ F) :
    p F = some r := s F (.inr h)

/-- the run at `k + 1` repeats the production from the sub-runs at `k`; `f` is the fuel of the
    sub-runs that are given, `b` the caller's bound less the unit spent here -/
theorem Settled.succ {β} {p : Nat → Option β} {f b : Nat} {r : β}
    (h : ∀ k, f ≤ k ∨ b ≤ k → p (k + 1) = some r) : Settled p (f + 1) (b + 1) r := by
  intro F hF
  obtain ⟨k, rfl⟩ : ∃ k, F = k + 1 := ⟨F - 1, by omega⟩
  exact h k (by omega)

/-- a settled sub-run at a fuel `k` that `Settled.succ` offers (`hk`): its own bound `b'` is at most
    what the caller has left, `b` -/
theorem Settled.le {β} {p : Nat → Option β} {f b b' k : Nat} {r : β} (s : Settled p f b' r)
    (hk : f ≤ k ∨ b ≤ k) (hb : b' ≤ b) : p k = some r :=
  s k (hk.imp id (Nat.le_trans hb))

/-- The bound `a * n' + c'` of a callee with offset `c'` on a shorter input (`n' < n`) is below what
    the caller has left, `a * n + c`, `c` being the caller's offset less one: the token that was read
    pays `a` units, so `c'` may exceed `c` by up to `a` (`hc`, by `decide` at a use). A caller with
    offset 1 has `a * n` left, which Lean matches with `a * n + c` only when told `(c := 0)`. -/
theorem bound_lt {a n' n c' c : Nat} (hn : n' < n) (hc : c' ≤ c + a) : a * n' + c' ≤ a * n + c :=
  calc a * n' + c' ≤ a * n' + (c + a) := Nat.add_le_add_left hc _
    _ = a * (n' + 1) + c := by rw [Nat.mul_succ, Nat.add_assoc, Nat.add_comm c a]
    _ ≤ a * n + c := Nat.add_le_add_right (Nat.mul_le_mul_left a hn) c

def Ev (P : Nat → Prop) : Prop := ∃ F0, ∀ F, F0 ≤ F → P F

theorem Ev.elim {P : Nat → Prop} {Q : Prop} (h : Ev P) (hq : ∀ F, P F → Q) : Q :=
  let ⟨F, hF⟩ := h
  hq F (hF F (Nat.le_refl F))

theorem Ev.step0 {D : Nat → Prop} (h : ∀ k, D (k + 1)) : Ev D :=
  ⟨1, fun
    | 0, h0 => nomatch h0
    | k + 1, _ => h k⟩

theorem Ev.step1 {A D : Nat → Prop} (h : ∀ {k}, A k → D (k + 1)) : Ev A → Ev D
  | ⟨a, ha⟩ => ⟨a + 1, fun F hF => by
    obtain ⟨k, rfl⟩ : ∃ k, F = k + 1 := ⟨F - 1, by omega⟩
    exact h (ha k (by omega))⟩

theorem Ev.step2 {A B D : Nat → Prop} (h : ∀ {k}, A k → B k → D (k + 1)) : Ev A → Ev B → Ev D
  | ⟨a, ha⟩, ⟨b, hb⟩ => ⟨a + b + 1, fun F hF => by
    obtain ⟨k, rfl⟩ : ∃ k, F = k + 1 := ⟨F - 1, by omega⟩
    exact h (ha k (by omega)) (hb k (by omega))⟩

theorem Ev.step3 {A B C D : Nat → Prop} (h : ∀ {k}, A k → B k → C k → D (k + 1)) :
    Ev A → Ev B → Ev C → Ev D
  | ⟨a, ha⟩, ⟨b, hb⟩, ⟨c, hc⟩ => ⟨a + b + c + 1, fun F hF => by
    obtain ⟨k, rfl⟩ : ∃ k, F = k + 1 := ⟨F - 1, by omega⟩
    exact h (ha k (by omega)) (hb k (by omega)) (hc k (by omega))⟩

theorem mono_of_step {α β : Type} {parse : Nat → α → Option β}
    (hstep : ∀ f x v, parse f x = some v → parse (f + 1) x = some v) {f f' : Nat} {x : α} {v : β}
    (hle : f ≤ f') (h : parse f x = some v) : parse f' x = some v := by
  induction hle with
  | refl => exact h
  | step _ ih => exact hstep _ _ _ ih

end Ffcx.LNodes.Fmt
