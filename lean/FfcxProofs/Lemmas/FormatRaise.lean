/-
C16 — the C formatter does not raise on well-formed trees: `wfC` excludes the MathFunction calls
the handler rejects (complex scalar type, a SCALAR argument, no complex version of the function).
-/
import FfcxModel.LNodes.ParseC
namespace Ffcx.LNodes.Fmt

mutual
theorem wfC_not_raises (sc : Scalar) : ∀ e : Expr, wfC sc e = true → raisesC sc e = false
  | .litF .., _ => rfl
  | .litI _, _ => rfl
  | .sym .., _ => rfl
  | .mi s z gi, h => by simp only [wfC] at h; simp only [raisesC]; exact wfC_not_raises sc gi h
  | .neg a, h => by simp only [wfC] at h; simp only [raisesC]; exact wfC_not_raises sc a h
  | .not a, h => by simp only [wfC] at h; simp only [raisesC]; exact wfC_not_raises sc a h
  | .bin op a b, h => by
    simp only [wfC, Bool.and_eq_true] at h
    simp only [raisesC, wfC_not_raises sc a h.1, wfC_not_raises sc b h.2, Bool.or_self]
  | .sum args, h => by
    simp only [wfC, Bool.and_eq_true] at h
    simp only [raisesC]; exact wfLC_not_raises sc args h.2
  | .prod args, h => by
    simp only [wfC, Bool.and_eq_true] at h
    simp only [raisesC]; exact wfLC_not_raises sc args h.2
  | .call f dt args, h => by
    simp only [wfC, Bool.and_eq_true] at h
    have h1 : callRaisesC sc f args = false := by
      have := h.1.1
      simp only [callOK, Bool.and_eq_true, Bool.not_eq_true'] at this
      exact this.1.2
    simp only [raisesC, h1, wfLC_not_raises sc args h.2, Bool.or_self]
  | .idx arr dt ix, h => by
    simp only [wfC, Bool.and_eq_true] at h
    simp only [raisesC]; exact wfLC_not_raises sc ix h.2
  | .cond c t f, h => by
    simp only [wfC, Bool.and_eq_true] at h
    simp only [raisesC, wfC_not_raises sc c h.1.1, wfC_not_raises sc t h.1.2, wfC_not_raises sc f h.2, Bool.or_self]
theorem wfLC_not_raises (sc : Scalar) : ∀ l : List Expr, wfLC sc l = true → raisesLC sc l = false
  | [], _ => rfl
  | a :: as, h => by
    simp only [wfLC, Bool.and_eq_true] at h
    simp only [raisesLC, wfC_not_raises sc a h.1, wfLC_not_raises sc as h.2, Bool.or_self]
end

mutual
theorem wfS_not_raises (sc : Scalar) : ∀ s : Stmt, wfS sc s = true → stmtRaisesC sc s = false
  | .assign l r, h => by
    simp only [wfS, Bool.and_eq_true] at h
    simp only [stmtRaisesC, wfC_not_raises sc l h.1.2, wfC_not_raises sc r h.2, Bool.or_self]
  | .addAssign l r, h => by
    simp only [wfS, Bool.and_eq_true] at h
    simp only [stmtRaisesC, wfC_not_raises sc l h.1.2, wfC_not_raises sc r h.2, Bool.or_self]
  | .vdecl n dt v, h => by
    simp only [wfS, Bool.and_eq_true] at h
    simp only [stmtRaisesC, wfC_not_raises sc v h.2]
  | .adecl .., _ => rfl
  | .forRange i lo hi body, h => by
    simp only [wfS, Bool.and_eq_true] at h
    obtain ⟨⟨⟨_, hlo⟩, hhi⟩, hbody⟩ := h
    simp only [stmtRaisesC, wfC_not_raises sc lo hlo, wfC_not_raises sc hi hhi, wfSL_not_raise sc body hbody,
      Bool.or_self]
  | .comment _, _ => rfl
  | .block ss, h => by simp only [wfS] at h; simp only [stmtRaisesC]; exact wfSL_not_raise sc ss h
  | .sect name decls stmts inp out an, h => by
    simp only [wfS, Bool.and_eq_true] at h
    simp only [stmtRaisesC, wfSL_not_raise sc decls h.1.2, wfSL_not_raise sc stmts h.2, Bool.or_self]
theorem wfSL_not_raise (sc : Scalar) : ∀ ss : List Stmt, wfSL sc ss = true → stmtsRaiseC sc ss = false
  | [], _ => rfl
  | s :: ss, h => by
    simp only [wfSL, Bool.and_eq_true] at h
    simp only [stmtsRaiseC, wfS_not_raises sc s h.1, wfSL_not_raise sc ss h.2, Bool.or_self]
end

end Ffcx.LNodes.Fmt
