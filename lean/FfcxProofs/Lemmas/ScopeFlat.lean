/-
Faithfulness of the flat semantics `exec` to the block-structured semantics `execB` for accepted
statements, under the decidable certificates `clobS` (no visible name is used while the flat store
holds the value of an inner variable of the same name) and `kindsS` (a name always lives in the same
one of the four name spaces).

The relation `Rel κ sc D b τ` between a block-structured state `b` and a flat store `τ`:
* the block stack of `b` has exactly the names `sc`;
* the two stores agree (in all four name spaces) on every name that is visible (`declared sc`) and
  not clobbered (`∉ D`);
* the flat store respects the kind assignment `κ` (a name is bound only in its own name space) —
  the flat store keeps stale bindings of blocks that were left, this keeps them harmless.
-/
import FfcxProofs.Lemmas.ScopeBase
import FfcxProofs.Lemmas.AgreeOnExec

namespace Ffcx.LNodes
variable {R : Type}

/-- `σ` binds a name only in the name space `κ` gives it -/
structure KindInv (κ : String → Kind) (σ : St R) : Prop where
  iv : ∀ n, κ n ≠ .ivar → σ.iv.get n = none
  sv : ∀ n, κ n ≠ .svar → σ.sv.get n = none
  ia : ∀ n, κ n ≠ .iarr → σ.ia.get n = none
  sa : ∀ n, κ n ≠ .sarr → σ.sa.get n = none

def Live (sc : Scopes) (D : List String) (n : String) : Prop := declared sc n = true ∧ n ∉ D

structure Rel (κ : String → Kind) (sc : Scopes) (D : List String) (b : BSt R) (τ : St R) : Prop where
  names : stackNames b.st = sc
  agree : AgreeOn (Live sc D) b.σ τ
  kind : KindInv κ τ

/-- same run-time error, or both succeed in related states; never a scope error -/
def FaithRes (Q : BSt R → St R → Prop) : Except BErr (BSt R) → Except Err (St R) → Prop
  | .ok b, .ok τ => Q b τ
  | .error (.run e), .error e' => e = e'
  | _, _ => False

variable {Q : BSt R → St R → Prop} {rB : Except BErr (BSt R)} {rF : Except Err (St R)}
  {κ : String → Kind} {sc sc' : Scopes} {D D' : List String} {b : BSt R} {σ τ : St R} {n : String}

theorem faithRes_iff : FaithRes Q rB rF ↔ OutRel (· = .run ·) Q rB rF := by
  cases rB with
  | ok b => cases rF <;> exact Iff.rfl
  | error e =>
    cases e with
    | scope _ => cases rF <;> exact ⟨False.elim, nofun⟩
    | run _ =>
      cases rF with
      | ok τ => exact Iff.rfl
      | error e' => exact ⟨congrArg _, BErr.run.inj⟩

theorem _root_.Ffcx.OutRel.runLeaf {r r' : Except Err (St R)} {f : St R → BSt R}
    (h : OutRel Eq (fun σ' τ' => Q (f σ') τ') r r') : OutRel (· = .run ·) Q (runLeaf r f) r' := by
  cases r <;> cases r'
  · exact congrArg _ h
  · exact h
  · exact h
  · exact h

theorem KindInv.bind (h : KindInv κ σ) {β : Binding R} (hn : κ n = β.kind) : KindInv κ (σ.bind n β) := by
  have hne : ∀ m, κ m ≠ β.kind → n ≠ m := fun m hm e => hm (e ▸ hn)
  cases β
  · exact ⟨fun m hm => (AList.get_set_ne _ _ _ _ (hne m hm)).trans (h.iv m hm), h.sv, h.ia, h.sa⟩
  · exact ⟨h.iv, fun m hm => (AList.get_set_ne _ _ _ _ (hne m hm)).trans (h.sv m hm), h.ia, h.sa⟩
  · exact ⟨h.iv, h.sv, h.ia, fun m hm => (AList.get_set_ne _ _ _ _ (hne m hm)).trans (h.sa m hm)⟩

theorem Overwrite.kindInv {σ' : St R} (h : Overwrite σ σ') (hk : KindInv κ σ) : KindInv κ σ' := by
  cases h with
  | @sv n v w hv =>
    refine hk.bind (β := .sv w) (Decidable.byContradiction fun hne => ?_)
    rw [hk.sv n hne] at hv
    cases hv
  | @sa n a a' ha =>
    refine hk.bind (β := .sa a') (Decidable.byContradiction fun hne => ?_)
    rw [hk.sa n hne] at ha
    cases ha

/-- mind the order of the stores: `AgreeOn` equates look-ups in `σ` with look-ups in `τ`, `Same4 m τ σ`
    rewrites look-ups in `σ` into look-ups in `τ` — and below `τ` is the flat store -/
theorem agreeOn_iff_same4 {P : String → Prop} : AgreeOn P σ τ ↔ ∀ m, P m → Same4 m τ σ :=
  ⟨fun h m hm => ⟨h.iv m hm, h.sv m hm, h.ia m hm, h.sa m hm⟩,
    fun h => ⟨fun m hm => (h m hm).iv, fun m hm => (h m hm).sv, fun m hm => (h m hm).ia, fun m hm => (h m hm).sa⟩⟩

/-- Agreement at `m` survives binding `n` on both sides and hiding the other meanings of `n` on the
    block side: nothing changes at `m ≠ n`, and `τ` has no binding of `n` outside the name space of
    `κ n` -/
theorem bind_both_same4 (hk : KindInv κ τ) {β : Binding R} (hκ : κ n = β.kind) {m : String}
    (h : n ≠ m → Same4 m τ σ) : Same4 m (τ.bind n β) ((σ.bind n β).only n β.kind) := by
  by_cases hmn : n = m
  · subst hmn
    cases β <;> constructor <;>
      simp [St.only, St.bind, St.setIV, St.setSV, St.setSA, Binding.kind, AList.get_erase, hk.iv n, hk.sv n,
        hk.ia n, hk.sa n, hκ]
  · exact (bind_same4 τ n m β hmn).symm.trans ((h hmn).trans (bind_only_same4 σ n m β _ hmn))

theorem Rel.weaken (h : Rel κ sc D b τ) (hd : ∀ n, n ∈ D → n ∈ D') : Rel κ sc D' b τ :=
  ⟨h.names, agreeOn_iff_same4.2 fun m hm => agreeOn_iff_same4.1 h.agree m ⟨hm.1, fun hc => hm.2 (hd m hc)⟩,
    h.kind⟩

-- inside `Rel.enter` the name `enter` is the lemma itself, hence `LNodes.enter` for the step
theorem Rel.enter (h : Rel κ sc D b τ) : Rel κ ([] :: sc) D (LNodes.enter b) τ :=
  ⟨by simp [h.names],
    agreeOn_iff_same4.2 fun m hm => agreeOn_iff_same4.1 h.agree m ⟨by simpa using hm.1, hm.2⟩, h.kind⟩

/-- leaving a block: the outer names that stay in agreement are those that agreed inside and were
    not re-declared by the block -/
theorem Rel.leave {f : List String} {rest : Scopes} (h : Rel κ (f :: rest) D b τ)
    (hd : ∀ m, declared rest m = true → m ∉ D' → m ∉ D ∧ m ∉ f) :
    Rel κ rest D' (LNodes.leave b) τ := by
  obtain ⟨F, rst, hst, hF, hrst⟩ := List.map_eq_cons_iff.mp h.names
  rw [leave_cons hst]
  refine ⟨hrst, agreeOn_iff_same4.2 ?_, h.kind⟩
  intro m hm
  obtain ⟨hmD, hmf⟩ := hd m hm.1 hm.2
  have h1 : Same4 m τ b.σ :=
    agreeOn_iff_same4.1 h.agree _ ⟨by rw [declared_cons, hm.1, Bool.or_true], hmD⟩
  exact h1.trans (restoreFrame_same4 m F b.σ (by rw [hF]; exact hmf))

theorem Rel.leave_pop {f : List String} {rest : Scopes} (h : Rel κ (f :: rest) D b τ) :
    Rel κ rest (popClob f rest D) (LNodes.leave b) τ := by
  refine h.leave ?_
  intro m hm hnot
  simp only [popClob, List.mem_append, List.mem_filter, not_or, not_and] at hnot
  exact ⟨hnot.2, fun hf => hnot.1 hf hm⟩

/-- a declaration of `n` in the innermost block binds the same value on both sides; the block side
    hides the other meanings of `n` -/
theorem Rel.decl (h : Rel κ sc D b τ) (hd : declare sc n = .ok sc') {st' : List (Frame R)}
    (hst : stackNames st' = sc') (β : Binding R) (hκ : κ n = β.kind) :
    Rel κ sc' (D.filter (· != n)) { σ := (b.σ.bind n β).only n β.kind, st := st' } (τ.bind n β) := by
  refine ⟨hst, agreeOn_iff_same4.2 fun m hm => bind_both_same4 h.kind hκ fun hmn =>
    agreeOn_iff_same4.1 h.agree _ ⟨?_, fun hc => hm.2 ?_⟩, h.kind.bind hκ⟩
  · exact ((declare_declared hd m).mp hm.1).resolve_left fun e => hmn e.symm
  · simp only [List.mem_filter, bne_iff_ne, ne_eq]
    exact ⟨hc, fun e => hmn e.symm⟩

/-- both sides (re)initialise a loop index: afterwards they agree on it -/
theorem Rel.setIdx {i : String} (h : Rel κ sc (i :: D) b τ) (hκ : κ i = .ivar) (v : Int) :
    Rel κ sc D (b.setIdx i v) (τ.setIV i v) := by
  refine ⟨h.names, agreeOn_iff_same4.2 fun m hm => bind_both_same4 h.kind (β := .iv v) hκ fun hmi =>
    agreeOn_iff_same4.1 h.agree _ ⟨hm.1, fun hc => ?_⟩, h.kind.bind (β := .iv v) hκ⟩
  exact (List.mem_cons.mp hc).elim (fun e => hmi e.symm) hm.2

/-- `for (int i = l; …)` opens its block: `i` counts as clobbered until the first iteration sets it
    on both sides -/
theorem Rel.forEntry (h : Rel κ sc D b τ) (i : String) (l : Int) (hD : ∀ m, m ∈ D → m ≠ i → m ∈ D') :
    Rel κ ([i] :: sc) (i :: D') (BSt.setIdx { σ := b.σ, st := [saveOf b.σ i] :: b.st } i l) τ := by
  refine ⟨by simp [frameNames, saveOf, h.names], agreeOn_iff_same4.2 ?_, h.kind⟩
  intro m hm
  have hmi : i ≠ m := fun e => hm.2 (e ▸ List.mem_cons_self)
  have hmD : m ∉ D := fun hc => hm.2 (List.mem_cons_of_mem _ (hD m hc fun e => hmi e.symm))
  have hdm : declared sc m = true := by
    have := hm.1
    rw [declared_cons, Bool.or_eq_true] at this
    exact this.resolve_left fun h' => hmi (by simpa using h' : m = i).symm
  exact (agreeOn_iff_same4.1 h.agree _ ⟨hdm, hmD⟩).trans (bind_only_same4 b.σ i m (.iv l) .ivar hmi)

/-- … and closes it: an outer `i` is clobbered from now on -/
theorem Rel.forExit {i : String} (h : Rel κ ([i] :: sc) (i :: D) b τ) : Rel κ sc (popClob [i] sc D) (LNodes.leave b) τ := by
  refine h.leave ?_
  intro m hm hnot
  have hmi : m ≠ i := by
    intro e; subst e
    exact hnot (by simp [popClob, hm])
  have hmD : m ∉ D := fun hc => hnot (List.mem_append_right _ hc)
  exact ⟨fun hc => (List.mem_cons.mp hc).elim hmi hmD, fun hc => hmi (List.mem_singleton.mp hc)⟩

theorem liveE_of_checks {e : Expr} (hu : usesOkE sc e = none) (hc : dirtyE D e = none) :
    ∀ n, mentionsE n e = true → Live sc D n :=
  fun n hm => ⟨usesOkE_none hu hm, fun hD => List.find?_eq_none.1 hc n hD hm⟩

theorem liveL_of_checks {es : List Expr} (hu : usesOkL sc es = none) (hc : dirtyL D es = none) :
    ∀ n, mentionsL n es = true → Live sc D n :=
  fun n hm => ⟨usesOkL_none hu hm, fun hD => List.find?_eq_none.1 hc n hD hm⟩

theorem subsetB_mem {A B : List String} (h : subsetB A B = true) : ∀ n, n ∈ A → n ∈ B := by
  intro n hn
  simp only [subsetB, List.all_eq_true] at h
  simpa using h n hn

/-- `clobS` reports a find as an error, so an `ok` result means the search found nothing -/
theorem clean_of_ok {o : Option String} {k : Except String (List String)}
    (h : (match o with
      | some m => Except.error m
      | none => k) = .ok D') : o = none ∧ k = .ok D' := by
  cases o with
  | some m => cases h
  | none => exact ⟨rfl, h⟩

theorem clob_leaf {s : Stmt} {l r : Expr} (hs : s = .assign l r ∨ s = .addAssign l r)
    (hc : clobS sc D s = .ok D') : dirtyE D l = none ∧ dirtyE D r = none ∧ D' = D := by
  obtain ⟨hd, hD⟩ := clean_of_ok (o := (dirtyE D l).orElse fun _ => dirtyE D r) (k := .ok D)
    (by rcases hs with rfl | rfl <;> exact hc)
  cases hD
  exact ⟨(orElse_none.mp hd).1, (orElse_none.mp hd).2, rfl⟩

/-- Of the set `Dstar` that `clobS` counts as clobbered throughout a loop only this is used: it holds `D`
    (but for `i`), and one trip of the body, after its `}`, clobbers nothing outside `i :: Dstar` -/
theorem clob_forRange {i : String} {lo hi : Expr} {body : List Stmt} {f : List String} {rest : Scopes}
    (hb : scopedL ([] :: [i] :: sc) body = .ok (f :: rest))
    (hc : clobS sc D (.forRange i lo hi body) = .ok D') :
    ∃ Dstar D1, dirtyE D lo = none ∧ dirtyE D hi = none ∧ (∀ m, m ∈ D → m ≠ i → m ∈ Dstar) ∧
      clobS ([] :: [i] :: sc) Dstar (.block body) = .ok D1 ∧
      (∀ m, m ∈ popClob f ([i] :: sc) D1 → m ∈ i :: Dstar) ∧ D' = popClob [i] sc Dstar := by
  simp only [clobS, hb] at hc
  obtain ⟨hd, hc⟩ := clean_of_ok hc
  rw [orElse_none] at hd
  split at hc
  · rename_i D1 _ _ hcl hsc
    cases hsc
    split at hc <;> cases hc
    rename_i hsub
    refine ⟨_, D1, hd.1, hd.2, fun m hm hmi => ?_, hcl, subsetB_mem hsub, rfl⟩
    simp only [List.mem_filter, List.mem_append, bne_iff_ne, ne_eq]
    exact ⟨Or.inr hm, hmi⟩
  · cases hc
  · cases hc

theorem clob_sect {nm : String} {decls stmts : List Stmt} {inp out an f : List String} {sc1 rest : Scopes}
    (h1 : scopedL sc decls = .ok sc1) (h2 : scopedL ([] :: sc1) stmts = .ok (f :: rest))
    (hc : clobS sc D (.sect nm decls stmts inp out an) = .ok D') :
    ∃ D1 D2, clobS sc D (.block decls) = .ok D1 ∧ clobS ([] :: sc1) D1 (.block stmts) = .ok D2 ∧
      D' = popClob f sc1 D2 := by
  simp only [clobS, h1] at hc
  split at hc
  · rename_i D1 _ hc1 hsc
    cases hsc
    simp only [h2] at hc
    split at hc
    · rename_i D2 _ _ hc2 hsc
      cases hsc
      cases hc
      exact ⟨D1, D2, hc1, hc2, rfl⟩
    · cases hc
    · cases hc
  · cases hc
  · cases hc

theorem clob_cons {s : Stmt} {ss : List Stmt} {sc1 : Scopes} (h1 : scopedS sc s = .ok sc1)
    (hc : clobS sc D (.block (s :: ss)) = .ok D') :
    ∃ D1, clobS sc D s = .ok D1 ∧ clobS sc1 D1 (.block ss) = .ok D' := by
  simp only [clobS, clobL, h1] at hc
  split at hc
  · rename_i D1 _ hc1 hsc
    cases hsc
    exact ⟨D1, hc1, hc⟩
  · cases hc
  · cases hc

/-- The loop, given its body (`hbody`).  Between iterations the states are related at `i :: Dstar`:
    `i` is about to be set again on both sides, and `Dstar` counts every outer name the body
    re-declares as clobbered from the start (it is, from the second trip on).  `hsub` is the test of
    `clobS` that one trip, after its `}`, clobbers nothing outside `i :: Dstar`, so the relation is
    there again for the next trip. -/
theorem loop_faithful (bodyB : BSt R → Except BErr (BSt R))
    (bodyF : St R → Except Err (St R)) (i : String) (sc : Scopes) (fb : List String)
    (Dstar D1 : List String) (hκ : κ i = .ivar)
    (hbody : ∀ b τ, Rel κ ([] :: [i] :: sc) Dstar b τ →
      OutRel (· = .run ·) (Rel κ (fb :: [i] :: sc) D1) (bodyB b) (bodyF τ))
    (hsub : ∀ m, m ∈ popClob fb ([i] :: sc) D1 → m ∈ i :: Dstar) :
    ∀ (n : Nat) (lo : Int) (b : BSt R) (τ : St R), Rel κ ([i] :: sc) (i :: Dstar) b τ →
      OutRel (· = .run ·) (Rel κ ([i] :: sc) (i :: Dstar)) (loopB bodyB i lo n b) (loopN bodyF i lo n τ)
  | 0, _, _, _, h => h
  | n + 1, lo, b, τ, h => by
    rw [loopB_succ, loopN_succ_bind]
    exact (hbody _ _ (h.setIdx hκ lo).enter).bind fun b' τ' hq =>
      loop_faithful bodyB bodyF i sc fb Dstar D1 hκ hbody hsub n (lo + 1) (leave b') τ'
        (hq.leave_pop.weaken hsub)

variable [Add R] [Sub R] [Mul R] [Div R] [Neg R] [IntCast R]

/-- assignments: `execB` is `exec` on the store, and `exec` only depends on live names -/
theorem leaf_faithful (x : Extra R) {l r : Expr} {s : Stmt} (hs : s = .assign l r ∨ s = .addAssign l r)
    (hr : Rel κ sc D b τ) (hl : ∀ n, mentionsE n l = true → Live sc D n)
    (hrr : ∀ n, mentionsE n r = true → Live sc D n) :
    OutRel (· = .run ·) (Rel κ sc D) (runLeaf (exec x s b.σ) (fun σ' => { b with σ := σ' })) (exec x s τ) := by
  have hp : ∀ n, mentionsS n s = true → Live sc D n := by
    intro n hn
    rcases hs with rfl | rfl <;> simp only [mentionsS, Bool.or_eq_true] at hn <;>
      exact hn.elim (hl n) (hrr n)
  exact OutRel.runLeaf ((exec_agreeOn x s b.σ τ hp hr.agree).imp (fun _ _ e => e) fun _ τ' _ hτ hag =>
    ⟨hr.names, hag, (exec_assign_overwrite x hs hτ).kindInv hr.kind⟩)

/-- declarations: the initialiser only reads live names, the new binding is the same on both sides -/
theorem vdecl_faithful (x : Extra R) {dt : DType} {v : Expr} {st' : List (Frame R)} (hrel : Rel κ sc D b τ)
    (hv : ∀ m, mentionsE m v = true → Live sc D m) (hd : declare sc n = .ok sc')
    (hst : stackNames st' = sc') (hk : κ n = if dt == .int then .ivar else .svar) :
    OutRel (· = .run ·) (Rel κ sc' (D.filter (· != n)))
      (runLeaf (exec x (.vdecl n dt v) b.σ)
        (fun σ' => { σ := σ'.only n (if dt == .int then .ivar else .svar), st := st' }))
      (exec x (.vdecl n dt v) τ) := by
  refine OutRel.runLeaf ?_
  rw [exec, exec, evalI_agreeOn hrel.agree v hv, safeE_agreeOn hrel.agree v hv,
    eval_agreeOn x hrel.agree v hv, evalB_agreeOn x hrel.agree v hv]
  cases hdt : dt == .int
  · rw [hdt] at hk
    simp only [Bool.false_eq_true, if_false]
    cases safeE τ v
    · exact rfl
    · exact hrel.decl hd hst (.sv _) hk
  · rw [hdt] at hk
    simp only [if_true]
    cases evalI τ.iv τ.ia v with
    | none => exact rfl
    | some k => exact hrel.decl hd hst (.iv k) hk

theorem adecl_faithful (x : Extra R) {dt : DType} {sizes : List Nat} {c : Bool} {vals : Option (List Expr)}
    {st' : List (Frame R)} (hrel : Rel κ sc D b τ)
    (hv : ∀ m, mentionsL m (vals.getD []) = true → Live sc D m) (hd : declare sc n = .ok sc')
    (hst : stackNames st' = sc') (hk : (dt == .int) = true ∨ κ n = .sarr) :
    OutRel (· = .run ·) (Rel κ sc' (D.filter (· != n)))
      (runLeaf (exec x (.adecl n dt sizes c vals) b.σ) (fun σ' => { σ := σ'.only n .sarr, st := st' }))
      (exec x (.adecl n dt sizes c vals) τ) := by
  refine OutRel.runLeaf ?_
  simp only [exec, initData, evalL_agreeOn x hrel.agree _ hv]
  cases hdt : dt == .int
  · exact hrel.decl hd hst (.sa _) (hk.resolve_left (by simp [hdt]))
  · exact rfl

/-- Faithfulness of the flat semantics.  For a statement the checker accepts, with the certificates
    `clobS sc D s = .ok D'` and `kindsS κ s`, started in states related by `Rel κ sc D`: `exec` on the
    flat store and `execB` fail with the same run-time error, or both succeed in states related by
    `Rel κ sc' D'` — the stores agree on every name visible afterwards that is not in `D'`. -/
theorem flat_sim (x : Extra R) (κ : String → Kind) (s : Stmt) (sc sc' : Scopes)
    (D D' : List String) (b : BSt R) (τ : St R)
    (h : scopedS sc s = .ok sc') (hc : clobS sc D s = .ok D') (hk : kindsS κ s = true)
    (hr : Rel κ sc D b τ) : OutRel (· = .run ·) (Rel κ sc' D') (execB x s b) (exec x s τ) := by
  revert D D' b τ hk
  refine scoped_induction ?_ ?_ ?_ ?_ ?_ ?_ ?_ ?_ s sc sc' h
  · intro s l r sc hs hl hr D D' b τ hc _ hrel
    obtain ⟨hdl, hdr, rfl⟩ := clob_leaf hs hc
    rw [execB_assign x hs (hrel.names ▸ hl) (hrel.names ▸ hr)]
    exact leaf_faithful x hs hrel (liveE_of_checks hl hdl) (liveE_of_checks hr hdr)
  · intro n dt v sc sc' hu hd D D' b τ hc hk hrel
    obtain ⟨hdv, hD⟩ := clean_of_ok (o := dirtyE D v) hc
    cases hD
    obtain ⟨st', hdb, hst⟩ := declareB_ok (hrel.names ▸ hd) b.σ
    rw [execB_vdecl x (hrel.names ▸ hu) hdb]
    exact vdecl_faithful x hrel (liveE_of_checks hu hdv) hd hst (eq_of_beq hk)
  · intro n dt sizes c vals sc sc' hu hd D D' b τ hc hk hrel
    obtain ⟨hdv, hD⟩ := clean_of_ok (o := dirtyL D (vals.getD [])) hc
    cases hD
    obtain ⟨st', hdb, hst⟩ := declareB_ok (hrel.names ▸ hd) b.σ
    rw [execB_adecl x (hrel.names ▸ hu) hdb]
    simp only [kindsS, Bool.or_eq_true, beq_iff_eq] at hk
    exact adecl_faithful x hrel (liveL_of_checks hu hdv) hd hst (hk.imp_left fun e => by simp [e])
  · intro i lo hi body sc scb hlo hhi hb ih D D' b τ hc hk hrel
    obtain ⟨fb, rfl, _⟩ := scopedS_grows (s := .block body) hb _ _ rfl
    obtain ⟨Dstar, D1, hdlo, hdhi, hD, hcl, hsub, rfl⟩ := clob_forRange hb hc
    simp only [kindsS, Bool.and_eq_true, beq_iff_eq] at hk
    rw [execB_forRange x (hrel.names ▸ hlo) (hrel.names ▸ hhi)]
    simp only [exec, evalI_agreeOn hrel.agree lo (liveE_of_checks hlo hdlo),
      evalI_agreeOn hrel.agree hi (liveE_of_checks hhi hdhi)]
    cases evalI τ.iv τ.ia lo with
    | none => exact rfl
    | some l =>
      cases evalI τ.iv τ.ia hi with
      | none => exact rfl
      | some h =>
        exact (loop_faithful _ _ i sc fb Dstar D1 hk.1 (fun b' τ' => ih Dstar D1 b' τ' hcl hk.2) hsub
          (h - l).toNat l _ τ (hrel.forEntry i l hD)).map_left fun _ _ hq => hq.forExit
  · intro t sc D D' b τ hc _ hrel
    cases hc
    exact hrel
  · intro nm decls stmts inp out an sc sc1 sc2 h1 h2 ihd ihs D D' b τ hc hk hrel
    obtain ⟨f2, rfl, _⟩ := scopedS_grows (s := .block stmts) h2 _ _ rfl
    obtain ⟨D1, D2, hc1, hc2, rfl⟩ := clob_sect h1 h2 hc
    simp only [kindsS, Bool.and_eq_true] at hk
    rw [execB_sect, exec_sect_eq_bind]
    exact (ihd D D1 b τ hc1 hk.1 hrel).bind fun b1 τ1 hq1 =>
      (ihs D1 D2 (enter b1) τ1 hc2 hk.2 hq1.enter).map_left fun _ _ hq2 => hq2.leave_pop
  · intro sc D D' b τ hc _ hrel
    cases hc
    exact hrel
  · intro s ss sc sc1 sc' h1 _ ihs ihss D D' b τ hc hk hrel
    obtain ⟨D1, hc1, hc2⟩ := clob_cons h1 hc
    simp only [kindsS, kindsL, Bool.and_eq_true] at hk
    rw [execB_cons, exec_block, execL_cons_bind]
    exact (ihs D D1 b τ hc1 hk.1 hrel).bind fun b1 τ1 hq => ihss D1 D' b1 τ1 hc2 hk.2 hq

/-- `flat_sim` under the named relation `FaithRes`; build on `flat_sim` -/
theorem scoped_flat_faithful (x : Extra R) (κ : String → Kind) (s : Stmt) (sc sc' : Scopes)
    (D D' : List String) (b : BSt R) (τ : St R)
    (h : scopedS sc s = .ok sc') (hc : clobS sc D s = .ok D') (hk : kindsS κ s = true)
    (hr : Rel κ sc D b τ) : FaithRes (Rel κ sc' D') (execB x s b) (exec x s τ) :=
  faithRes_iff.2 (flat_sim x κ s sc sc' D D' b τ h hc hk hr)

theorem scopedL_flat_faithful (x : Extra R) (κ : String → Kind) :
    ∀ (ss : List Stmt) (sc sc' : Scopes) (D D' : List String) (b : BSt R) (τ : St R),
    scopedL sc ss = .ok sc' → clobL sc D ss = .ok D' → kindsL κ ss = true → Rel κ sc D b τ →
    FaithRes (Rel κ sc' D') (execBL x ss b) (execL x ss τ) :=
  fun ss => scoped_flat_faithful x κ (.block ss)

end Ffcx.LNodes
