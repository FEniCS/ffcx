/-
Soundness of the model of `fuse_sections`: the fused part list is observationally equivalent to the
original one, under the decidable certificate `fsCertTop` (`fs_top`; the statement under `fsCert` is
`fuse_sections_sound` in C17Opt.lean).  The pass is a chain of `Rw` steps: every
section `name` is split in its two blocks (`Rw.sect`), the blocks hop left to those of the first one
(`fs_scan`), and the blocks together are the fused section (`Rw.fused`).
-/
import FfcxProofs.Lemmas.OptRw

namespace Ffcx.LNodes
open Ffcx.LNodes.Opt
variable {R : Type} [Add R] [Sub R] [Mul R] [Div R] [Neg R] [IntCast R] (x : Extra R)

/-- a successful `as_statement` returns its argument, or unwraps a one-element `StatementList` -/
theorem asStatement_ok {s s' : Stmt} (h : asStatement s = .ok s') :
    (s' = s ∧ ∀ ss, s ≠ .block ss) ∨ s = .block [s'] := by
  unfold asStatement at h
  split at h
  · cases h; exact .inr rfl
  · cases h
  · rename_i _ hne
    cases h; exact .inl ⟨rfl, hne⟩

theorem asStatement_exec {s s' : Stmt} (h : asStatement s = .ok s') (σ : St R) :
    exec x s' σ = exec x s σ := by
  rcases asStatement_ok h with ⟨rfl, _⟩ | rfl
  · rfl
  · exact ((exec_block x _ σ).trans (execL_singleton x _ σ)).symm

theorem asStatements_execL : ∀ {ss ss' : List Stmt}, asStatements ss = .ok ss' → ∀ σ : St R,
    execL x ss' σ = execL x ss σ
  | [], ss', h, σ => by cases h; rfl
  | s :: ss, ss', h, σ => by
    rw [asStatements] at h
    obtain ⟨s1, h1, h⟩ := bind_eq_ok.mp h
    obtain ⟨ss1, h2, h⟩ := bind_eq_ok.mp h
    cases h
    rw [execL_cons_bind, execL_cons_bind, asStatement_exec x h1 σ]
    congr 1; funext σ'; exact asStatements_execL h2 σ'

theorem freeS_block (n : String) (ss : List Stmt) : freeS n (.block ss) = freeSL n ss := by
  simp [freeS]

theorem asStatement_free {s s' : Stmt} (h : asStatement s = .ok s') (n : String) :
    freeS n s' = freeS n s := by
  rcases asStatement_ok h with ⟨rfl, _⟩ | rfl
  · rfl
  · simp [freeS, freeSL]

theorem asStatements_free : ∀ {ss ss' : List Stmt}, asStatements ss = .ok ss' → ∀ n,
    freeSL n ss' = freeSL n ss
  | [], ss', h, n => by cases h; rfl
  | s :: ss, ss', h, n => by
    rw [asStatements] at h
    obtain ⟨s1, h1, h⟩ := bind_eq_ok.mp h
    obtain ⟨ss1, h2, h⟩ := bind_eq_ok.mp h
    cases h
    simp only [freeSL, asStatement_free h1, asStatements_free h2]

theorem freeSL_blocks (n : String) (f : Stmt → List Stmt) : ∀ (secs : List Stmt),
    freeSL n (secs.map (fun r => .block (f r))) = freeSL n (secs.flatMap f)
  | [] => rfl
  | r :: secs => by
    simp only [List.map_cons, List.flatMap_cons, freeSL, freeS_block, freeSL_append, freeSL_blocks n f secs]

theorem mkSection_ok {name : String} {stmts decls : List Stmt} {inp out ann : List String} {s : Stmt}
    (h : mkSection name stmts decls inp out ann = .ok s) :
    ∃ stmts' out', asStatements stmts = .ok stmts' ∧ s = .sect name decls stmts' inp out' ann := by
  rw [mkSection] at h
  obtain ⟨stmts', h1, h⟩ := bind_eq_ok.mp h
  obtain ⟨out', _, h⟩ := bind_eq_ok.mp h
  cases h
  exact ⟨stmts', out', h1, rfl⟩

/-- of the sections called `name` in `rest`: their declaration lists, their statement lists (as
    blocks, in order); and the other parts of `rest` -/
def declBlocks (name : String) (rest : List Stmt) : List Stmt :=
  (rest.filter (isNamed name)).map (fun r => .block (sDecls r))
def stmtBlocks (name : String) (rest : List Stmt) : List Stmt :=
  (rest.filter (isNamed name)).map (fun r => .block (sStmts r))
def others (name : String) (rest : List Stmt) : List Stmt := rest.filter (fun r => !isNamed name r)

theorem isNamed_sect {name : String} {r : Stmt} (h : isNamed name r = true) :
    ∃ n i o a, r = .sect n (sDecls r) (sStmts r) i o a := by
  cases r <;> simp [isNamed] at h
  rename_i n d s i o a
  exact ⟨n, i, o, a, rfl⟩

variable {x} {Dl : List String}

/-- `execL_sect_cons` as a rule: the two blocks read free what the section reads free -/
theorem Rw.sect (n : String) (d s : List Stmt) (i o a : List String) :
    Rw x Dl [.sect n d s i o a] [.block d, .block s] :=
  .of_eq (fun σ => execL_sect_cons x n d s i o a [] σ) fun m hm => by simpa [freeSL, freeS] using hm

theorem Rw.fused {secs : List Stmt} {name : String} {inp out ann : List String} {fused : Stmt}
    (h : mkSection name (secs.flatMap sStmts) (secs.flatMap sDecls) inp out ann = .ok fused)
    (q : List Stmt) :
    Rw x Dl (secs.map (fun r => Stmt.block (sDecls r)) ++
      (secs.map (fun r => Stmt.block (sStmts r)) ++ q)) (fused :: q) := by
  obtain ⟨S', out', h1, rfl⟩ := mkSection_ok h
  refine .of_eq (fun τ => ?_) fun m hm => by
    simpa [freeSL, freeS, freeSL_append, freeSL_blocks, asStatements_free h1, Bool.or_assoc] using hm
  rw [execL_sect_cons, execL_block_cons]
  have e1 : secs.map (fun r => Stmt.block (sDecls r)) = (secs.map sDecls).map Stmt.block := by
    simp [List.map_map, Function.comp_def]
  have e2 : secs.map (fun r => Stmt.block (sStmts r)) = (secs.map sStmts).map Stmt.block := by
    simp [List.map_map, Function.comp_def]
  rw [e1, e2, execL_blocks_flatten]
  have e3 : (secs.map sDecls).flatten = secs.flatMap sDecls := by simp [List.flatMap_def]
  rw [e3]
  refine execL_pre_congr x _ _ _ (fun τ' => ?_) τ
  rw [execL_block_cons, execL_blocks_flatten]
  have e4 : (secs.map sStmts).flatten = secs.flatMap sStmts := by simp [List.flatMap_def]
  rw [e4, execL_append', execL_append', asStatements_execL x h1 τ']

/-- The scan of `fuse_sections` over the parts `rest` that follow the first section called `name`, as
    a rearrangement of the part list: `dacc` the declarations and `sacc` the statements of the
    sections `name` met so far (as blocks), `mid` the other parts passed since the first one.
    A further section `name` is split in its two blocks, the declarations hop left over
    `sacc ++ mid`, the statements over `mid` (`Rw.hop`, licensed by `fsCertGo`). -/
theorem fs_scan (name : String) : ∀ (rest dacc sacc mid : List Stmt),
    fsCertGo Dl name sacc mid rest = true →
    Rw x Dl (dacc ++ (sacc ++ (mid ++ rest)))
      ((dacc ++ declBlocks name rest) ++ ((sacc ++ stmtBlocks name rest) ++ (mid ++ others name rest)))
  | [], dacc, sacc, mid, _ => by simpa [declBlocks, stmtBlocks, others] using Rw.refl _
  | r :: rest, dacc, sacc, mid, hc => by
    by_cases hn : isNamed name r = true
    · obtain ⟨n, i, o, a, hr⟩ := isNamed_sect hn
      simp only [fsCertGo, hn, if_true, Bool.and_eq_true] at hc
      generalize hdd : sDecls r = d at hr hc
      generalize hss : sStmts r = s at hr hc
      have s0 : Rw x Dl (dacc ++ (sacc ++ (mid ++ ([r] ++ rest)))) _ :=
        hr ▸ ((((Rw.sect n d s i o a).append_right rest).append_left mid).append_left sacc).append_left dacc
      have s1 := (Rw.hop (x := x) (.block d) (sacc ++ mid) (.block s :: rest) hc.1.1).append_left dacc
      have s2 := (Rw.hop (x := x) (.block s) mid rest hc.1.2).append_left ((dacc ++ [.block d]) ++ sacc)
      have ih := fs_scan name rest (dacc ++ [.block d]) (sacc ++ [.block s]) mid hc.2
      -- the four steps compose once the lists are re-associated to the right
      simp only [List.append_assoc, List.cons_append, List.nil_append] at s0 s1 s2 ih
      simp only [declBlocks, stmtBlocks, others, List.filter_cons_of_pos hn, List.map_cons, hdd, hss,
        Bool.not_true, Bool.false_eq_true, if_false, hn, List.filter_cons, List.append_assoc,
        List.cons_append]
      exact ((s0.trans s1).trans s2).trans ih
    · have hn' : isNamed name r = false := by simpa using hn
      simp only [fsCertGo, hn', Bool.false_eq_true, if_false] at hc
      simpa [declBlocks, stmtBlocks, others, hn'] using fs_scan name rest dacc sacc (mid ++ [r]) hc

/-- up to the first section `name` nothing changes; from there on the scan, and then the blocks
    of the sections `name` are replaced by the fused section (`hf`, an instance of `Rw.fused`) -/
theorem fs_top (name : String) (fused : Stmt) : ∀ (code : List Stmt),
    (∀ q, Rw x Dl ((code.filter (isNamed name)).map (fun r => Stmt.block (sDecls r)) ++
      ((code.filter (isNamed name)).map (fun r => Stmt.block (sStmts r)) ++ q)) (fused :: q)) →
    fsCertTop Dl name code = true → Rw x Dl code (replaceFirst (isNamed name) fused code)
  | [], _, _ => .refl _
  | r :: rest, hf, hc => by
    by_cases hn : isNamed name r = true
    · simp only [fsCertTop, hn, if_true] at hc
      simp only [replaceFirst, hn, if_true]
      obtain ⟨n, i, o, a, hr⟩ := isNamed_sect hn
      refine (Rw.trans (hr ▸ (Rw.sect n (sDecls r) (sStmts r) i o a).append_right rest :
          Rw x Dl ([r] ++ rest) ([.block (sDecls r), .block (sStmts r)] ++ rest))
        (fs_scan name rest [.block (sDecls r)] [.block (sStmts r)] [] hc)).trans ?_
      simpa [hn, declBlocks, stmtBlocks, others] using hf (others name rest)
    · have hn' : isNamed name r = false := by simpa using hn
      simp only [fsCertTop, hn', Bool.false_eq_true, if_false] at hc
      simp only [replaceFirst, hn', Bool.false_eq_true, if_false]
      exact (fs_top name fused rest (by simpa [hn'] using hf) hc).cons r

end Ffcx.LNodes
