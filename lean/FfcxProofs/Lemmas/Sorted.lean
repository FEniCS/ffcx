/-
Insertion sort by a Boolean order, as Python's `sorted` is modelled (`Naming.sortItems`, `Rn.sortBy`): the result
is a sorted permutation, it is determined by the set of members when the order is antisymmetric on them, and it
commutes with maps that keep the comparisons.
-/
namespace Ffcx
variable {α β : Type}

def insertSorted (le : α → α → Bool) (x : α) : List α → List α
  | [] => [x]
  | y :: ys => if le x y then x :: y :: ys else y :: insertSorted le x ys

def insertionSort (le : α → α → Bool) : List α → List α
  | [] => []
  | x :: xs => insertSorted le x (insertionSort le xs)

theorem insertSorted_perm (le : α → α → Bool) (x : α) : ∀ l, (insertSorted le x l).Perm (x :: l)
  | [] => .refl _
  | y :: ys => by
    rw [insertSorted]
    split
    · exact .refl _
    · exact ((insertSorted_perm le x ys).cons y).trans (.swap x y ys)

theorem insertionSort_perm (le : α → α → Bool) : ∀ l, (insertionSort le l).Perm l
  | [] => .refl _
  | x :: xs => (insertSorted_perm le x _).trans ((insertionSort_perm le xs).cons x)

theorem mem_insertionSort {le : α → α → Bool} {l : List α} {a : α} : a ∈ insertionSort le l ↔ a ∈ l :=
  (insertionSort_perm le l).mem_iff

section Order
variable {le : α → α → Bool} (total : ∀ a b, le a b = true ∨ le b a = true)
  (trans : ∀ {a b c}, le a b = true → le b c = true → le a c = true)
include total trans

theorem insertSorted_sorted (x : α) : ∀ l : List α, l.Pairwise (le · · = true) →
    (insertSorted le x l).Pairwise (le · · = true)
  | [], _ => List.pairwise_singleton _ _
  | y :: ys, h => by
    rw [insertSorted]
    split
    · rename_i hxy
      exact h.cons fun z hz => (List.mem_cons.mp hz).elim (· ▸ hxy) fun hz =>
        trans hxy (List.rel_of_pairwise_cons h hz)
    · rename_i hxy
      refine (insertSorted_sorted x ys h.tail).cons fun z hz => ?_
      rcases List.mem_cons.mp ((insertSorted_perm le x ys).subset hz) with rfl | hz
      · exact (total z y).resolve_left hxy
      · exact List.rel_of_pairwise_cons h hz

theorem insertionSort_sorted : ∀ l : List α, (insertionSort le l).Pairwise (le · · = true)
  | [] => .nil
  | x :: xs => insertSorted_sorted total trans x _ (insertionSort_sorted xs)

/-- Sorting does not depend on the order of the input when `le` is antisymmetric on its members. -/
theorem insertionSort_of_perm {l₁ l₂ : List α} (hp : l₁.Perm l₂)
    (antisymm : ∀ a ∈ l₁, ∀ b ∈ l₁, le a b = true → le b a = true → a = b) :
    insertionSort le l₁ = insertionSort le l₂ :=
  List.Perm.eq_of_pairwise
    (fun a b ha hb => antisymm a (mem_insertionSort.mp ha) b (hp.symm.subset (mem_insertionSort.mp hb)))
    (insertionSort_sorted total trans l₁) (insertionSort_sorted total trans l₂)
    ((insertionSort_perm le l₁).trans (hp.trans (insertionSort_perm le l₂).symm))

end Order

theorem insertSorted_map {le : α → α → Bool} {le' : β → β → Bool} (g : α → β) (x : α) :
    ∀ l : List α, (∀ b ∈ l, le' (g x) (g b) = le x b) →
      insertSorted le' (g x) (l.map g) = (insertSorted le x l).map g
  | [], _ => rfl
  | y :: ys, h => by
    rw [List.forall_mem_cons] at h
    rw [List.map_cons, insertSorted, insertSorted, h.1]
    split
    · rfl
    · rw [List.map_cons, insertSorted_map g x ys h.2]

theorem insertionSort_map {le : α → α → Bool} {le' : β → β → Bool} (g : α → β) :
    ∀ l : List α, (∀ a ∈ l, ∀ b ∈ l, le' (g a) (g b) = le a b) →
      insertionSort le' (l.map g) = (insertionSort le l).map g
  | [], _ => rfl
  | x :: xs, h => by
    rw [List.map_cons, insertionSort, insertionSort, insertionSort_map g xs fun a ha b hb =>
      h a (List.mem_cons_of_mem _ ha) b (List.mem_cons_of_mem _ hb)]
    exact insertSorted_map g x _ fun b hb =>
      h x List.mem_cons_self b (List.mem_cons_of_mem _ (mem_insertionSort.mp hb))

end Ffcx
