/-
Helper lemmas for C20 `decl_defined_templates`: the lexical machine of FfcxModel/Cli/Templates.lean
run on an instantiated template agrees with the symbolic run on the template itself
(`symRun_sound`), for every filling that satisfies the obligations the symbolic run collects.  On a literal
character the machine on symbols and the machine on characters commute with expansion, states related by `Ctl.map`
(`gstep_expand`); over the filling of a hole there is one lemma per position a hole may stand in (`run_ident_head` …
`run_line_inert`).
-/
import FfcxModel.Cli.Templates
import FfcxProofs.Lemmas.Basics

namespace Ffcx.Cli.Tpl
open Ffcx.Naming

theorem grun_append {α : Type} (inj : Char → α) : ∀ (a b : Str) (k : Ctl α),
    grun inj (a ++ b) k =
      ((grun inj b (grun inj a k).1).1, (grun inj a k).2 ++ (grun inj b (grun inj a k).1).2)
  | [], b, k => by simp [grun]
  | c :: a, b, k => by
    simp only [List.cons_append, grun]
    rw [grun_append inj a b]
    simp [List.append_assoc]

theorem run_nil (k : Ctl Char) : run [] k = (k, []) := rfl

theorem run_cons (c : Char) (f : Str) (k : Ctl Char) :
    run (c :: f) k = ((run f (gstep id k c).1).1, (gstep id k c).2.toList ++ (run f (gstep id k c).1).2) := rfl

theorem run_append (a b : Str) (k : Ctl Char) :
    run (a ++ b) k = ((run b (run a k).1).1, (run a k).2 ++ (run b (run a k).1).2) :=
  grun_append id a b k

theorem inst_append (σ : Filling) (a b : Template) : inst σ (a ++ b) = inst σ a ++ inst σ b := by
  induction a with
  | nil => rfl
  | cons s a ih => cases s <;> simp [inst, ih]

theorem expand_snoc_ch (σ : Filling) (l : List Sym) (c : Char) :
    expand σ (l ++ [Sym.ch c]) = expand σ l ++ [c] := by
  simp [expand, inst_append, inst]

theorem expand_snoc_hole (σ : Filling) (l : List Sym) (h : String) :
    expand σ (l ++ [Sym.hole h]) = expand σ l ++ σ h := by
  simp [expand, inst_append, inst]

theorem inst_lits (σ : Filling) : ∀ s : Str, inst σ (lits s) = s
  | [] => rfl
  | c :: s => by
    have := inst_lits σ s
    simp only [lits] at this
    simp [lits, inst, this]

/-- Control states correspond when modes, depths and freshness agree and the head expands. -/
def Ctl.map {α β : Type} (φ : List α → List β) (k : Ctl α) : Ctl β :=
  ⟨k.mode, k.depth, k.fresh, k.head.map φ⟩

theorem Ctl.map_mk {α β : Type} (φ : List α → List β) (m : Mode) (d : Nat) (fr : Bool) (hd : Option (List α)) :
    Ctl.map φ ⟨m, d, fr, hd⟩ = ⟨m, d, fr, hd.map φ⟩ := rfl

theorem Ctl.map_init {α β : Type} (φ : List α → List β) : Ctl.init.map φ = Ctl.init := rfl

/-- Code mode without a head: the only head `plain` writes is the one character that starts an item. -/
theorem plain_expand (σ : Filling) (k : Ctl Sym) (c : Char) :
    plain id (k.map (expand σ)) c = (plain Sym.ch k c).map (expand σ) := by
  cases h : classify c <;> simp only [plain, h, Ctl.map]
  case alpha => by_cases hf : k.depth = 0 ∧ k.fresh = true <;> simp only [hf, ↓reduceIte] <;> rfl
  all_goals rfl

/-- Code mode, with or without a head: the case `.code` of `gstep_expand`, and its case `.slash` when the character
after the `/` is neither `/` nor `*`. -/
theorem codeStep_expand (σ : Filling) (k : Ctl Sym) (c : Char) :
    codeStep id (k.map (expand σ)) c =
      ((codeStep Sym.ch k c).1.map (expand σ), (codeStep Sym.ch k c).2.map (expandItem σ)) := by
  obtain ⟨mode, depth, fresh, head⟩ := k
  cases head with
  | none => exact Prod.ext (plain_expand σ _ c) rfl
  | some hd =>
    have hp := plain_expand σ ⟨mode, depth, fresh, none⟩ c
    simp only [codeStep, Ctl.map, Option.map]
    generalize classify c = cc
    cases cc
    case alpha | digit | ws | star => simp only [expand_snoc_ch]; rfl
    all_goals exact Prod.ext hp rfl

/-- One literal character: the machine on symbols and the machine on characters commute with
expansion. -/
theorem gstep_expand (σ : Filling) (k : Ctl Sym) (c : Char) :
    gstep id (k.map (expand σ)) c =
      ((gstep Sym.ch k c).1.map (expand σ), (gstep Sym.ch k c).2.map (expandItem σ)) := by
  obtain ⟨mode, depth, fresh, head⟩ := k
  cases mode
  case code => exact codeStep_expand σ _ c
  case slash =>
    have hc := codeStep_expand σ ⟨.code, depth, false, head⟩ c
    simp only [gstep, Ctl.map] at hc ⊢
    generalize classify c = cc at hc ⊢
    cases cc <;> first | rfl | exact hc
  all_goals
    simp only [gstep, Ctl.map]
    first | rfl | (split <;> rfl)

theorem classify_ident {c : Char} (h : isIdentChar c = true) :
    classify c = .alpha ∨ classify c = .digit := by
  have ne : ∀ s, isIdentChar s = false → c ≠ s := fun s hs e => by rw [e, hs] at h; cases h
  simp only [classify, ne '/' rfl, ne '*' rfl, ne '"' rfl, ne '\'' rfl, ne '\\' rfl, ne '{' rfl, ne '}' rfl,
    ne ';' rfl, ne '#' rfl, ne '\n' rfl, ne ' ' rfl, ne '\t' rfl, ne '\r' rfl, ↓reduceIte, or_self]
  by_cases hs : isIdentStart c = true
  · simp [hs]
  · have hd : isDigitC c = true := by
      simp only [isIdentChar, isIdentStart, Bool.or_eq_true] at h hs
      rcases h with (h | h) | h
      · exact absurd (Or.inl h) hs
      · exact h
      · exact absurd (Or.inr h) hs
    simp [hs, hd]

/-- `symRun`, `ident` hole while a head is collected (`.code, some hd`): the identifier goes into the head. -/
theorem run_ident_head : ∀ (f : Str) (d : Nat) (fr : Bool) (hd : Str),
    f.all isIdentChar = true →
    run f ⟨.code, d, fr, some hd⟩ = (⟨.code, d, fr, some (hd ++ f)⟩, [])
  | [], d, fr, hd, _ => by simp [run_nil]
  | c :: f, d, fr, hd, h => by
    simp only [List.all_cons, Bool.and_eq_true] at h
    have ih := run_ident_head f d fr (hd ++ [c]) h.2
    rcases classify_ident h.1 with hc | hc <;>
      simp [run_cons, gstep, codeStep, hc, ih]

/-- `symRun`, `ident` hole in code where no item can start (`.code, none`, not both depth 0 and fresh): the
identifier only clears `fresh`. -/
theorem run_ident_code : ∀ (f : Str) (d : Nat) (fr : Bool),
    f.all isIdentChar = true → ¬ (d = 0 ∧ fr = true) →
    run f ⟨.code, d, fr, none⟩ = (⟨.code, d, if f = [] then fr else false, none⟩, [])
  | [], d, fr, _, _ => by simp [run_nil]
  | c :: f, d, fr, h, hn => by
    simp only [List.all_cons, Bool.and_eq_true] at h
    have ih := run_ident_code f d false h.2 (by simp)
    rcases classify_ident h.1 with hc | hc <;>
      simp [run_cons, gstep, codeStep, plain, hc, ih, hn]

theorem run_fixed {k : Ctl Char} : ∀ {f : Str}, (∀ c ∈ f, gstep id k c = (k, none)) → run f k = (k, [])
  | [], _ => rfl
  | c :: f, h => by
    have ih := run_fixed (f := f) fun c hc => h c (List.mem_cons_of_mem _ hc)
    simp [run_cons, h c List.mem_cons_self, ih]

/-- `symRun`, `ident` hole inside a `//` comment, a `/* */` comment or a string literal: nothing moves. -/
theorem run_ident_inert (f : Str) (k : Ctl Char) (h : f.all isIdentChar = true)
    (hm : k.mode = .line ∨ k.mode = .block ∨ k.mode = .str) : run f k = (k, []) := by
  refine run_fixed fun c hc => ?_
  obtain ⟨mode, depth, fresh, head⟩ := k
  rcases hm with rfl | rfl | rfl <;>
    rcases classify_ident (List.all_eq_true.mp h c hc) with hcc | hcc <;> simp [gstep, hcc]

/-- `'\n'` is the tenth test of `classify`'s if-chain.  The nine tests before it give other classes than `.nl`, so
`ite_eq_of_ne` peels them off; for `c ≠ '\n'` it also peels off the three tests after it (`.ws`, `.alpha`,
`.digit`), and `.other = .nl` is left. -/
theorem classify_eq_nl {c : Char} (h : classify c = .nl) : c = '\n' := by
  unfold classify at h
  iterate 9 replace h := (ite_eq_of_ne h (by decide)).2
  by_cases h0 : c = '\n'
  · exact h0
  · rw [if_neg h0] at h
    iterate 3 replace h := (ite_eq_of_ne h (by decide)).2
    exact absurd h (by decide)

/-- `symRun`, `free` hole inside a `//` comment: a filling without newline moves nothing. -/
theorem run_line_inert (f : Str) (d : Nat) (fr : Bool) (hd : Option Str)
    (h : f.all (fun c => c != '\n') = true) : run f ⟨.line, d, fr, hd⟩ = (⟨.line, d, fr, hd⟩, []) := by
  refine run_fixed fun c hc => ?_
  have hne : c ≠ '\n' := by simpa using List.all_eq_true.mp h c hc
  cases hcc : classify c
  case nl => exact absurd (classify_eq_nl hcc) hne
  all_goals simp [gstep, hcc]

/-- What `symRun_sound` says of one symbolic result `res` and the text `x` of the instance: the run of `x` from the
expanded state `k` ends in the expanded final state, finds the expanded items, and nothing else if the result is
exact. -/
def Sound (σ : Filling) (x : Str) (k : Ctl Sym) (res : SymRes) : Prop :=
  ∃ cits, run x (k.map (expand σ)) = (res.ctl.map (expand σ), cits) ∧
    (∀ it ∈ res.items, expandItem σ it ∈ cits) ∧
    (res.exact = true → cits = res.items.map (expandItem σ))

/-- One hole with its obligation `ob₀`: if a filling that meets `ob₀` takes the expanded state `k` to the expanded
state `k'`, yielding the items `its`, and the rest of the template is handled from `k'`, the whole is handled from `k`.
The result may be called exact (`e`) only if the filling yielded no item and the rest is exact. -/
theorem sound_step {σ : Filling} {t : Template} {k k' : Ctl Sym} {its : List (Item Char)}
    {s : SymRes} {f : Str} {ob₀ : Ob} {e : Bool} (he : e = true → its = [] ∧ s.exact = true)
    (hob : ∀ ob ∈ ob₀ :: s.obs, ob.check σ = true)
    (h1 : ob₀.check σ = true → run f (k.map (expand σ)) = (k'.map (expand σ), its))
    (ih : (∀ ob ∈ s.obs, ob.check σ = true) → Sound σ (inst σ t) k' s) :
    Sound σ (f ++ inst σ t) k { s with exact := e, obs := ob₀ :: s.obs } := by
  obtain ⟨cits, hr, hmem, hex⟩ := ih fun ob hm => hob ob (List.mem_cons_of_mem _ hm)
  refine ⟨its ++ cits, ?_, ?_, ?_⟩
  · rw [run_append, h1 (hob ob₀ List.mem_cons_self)]; simp [hr]
  · intro it hit; exact List.mem_append_right _ (hmem it hit)
  · intro h
    obtain ⟨h0, hs⟩ := he h
    simp [h0, hex hs]

/-- The same for a hole whose filling yields no item, from what `symRun` returns there. -/
theorem sound_hole {σ : Filling} {t : Template} {k k' : Ctl Sym} {res : SymRes} {f : Str} {ob₀ : Ob}
    (hrun : (symRun t k').map (fun s => { s with obs := ob₀ :: s.obs }) = some res)
    (hob : ∀ ob ∈ res.obs, ob.check σ = true)
    (h1 : ob₀.check σ = true → run f (k.map (expand σ)) = (k'.map (expand σ), []))
    (ih : ∀ s, symRun t k' = some s → (∀ ob ∈ s.obs, ob.check σ = true) → Sound σ (inst σ t) k' s) :
    Sound σ (f ++ inst σ t) k res := by
  simp only [Option.map_eq_some_iff] at hrun
  obtain ⟨s, hs, rfl⟩ := hrun
  exact sound_step (fun h => ⟨rfl, h⟩) hob h1 (ih s hs)

/-- The run of the instance `inst σ t` from the expansion of `k` agrees with the symbolic run of `t` from `k`, for
every filling that meets the obligations collected on the way; the conclusion is `Sound σ (inst σ t) k res`.
Induction on the template: a literal character is `gstep_expand`, a hole is `sound_hole` with the `run_…` lemma of
the position it stands in. -/
theorem symRun_sound (σ : Filling) : ∀ (t : Template) (k : Ctl Sym) (res : SymRes),
    symRun t k = some res → (∀ ob ∈ res.obs, ob.check σ = true) →
    ∃ cits, run (inst σ t) (k.map (expand σ)) = (res.ctl.map (expand σ), cits) ∧
      (∀ it ∈ res.items, expandItem σ it ∈ cits) ∧
      (res.exact = true → cits = res.items.map (expandItem σ))
  | [], k, res, h, _ => by
    simp only [symRun, Option.some.injEq] at h
    subst h
    exact ⟨[], by simp [inst, run_nil], by simp, by simp⟩
  | .ch c :: t, k, res, h, hob => by
    simp only [symRun, Option.map_eq_some_iff] at h
    obtain ⟨s, hs, rfl⟩ := h
    obtain ⟨cits, hrun, hmem, hex⟩ := symRun_sound σ t _ s hs hob
    refine ⟨((gstep Sym.ch k c).2.map (expandItem σ)).toList ++ cits, ?_, ?_, ?_⟩
    · simp only [inst, run_cons, gstep_expand, hrun]
    · intro it hit
      simp only [List.mem_append] at hit ⊢
      rcases hit with hit | hit
      · left
        cases hg : (gstep Sym.ch k c).2 <;> simp_all
      · exact Or.inr (hmem it hit)
    · intro he
      simp only [hex he, List.map_append]
      cases (gstep Sym.ch k c).2 <;> simp
  | .hole h :: t, k, res, hrun, hob => by
    obtain ⟨mode, depth, fresh, head⟩ := k
    simp only [symRun] at hrun
    simp only [inst]
    cases hc : holeClass h <;> simp only [hc] at hrun
    · split at hrun
      · rename_i hd
        exact sound_hole (k := ⟨.code, depth, fresh, some hd⟩) (f := σ h) hrun hob
          (fun ho => by
            simp only [Ob.check, Bool.and_eq_true] at ho
            simp [Ctl.map_mk, run_ident_head _ _ _ _ ho.2, expand_snoc_hole])
          (symRun_sound σ t _)
      · split at hrun
        · exact absurd hrun (by simp)
        · rename_i hn
          exact sound_hole (k := ⟨.code, depth, fresh, none⟩) (f := σ h) hrun hob
            (fun ho => by
              simp only [Ob.check, Bool.and_eq_true, bne_iff_ne, ne_eq] at ho
              simp [Ctl.map_mk, run_ident_code _ _ _ ho.2 hn, ho.1])
            (symRun_sound σ t _)
      -- inside a `//` comment, a `/* */` comment or a string literal
      iterate 3
        exact sound_hole (f := σ h) hrun hob
          (fun ho => by
            simp only [Ob.check, Bool.and_eq_true] at ho
            exact run_ident_inert _ _ ho.2 (by simp [Ctl.map_mk]))
          (symRun_sound σ t _)
      exact absurd hrun (by simp)
    · exact absurd hrun (by simp)
    · split at hrun
      · -- in code: the filling may yield items of its own, the result is not exact
        simp only [Option.map_eq_some_iff] at hrun
        obtain ⟨s, hs, rfl⟩ := hrun
        exact sound_step (k := ⟨.code, depth, fresh, none⟩) (f := σ h)
          (its := (run (σ h) ⟨.code, depth, fresh, none⟩).2) (e := false) nofun hob
          (fun ho => by
            simp only [Ob.check, beq_iff_eq] at ho
            simp only [Ctl.map_mk, Option.map]; exact Prod.ext ho rfl)
          (symRun_sound σ t _ s hs)
      · exact sound_hole (k := ⟨.line, depth, fresh, _⟩) (f := σ h) hrun hob
          (fun ho => by simp only [Ctl.map_mk]; exact run_line_inert _ _ _ _ ho)
          (symRun_sound σ t _)
      · exact absurd hrun (by simp)
  | .holeNL h :: t, k, res, hrun, hob => by
    obtain ⟨mode, depth, fresh, head⟩ := k
    simp only [symRun] at hrun
    have hi : inst σ (Sym.holeNL h :: t) = (σ h ++ ['\n']) ++ inst σ t := by simp [inst]
    rw [hi]
    split at hrun
    · exact sound_hole (k := ⟨.code, depth, fresh, none⟩) (f := σ h ++ ['\n']) hrun hob
        (fun ho => by simpa [Ctl.map_mk, Ob.check] using ho)
        (symRun_sound σ t _)
    · exact absurd hrun (by simp)

end Ffcx.Cli.Tpl
