/-
Sums over an integer range (`isum`, in the order a loop runs) with their algebra, and accumulation into one
array: the relation `Acc A Wi Ws d σ τ` ("τ is σ with `A[k]` increased by `d k`,
integer names in `Wi` and scalar names in `Ws` possibly overwritten, nothing else changed") with its
algebra and `AOk` (`A` is a writable flat array); `Agree`, the part of `Acc` that does not speak of `A`'s
contents, with its way into `AgreeOn` (`Agree.agreeOn`) and two facts about `mentionsE` used with it;
last the loop rule `forRange_accumulate` (an instance of `loopN_inv`).
-/
import FfcxProofs.Lemmas.AgreeOn
import FfcxProofs.Lemmas.ExecBind

namespace Ffcx.Codegen
open Ffcx.LNodes Lean.Grind
attribute [local instance] Lean.Grind.Ring.intCast
variable {R : Type} [Field R]

/-- Σ_{v = lo}^{lo+n-1} f v, in the order the loop runs. -/
def isum (lo : Int) : Nat → (Int → R) → R
  | 0, _ => 0
  | n + 1, f => f lo + isum (lo + 1) n f

theorem isum_congr {f g : Int → R} (n : Nat) (lo : Int)
    (h : ∀ v, lo ≤ v → v < lo + n → f v = g v) : isum lo n f = isum lo n g := by
  induction n generalizing lo with
  | zero => rfl
  | succ n ih =>
    rw [isum, isum, h lo (Int.le_refl _) (by omega), ih (lo + 1) fun v h1 h2 => h v (by omega) (by omega)]

theorem isum_congr_nat {f g : Int → R} (n : Nat) (h : ∀ t : Nat, t < n → f t = g t) :
    isum 0 n f = isum 0 n g :=
  isum_congr n 0 fun v h0 h1 => by
    rw [← Int.toNat_of_nonneg h0]
    exact h _ (by omega)

theorem isum_zero (n : Nat) (lo : Int) : isum (R := R) lo n (fun _ => 0) = 0 := by
  induction n generalizing lo with
  | zero => rfl
  | succ n ih => rw [isum, ih, Semiring.add_zero]

theorem isum_add (f g : Int → R) (n : Nat) (lo : Int) :
    isum lo n (fun v => f v + g v) = isum lo n f + isum lo n g := by
  induction n generalizing lo with
  | zero => exact (Semiring.add_zero _).symm
  | succ n ih => simp only [isum, ih]; grind

theorem isum_mul_left (c : R) (f : Int → R) (n : Nat) (lo : Int) :
    isum lo n (fun v => c * f v) = c * isum lo n f := by
  induction n generalizing lo with
  | zero => exact (Semiring.mul_zero _).symm
  | succ n ih => rw [isum, isum, ih, Semiring.left_distrib]

theorem isum_single (f : Int → R) (v₀ : Int) (n : Nat) (lo : Int)
    (h : ∀ v, lo ≤ v → v < lo + n → v ≠ v₀ → f v = 0) :
    isum lo n f = if lo ≤ v₀ ∧ v₀ < lo + n then f v₀ else 0 := by
  induction n generalizing lo with
  | zero => rw [if_neg (by omega)]; rfl
  | succ n ih =>
    rw [isum, ih (lo + 1) fun v h1 h2 => h v (by omega) (by omega)]
    by_cases h0 : lo = v₀
    · subst h0
      rw [if_neg (by omega), if_pos (by omega)]
      exact Semiring.add_zero _
    · rw [h lo (Int.le_refl _) (by omega) h0, Semiring.add_comm, Semiring.add_zero]
      exact ite_congr (propext (by omega)) (fun _ => rfl) (fun _ => rfl)

theorem isum_mul_right (c : R) (f : Int → R) (n : Nat) (lo : Int) :
    isum lo n (fun v => f v * c) = isum lo n f * c := by
  have h : isum lo n (fun v => f v * c) = isum lo n (fun v => c * f v) :=
    isum_congr n lo (fun v _ _ => by grind)
  rw [h, isum_mul_left]; grind

theorem isum_prod (n0 n1 : Nat) (A B : Int → Prop) [DecidablePred A] [DecidablePred B] (u v : Int → R) :
    isum 0 n1 (fun j => isum 0 n0 (fun i => if A i ∧ B j then u i * v j else 0)) =
      isum 0 n0 (fun i => if A i then u i else 0) * isum 0 n1 (fun j => if B j then v j else 0) := by
  have hterm : ∀ i j : Int, (if A i ∧ B j then u i * v j else 0) =
      (if A i then u i else 0) * (if B j then v j else 0) := by
    intro i j
    by_cases ha : A i <;> by_cases hb : B j <;>
      simp only [ha, hb, and_self, and_false, false_and, if_true, if_false] <;> grind
  simp only [hterm, isum_mul_right, isum_mul_left]

theorem isum_diag_collapse (n : Nat) (c : Int → Int) (hc : ∀ i j, c i = c j → i = j) (k : Int)
    (V : Int → Int → R) :
    isum 0 n (fun j => isum 0 n (fun i => if c i = k ∧ c j = k then V i j else 0)) =
      isum 0 n (fun d => if c d = k then V d d else 0) := by
  apply isum_congr
  intro j hj0 hj1
  rw [isum_single _ j]
  · have : (0 : Int) ≤ j ∧ j < 0 + n := ⟨hj0, hj1⟩
    simp only [this, and_self, if_true]
  · intro i _ _ hne
    split
    · rename_i h; exact absurd (hc i j (h.1.trans h.2.symm)) hne
    · rfl

theorem isum_shift (f : Int → R) (n : Nat) (lo c : Int) :
    isum lo n (fun v => f (v + c)) = isum (lo + c) n f := by
  induction n generalizing lo with
  | zero => rfl
  | succ n ih => rw [isum, isum, ih, Int.add_right_comm lo 1 c]

theorem isum_split (f : Int → R) (n m : Nat) (lo : Int) :
    isum lo (n + m) f = isum lo n f + isum (lo + n) m f := by
  induction n generalizing lo with
  | zero => rw [Nat.zero_add, isum, AddCommMonoid.zero_add, Int.natCast_zero, Int.add_zero]
  | succ n ih =>
    rw [Nat.add_right_comm, isum, isum, ih, Int.natCast_succ, Int.add_comm (n : Int) 1, ← Int.add_assoc]
    exact (Semiring.add_assoc _ _ _).symm

theorem isum_succ_right (f : Int → R) (n : Nat) (lo : Int) :
    isum lo (n + 1) f = isum lo n f + f (lo + n) := by
  rw [isum_split, isum, isum, Semiring.add_zero]

theorem isum_flatten2 (F : Int → R) (M : Nat) : ∀ n : Nat,
    isum 0 n (fun a => isum 0 M (fun b => F (a * M + b))) = isum 0 (n * M) F
  | 0 => by simp [isum]
  | n + 1 => by
    have e : (n + 1) * M = n * M + M := by rw [Nat.add_mul]; omega
    -- peel the last row off both sides (`isum_split`); the rows agree after a shift by `n·M`
    rw [e, isum_split F (n * M) M 0, ← isum_flatten2 F M n, isum_split _ n 1 0]
    congr 1
    simp only [isum, Int.zero_add]
    rw [Semiring.add_zero, ← Int.zero_add ((n * M : Nat) : Int), ← isum_shift F M 0]
    exact isum_congr M 0 fun v _ _ => congrArg F (by push_cast; omega)

/-- `τ` is `σ` with `A[k]` increased by `d k`; integer variables in `Wi` and scalar variables in
    `Ws` may have been overwritten; everything else (integer arrays, all other scalar arrays, the
    shape of `A`) is unchanged. -/
structure Acc (A : String) (Wi Ws : String → Prop) (d : Nat → R) (σ τ : St R) : Prop where
  ia : τ.ia = σ.ia
  iv : ∀ n, ¬ Wi n → τ.iv.get n = σ.iv.get n
  sv : ∀ n, ¬ Ws n → τ.sv.get n = σ.sv.get n
  sa : ∀ n, n ≠ A → τ.sa.get n = σ.sa.get n
  arr : ∃ a a', σ.sa.get A = some a ∧ τ.sa.get A = some a' ∧ a'.dims = a.dims ∧ a'.const = a.const ∧
      a'.data.size = a.data.size ∧ ∀ k, k < a.data.size → a'.data.getD k 0 = a.data.getD k 0 + d k

def AOk (A : String) (N : Nat) (σ : St R) : Prop :=
  ∃ a, σ.sa.get A = some a ∧ a.dims = [N] ∧ a.const = false ∧ a.data.size = N

variable {A : String} {Wi Ws : String → Prop}

theorem Acc.refl {σ : St R} {a : Arr R} (h : σ.sa.get A = some a) :
    Acc A Wi Ws (fun _ => 0) σ σ :=
  ⟨rfl, fun _ _ => rfl, fun _ _ => rfl, fun _ _ => rfl,
    ⟨a, a, h, h, rfl, rfl, rfl, fun _ _ => (Semiring.add_zero _).symm⟩⟩

theorem Acc.trans {d₁ d₂ : Nat → R} {σ τ υ : St R} (h₁ : Acc A Wi Ws d₁ σ τ)
    (h₂ : Acc A Wi Ws d₂ τ υ) : Acc A Wi Ws (fun k => d₁ k + d₂ k) σ υ := by
  obtain ⟨a, a', ha, ha', hd, hc, hs, hv⟩ := h₁.arr
  obtain ⟨b, b', hb, hb', hd', hc', hs', hv'⟩ := h₂.arr
  rw [ha'] at hb; cases hb
  refine ⟨h₂.ia.trans h₁.ia, fun n hn => (h₂.iv n hn).trans (h₁.iv n hn),
    fun n hn => (h₂.sv n hn).trans (h₁.sv n hn), fun n hn => (h₂.sa n hn).trans (h₁.sa n hn),
    ⟨a, b', ha, hb', hd'.trans hd, hc'.trans hc, hs'.trans hs, ?_⟩⟩
  intro k hk
  rw [hv' k (hs ▸ hk), hv k hk, Semiring.add_assoc]

theorem Acc.mono {Wi' Ws' : String → Prop} {d : Nat → R} {σ τ : St R} (h : Acc A Wi Ws d σ τ)
    (hi : ∀ n, Wi n → Wi' n) (hs : ∀ n, Ws n → Ws' n) : Acc A Wi' Ws' d σ τ :=
  ⟨h.ia, fun n hn => h.iv n (fun c => hn (hi n c)), fun n hn => h.sv n (fun c => hn (hs n c)),
    h.sa, h.arr⟩

theorem Acc.congr {d d' : Nat → R} {σ τ : St R} (h : Acc A Wi Ws d σ τ) (he : ∀ k, d k = d' k) :
    Acc A Wi Ws d' σ τ := by
  have : d = d' := funext he
  rw [← this]; exact h

/-- the loop index is in the write set: an iteration started from `σ.setIV i v` is an accumulation step
    from `σ` -/
theorem Acc.of_setIV {d : Nat → R} {σ τ : St R} {i : String} {v : Int} (hi : Wi i)
    (h : Acc A Wi Ws d (σ.setIV i v) τ) : Acc A Wi Ws d σ τ := by
  refine ⟨h.ia, fun n hn => ?_, h.sv, h.sa, h.arr⟩
  rw [h.iv n hn]
  exact AList.get_set_ne _ _ _ _ fun e : i = n => hn (e ▸ hi)

theorem Acc.of_setSV {d : Nat → R} {σ τ : St R} {s : String} {v : R} (hs : Ws s)
    (h : Acc A Wi Ws d (σ.setSV s v) τ) : Acc A Wi Ws d σ τ := by
  refine ⟨h.ia, h.iv, fun n hn => ?_, h.sa, h.arr⟩
  rw [h.sv n hn]
  exact AList.get_set_ne _ _ _ _ fun e : s = n => hn (e ▸ hs)

theorem AOk.of_acc {N : Nat} {d : Nat → R} {σ τ : St R} (h : Acc A Wi Ws d σ τ) (hA : AOk A N σ) :
    AOk A N τ := by
  obtain ⟨a, ha, hd, hc, hs⟩ := hA
  obtain ⟨b, b', hb, hb', hd', hc', hs', _⟩ := h.arr
  rw [ha] at hb; cases hb
  exact ⟨b', hb', hd'.trans hd, hc'.trans hc, hs'.trans hs⟩

/-- Agreement of two states outside `A`'s contents: integer variables in `Pi`, scalar variables in
    `Ps`, all integer arrays, all scalar arrays but `A`.  Beside `AgreeOn` (one predicate for all four
    stores) and `AgreeOnQ` (`Lemmas/AgreeOnExec`: one for the integer variables, one for the other three
    stores) because here the two variable stores have predicates of their own and the arrays none.  The
    equations read `τ.… = σ.…` as in `Acc`, those of `AgreeOn`/`AgreeOnQ` `σ.… = τ.…`: `Agree.agreeOn`
    turns them round. -/
structure Agree (A : String) (Pi Ps : String → Prop) (σ τ : St R) : Prop where
  ia : τ.ia = σ.ia
  iv : ∀ n, Pi n → τ.iv.get n = σ.iv.get n
  sv : ∀ n, Ps n → τ.sv.get n = σ.sv.get n
  sa : ∀ n, n ≠ A → τ.sa.get n = σ.sa.get n

variable {Pi Ps : String → Prop}

theorem Acc.agree {d : Nat → R} {σ τ : St R} (h : Acc A Wi Ws d σ τ) :
    Agree A (fun n => ¬ Wi n) (fun n => ¬ Ws n) σ τ := ⟨h.ia, h.iv, h.sv, h.sa⟩

theorem Acc.of_agree_sa {σ τ : St R} {a : Arr R}
    (h : Agree A (fun n => ¬ Wi n) (fun n => ¬ Ws n) σ τ) (hsa : τ.sa = σ.sa) (ha : σ.sa.get A = some a) :
    Acc A Wi Ws (fun _ => 0) σ τ :=
  ⟨h.ia, h.iv, h.sv, h.sa, a, a, ha, hsa ▸ ha, rfl, rfl, rfl, fun _ _ => (Semiring.add_zero _).symm⟩

section
-- neither `AOk` nor `Agree` speaks of the field
omit [Field R]

theorem AOk.setIV {N : Nat} {σ : St R} (h : AOk A N σ) (i : String) (v : Int) :
    AOk A N (σ.setIV i v) := h

theorem Agree.refl (σ : St R) : Agree A Pi Ps σ σ := ⟨rfl, fun _ _ => rfl, fun _ _ => rfl, fun _ _ => rfl⟩

theorem Agree.mono {Pi' Ps' : String → Prop} {σ τ : St R} (h : Agree A Pi Ps σ τ)
    (hi : ∀ n, Pi' n → Pi n) (hs : ∀ n, Ps' n → Ps n) : Agree A Pi' Ps' σ τ :=
  ⟨h.ia, fun n hn => h.iv n (hi n hn), fun n hn => h.sv n (hs n hn), h.sa⟩

theorem Agree.setIV {σ τ : St R} (h : Agree A Pi Ps σ τ) (i : String) (v : Int) :
    Agree A (fun n => Pi n ∨ n = i) Ps (σ.setIV i v) (τ.setIV i v) := by
  refine ⟨h.ia, fun n hn => ?_, h.sv, h.sa⟩
  simp only [St.setIV, AList.get_set]
  split
  · rfl
  · exact h.iv n (hn.resolve_right fun e => ‹¬ i = n› e.symm)

/-- what the name-level frame lemmas (`eval_agreeOn`, …) need -/
theorem Agree.agreeOn {σ τ : St R} (h : Agree A Pi Ps σ τ) :
    AgreeOn (fun n => n ≠ A ∧ Pi n ∧ Ps n) σ τ :=
  ⟨fun n hn => (h.iv n hn.2.1).symm, fun n hn => (h.sv n hn.2.2).symm,
    fun n _ => by rw [h.ia], fun n hn => (h.sa n hn.1).symm⟩

theorem ne_of_mentions {m n : String} {e : Expr} (hm : mentionsE m e = false)
    (hn : mentionsE n e = true) : n ≠ m :=
  fun h => Bool.false_ne_true (hm.symm.trans (h ▸ hn))

theorem not_mem_of_mentions {L : List String} {n : String} {e : Expr}
    (hL : ∀ m ∈ L, mentionsE m e = false) (hn : mentionsE n e = true) : n ∉ L :=
  fun h => Bool.false_ne_true ((hL n h).symm.trans hn)

theorem agreeOn_setSV {P : String → Prop} (σ : St R) (n : String) (v : R) (hP : ∀ m, P m → m ≠ n) :
    AgreeOn P σ (σ.setSV n v) :=
  ⟨fun _ _ => rfl, fun m hm => (AList.get_set_ne _ _ _ _ (hP m hm).symm).symm, fun _ _ => rfl,
    fun _ _ => rfl⟩

end

section
-- no field needed here either; these three are stated with `[Field R]` all the same
set_option linter.unusedSectionVars false

theorem AOk.setSV {N : Nat} {σ : St R} (h : AOk A N σ) (i : String) (v : R) :
    AOk A N (σ.setSV i v) := h

theorem Agree.symm {σ τ : St R} (h : Agree A Pi Ps σ τ) : Agree A Pi Ps τ σ :=
  ⟨h.ia.symm, fun n hn => (h.iv n hn).symm, fun n hn => (h.sv n hn).symm, fun n hn => (h.sa n hn).symm⟩

theorem Agree.setSV {σ τ : St R} (h : Agree A Pi Ps σ τ) (s : String) (v : R) :
    Agree A Pi (fun n => Ps n ∨ n = s) (σ.setSV s v) (τ.setSV s v) := by
  refine ⟨h.ia, h.iv, fun n hn => ?_, h.sa⟩
  simp only [St.setSV, AList.get_set]
  split
  · rfl
  · exact h.sv n (hn.resolve_right fun e => ‹¬ s = n› e.symm)

end

/-- **Loop rule.** If the body, started in any state satisfying `Pre`, succeeds and accumulates
    `δ τ` into `A` (touching only `Wi`, `Ws`), and `Pre`, `δ` at the start of an iteration do not
    depend on what earlier iterations did (to `A`, `Wi`, `Ws`), then `n` iterations accumulate
    `Σ_v δ (σ[i := v])`.  An instance of `loopN_inv`: before iteration `t` the sum below `t` has been added. -/
theorem forRange_accumulate (x : Extra R) (body : List Stmt) (i : String) (n : Nat) (hi : Wi i)
    (Pre : St R → Prop) (δ : St R → Nat → R)
    (hbody : ∀ τ, Pre τ → ∃ τ', execL x body τ = .ok τ' ∧ Acc A Wi Ws (δ τ) τ τ')
    (hstab : ∀ (v : Int) (τ τ' : St R) (d : Nat → R), Acc A Wi Ws d τ τ' →
      (Pre (τ.setIV i v) → Pre (τ'.setIV i v)) ∧ ∀ k, δ (τ'.setIV i v) k = δ (τ.setIV i v) k)
    (σ : St R) (hA : ∃ a, σ.sa.get A = some a)
    (hpre : ∀ t : Nat, t < n → Pre (σ.setIV i t)) :
    ∃ σ', exec x (.forRange i (.litI 0) (.litI n) body) σ = .ok σ' ∧
      Acc A Wi Ws (fun k => isum 0 n (fun v => δ (σ.setIV i v) k)) σ σ' := by
  obtain ⟨a, ha⟩ := hA
  rw [exec_for_lit, Int.sub_zero, Int.toNat_natCast]
  refine loopN_inv _ i n (fun t τ => Acc A Wi Ws (fun k => isum 0 t (fun v => δ (σ.setIV i v) k)) σ τ) 0 σ
    (Acc.refl ha) fun t τ ht hτ => ?_
  rw [Int.zero_add]
  obtain ⟨hp, hδ⟩ := hstab t σ τ _ hτ
  obtain ⟨τ', hb, hacc⟩ := hbody _ (hp (hpre t ht))
  refine ⟨τ', hb, (hτ.trans (Acc.of_setIV hi hacc)).congr fun k => ?_⟩
  rw [hδ k, isum_succ_right, Int.zero_add]

end Ffcx.Codegen
