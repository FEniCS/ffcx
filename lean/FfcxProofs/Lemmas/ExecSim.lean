/-
Lock-step simulation for `exec`.

Two runs of the same statement — by two interpreters that share the control structure of `exec`
(`Interp`), over two scalar domains — from related states fail with the same error or succeed in
related states (`OutRel Eq` of Lemmas/ExceptBind), as soon as this holds of the four storing
statements (`Leaf`), loop bounds evaluate alike (`bounds`), and binding a loop index keeps the
relation (`enter`): `exec_sim`.  The static side condition is any predicate closed under
sub-statements (`SubClosed`).  `execL_sim` is the list half of the induction; the instances get their
list forms at `.block ss` instead of passing the same arguments again.

Two interpreters from the SAME state, with an invariant `I` of that state: `exec_same`, which concludes
`SameRun I` (equal outcomes, `I` at the end).  One interpreter and an invariant: `exec_inv`.

An instance of `exec_sim` proves its `Leaf` cases in `OutRel Eq` (`store_rel`, `vdecl_rel`, `adecl_rel`
below: what those proofs share; an assignment is a test of `safeE` around a `store`: `simp only [exec, …]`
with the equations for `safeE` and `eval` of its right-hand side, then `.ite _ (store_… _) rfl`).  Its
statement-level theorem is in `OutRel Eq` too where lemmas about `OutRel` use it (`exec_sameShape`), and in
the relation of the statements that use it otherwise (`exec_shift`: `RelRes`;
`GeomIndep.exec_agree`, the one instance whose `bounds` has content: `GeomIndep.Rel`) — the same thing
by an `Iff` (below `relRes2_iff`, for `RelRes2`, in which `execL_sameShape` is stated).

Not instances, and inductions of their own: `exec_agreeOnQ` (Lemmas/AgreeOnExec) — inside a loop the
relation is another one than outside (the index is added to the names on which the integer variables
agree), while `enter` asks for the same relation (its loop case is `loopN_lockstep` with the index
bound inside the step); the `execReads` family (Lemmas/ReadsShape, Lemmas/Reads) — `execReads` returns a pair of a
state and the reads, so it is no `Interp`.
-/
import FfcxProofs.Lemmas.ExecBind

namespace Ffcx.LNodes

variable {R S : Type}

/-- both runs fail with the same error, or both succeed in `P`-related states -/
def RelRes2 (P : St R → St S → Prop) : Except Err (St R) → Except Err (St S) → Prop
  | .ok a, .ok b => P a b
  | .error e, .error e' => e = e'
  | _, _ => False

theorem relRes2_iff {P : St R → St S → Prop} {a : Except Err (St R)} {b : Except Err (St S)} :
    RelRes2 P a b ↔ OutRel Eq P a b := by
  cases a <;> cases b <;> exact Iff.rfl

/-- the statements that change the state themselves -/
inductive Leaf : Stmt → Prop
  | assign (l r : Expr) : Leaf (.assign l r)
  | addAssign (l r : Expr) : Leaf (.addAssign l r)
  | vdecl (n : String) (dt : DType) (v : Expr) : Leaf (.vdecl n dt v)
  | adecl (n : String) (dt : DType) (sz : List Nat) (c : Bool) (vals : Option (List Expr)) :
      Leaf (.adecl n dt sz c vals)

/-- `E`, `EL` run comments, blocks, sections, lists and loops the way `exec`, `execL` do -/
structure Interp (E : Stmt → St R → Except Err (St R))
    (EL : List Stmt → St R → Except Err (St R)) : Prop where
  nil : ∀ σ, EL [] σ = .ok σ
  cons : ∀ s ss σ, EL (s :: ss) σ = (E s σ).bind (EL ss)
  comment : ∀ c σ, E (.comment c) σ = .ok σ
  block : ∀ ss σ, E (.block ss) σ = EL ss σ
  sect : ∀ n d s i o a σ, E (.sect n d s i o a) σ = (EL d σ).bind (EL s)
  loop : ∀ i lo hi b σ, E (.forRange i lo hi b) σ =
    match evalI σ.iv σ.ia lo, evalI σ.iv σ.ia hi with
    | some l, some h => loopN (EL b) i l (h - l).toNat σ
    | _, _ => .error (.badIndex i)

theorem interp_exec [Add R] [Sub R] [Mul R] [Div R] [Neg R] [IntCast R] (x : Extra R) :
    Interp (exec x) (execL x) where
  nil _ := by simp only [execL]
  cons := execL_cons_bind x
  comment _ _ := by simp only [exec]
  block := exec_block x
  sect := exec_sect_eq_bind x
  loop _ _ _ _ _ := by simp only [exec]; rfl

/-- a side condition on statements that passes to sub-statements -/
structure SubClosed (Ok : Stmt → Prop) (OkL : List Stmt → Prop) : Prop where
  cons : ∀ {s ss}, OkL (s :: ss) → Ok s ∧ OkL ss
  block : ∀ {ss}, Ok (.block ss) → OkL ss
  sect : ∀ {n d s i o a}, Ok (.sect n d s i o a) → OkL d ∧ OkL s
  body : ∀ {i lo hi b}, Ok (.forRange i lo hi b) → OkL b

theorem subClosed_true : SubClosed (fun _ => True) (fun _ => True) :=
  ⟨fun _ => ⟨trivial, trivial⟩, id, fun _ => ⟨trivial, trivial⟩, id⟩

section Sim
variable {E : Stmt → St R → Except Err (St R)} {EL : List Stmt → St R → Except Err (St R)}
  {F : Stmt → St S → Except Err (St S)} {FL : List Stmt → St S → Except Err (St S)}

/-- **The loop rule for two runs**, the counterpart of `loopN_inv`: `Q t` relates the states before iteration
    `t`; two iterations started in `Q t`-related states, with the index set to `lo + t` on both sides, fail
    with `Er`-related errors or establish `Q (t + 1)`. -/
theorem loopN_lockstep {Er : Err → Err → Prop} {b1 : St R → Except Err (St R)}
    {b2 : St S → Except Err (St S)} (i : String) :
    ∀ (n : Nat) (Q : Nat → St R → St S → Prop) (lo : Int) (σ : St R) (τ : St S), Q 0 σ τ →
      (∀ (t : Nat) (σ : St R) (τ : St S), t < n → Q t σ τ →
        OutRel Er (Q (t + 1)) (b1 (σ.setIV i (lo + t))) (b2 (τ.setIV i (lo + t)))) →
      OutRel Er (Q n) (loopN b1 i lo n σ) (loopN b2 i lo n τ)
  | 0, _, _, _, _, h0, _ => h0
  | n + 1, Q, lo, σ, τ, h0, step => by
    rw [loopN_succ_bind, loopN_succ_bind]
    have h := step 0 σ τ (Nat.succ_pos n) h0
    rw [Int.natCast_zero, Int.add_zero] at h
    exact h.bind fun a b hab =>
      loopN_lockstep i n (fun t => Q (t + 1)) (lo + 1) a b hab fun t σ τ ht hq => by
        have := step (t + 1) σ τ (Nat.succ_lt_succ ht) hq
        rwa [show lo + ((t + 1 : Nat) : Int) = lo + 1 + t by omega] at this

variable {Rel : St R → St S → Prop} {Ok : Stmt → Prop} {OkL : List Stmt → Prop}
  (hE : Interp E EL) (hF : Interp F FL) (hc : SubClosed Ok OkL)
  (leaf : ∀ {s}, Leaf s → Ok s → ∀ σ τ, Rel σ τ → OutRel Eq Rel (E s σ) (F s τ))
  -- `bounds` gets `Ok`: where the states differ in what a bound may read, `Ok` says that it does not.
  -- `enter` is asked for every `v`: no instance needs to know which values the index takes.
  (bounds : ∀ {i lo hi b σ τ}, Ok (.forRange i lo hi b) → Rel σ τ →
    evalI σ.iv σ.ia lo = evalI τ.iv τ.ia lo ∧ evalI σ.iv σ.ia hi = evalI τ.iv τ.ia hi)
  (enter : ∀ {i lo hi b}, Ok (.forRange i lo hi b) → ∀ σ τ v, Rel σ τ →
    Rel (σ.setIV i v) (τ.setIV i v))
include hE hF hc leaf bounds enter

-- the list form uses some of the hypotheses only through its call of the other
set_option linter.unusedSectionVars false in
mutual
theorem exec_sim : ∀ (s : Stmt) (σ : St R) (τ : St S), Ok s → Rel σ τ →
    OutRel Eq Rel (E s σ) (F s τ)
  | .assign l r, σ, τ, hs, h => leaf (.assign l r) hs σ τ h
  | .addAssign l r, σ, τ, hs, h => leaf (.addAssign l r) hs σ τ h
  | .vdecl n dt v, σ, τ, hs, h => leaf (.vdecl n dt v) hs σ τ h
  | .adecl n dt sz c vals, σ, τ, hs, h => leaf (.adecl n dt sz c vals) hs σ τ h
  | .comment c, σ, τ, _, h => by rw [hE.comment, hF.comment]; exact h
  | .block ss, σ, τ, hs, h => by
    rw [hE.block, hF.block]; exact execL_sim ss σ τ (hc.block hs) h
  | .sect n d s i o a, σ, τ, hs, h => by
    rw [hE.sect, hF.sect]
    exact (execL_sim d σ τ (hc.sect hs).1 h).bind fun a b => execL_sim s a b (hc.sect hs).2
  | .forRange i lo hi b, σ, τ, hs, h => by
    rw [hE.loop, hF.loop, (bounds hs h).1, (bounds hs h).2]
    generalize evalI τ.iv τ.ia lo = l
    generalize evalI τ.iv τ.ia hi = u
    obtain _ | l := l
    · rfl
    obtain _ | u := u
    · rfl
    exact loopN_lockstep i _ (fun _ => Rel) _ σ τ h fun _ σ τ _ hq =>
      execL_sim b _ _ (hc.body hs) (enter hs σ τ _ hq)

theorem execL_sim : ∀ (ss : List Stmt) (σ : St R) (τ : St S), OkL ss → Rel σ τ →
    OutRel Eq Rel (EL ss σ) (FL ss τ)
  | [], σ, τ, _, h => by rw [hE.nil, hF.nil]; exact h
  | s :: ss, σ, τ, hs, h => by
    rw [hE.cons, hF.cons]
    exact (exec_sim s σ τ (hc.cons hs).1 h).bind fun a b => execL_sim ss a b (hc.cons hs).2
end

end Sim

section Leaves

/-- What the `leaf` cases of the instances on one scalar domain share for `store`: the variable resp. the
    cell the lvalue names is the same in both states, and `Rel` is kept by the same update of both. -/
theorem store_rel [IntCast R] {Rel : St R → St R → Prop} (x : Extra R) {σ τ : St R} (lhs : Expr) (f : R → R)
    (hsv : ∀ n dt, lhs = .sym n dt → σ.sv.get n = τ.sv.get n ∧ ∀ v, Rel (σ.setSV n v) (τ.setSV n v))
    (hsa : ∀ arr dt ix, lhs = .idx arr dt ix → resolve σ arr ix = resolve τ arr ix ∧
      ∀ a, Rel (σ.setSA arr a) (τ.setSA arr a)) :
    OutRel Eq Rel (store x σ lhs f) (store x τ lhs f) := by
  cases lhs
  case sym n dt =>
    obtain ⟨e, hset⟩ := hsv n dt rfl
    simp only [store, e]
    refine .ite _ rfl ?_
    generalize τ.sv.get n = o
    cases o
    · rfl
    · exact hset _
  case idx arr dt ix =>
    obtain ⟨e, hset⟩ := hsa arr dt ix rfl
    simp only [store, e]
    refine .ite _ rfl ?_
    generalize resolve τ arr ix = r
    obtain _ | ⟨a, k⟩ := r
    · rfl
    · exact .ite _ rfl (hset _)
  all_goals rfl

variable [Add R] [Sub R] [Mul R] [Div R] [Neg R] [IntCast R]

/-- … for a variable declaration (two scalar domains): the value as an integer and the safety of the
    initialiser are the same, and `Rel` is kept by binding the integer resp. the scalar variable. -/
theorem vdecl_rel [Add S] [Sub S] [Mul S] [Div S] [Neg S] [IntCast S] {Rel : St R → St S → Prop} (x : Extra R)
    (y : Extra S) {σ : St R} {τ : St S} (n : String) (dt : DType) (v : Expr)
    (hi : evalI σ.iv σ.ia v = evalI τ.iv τ.ia v) (hs : safeE σ v = safeE τ v)
    (hiv : ∀ k, Rel (σ.setIV n k) (τ.setIV n k))
    (hsv : Rel (σ.setSV n (if dt == .bool then b2r (evalB x σ v) else eval x σ v))
      (τ.setSV n (if dt == .bool then b2r (evalB y τ v) else eval y τ v))) :
    OutRel Eq Rel (exec x (.vdecl n dt v) σ) (exec y (.vdecl n dt v) τ) := by
  simp only [exec, hi, hs]
  refine .ite _ ?_ (.ite _ hsv rfl)
  generalize evalI τ.iv τ.ia v = o
  cases o
  · rfl
  · exact hiv _

/-- … and for an array declaration (one scalar domain): the initialisers have the same values, and `Rel` is
    kept by binding the array to the same value in both. -/
theorem adecl_rel {Rel : St R → St R → Prop} (x : Extra R) {σ τ : St R} (n : String) (dt : DType)
    (sizes : List Nat) (c : Bool) (vals : Option (List Expr))
    (hv : evalL x σ (vals.getD []) = evalL x τ (vals.getD [])) (hsa : ∀ a, Rel (σ.setSA n a) (τ.setSA n a)) :
    OutRel Eq Rel (exec x (.adecl n dt sizes c vals) σ) (exec x (.adecl n dt sizes c vals) τ) := by
  simp only [exec, initData, hv]
  exact .ite _ rfl (hsa _)

end Leaves

/-- the run `a` has the outcome of the run `b`, and a final state of `b` satisfies `I` -/
structure SameRun (I : St R → Prop) (a b : Except Err (St R)) : Prop where
  eq : a = b
  inv : ∀ σ', b = .ok σ' → I σ'

namespace SameRun
variable {I : St R → Prop}

theorem ok {σ : St R} (h : I σ) : SameRun I (.ok σ) (.ok σ) :=
  ⟨rfl, fun _ e => by cases e; exact h⟩

theorem error (e : Err) : SameRun I (.error e) (.error e) := ⟨rfl, nofun⟩

theorem ite {c : Bool} {a b a' b' : Except Err (St R)} (ht : SameRun I a b) (hf : SameRun I a' b') :
    SameRun I (if c then a else a') (if c then b else b') := by
  cases c
  · exact hf
  · exact ht

/-- equal outcomes and the invariant at the end: lock step for "equal states that satisfy `I`" -/
theorem iff_outRel {a b : Except Err (St R)} :
    SameRun I a b ↔ OutRel Eq (fun s t => s = t ∧ I s) a b := by
  constructor
  · rintro ⟨rfl, h⟩
    cases a
    · rfl
    · exact ⟨rfl, h _ rfl⟩
  · intro h
    cases a <;> cases b
    · exact ⟨congrArg _ h, nofun⟩
    · exact h.elim
    · exact h.elim
    · obtain ⟨rfl, h⟩ := h
      exact ok h

end SameRun

section Same
variable {E : Stmt → St R → Except Err (St R)} {EL : List Stmt → St R → Except Err (St R)}
  {F : Stmt → St R → Except Err (St R)} {FL : List Stmt → St R → Except Err (St R)}
  {I : St R → Prop} {Ok : Stmt → Prop} {OkL : List Stmt → Prop}

/-- `exec_sim` from equal states that satisfy `I`: loop bounds evaluate alike by themselves -/
theorem exec_same (hE : Interp E EL) (hF : Interp F FL) (hc : SubClosed Ok OkL)
    (leaf : ∀ {s}, Leaf s → Ok s → ∀ σ, I σ → SameRun I (E s σ) (F s σ))
    (enter : ∀ {i lo hi b}, Ok (.forRange i lo hi b) → ∀ σ v, I σ → I (σ.setIV i v))
    (s : Stmt) (σ : St R) (hs : Ok s) (h : I σ) : SameRun I (E s σ) (F s σ) :=
  SameRun.iff_outRel.2 <| exec_sim hE hF hc (Rel := fun s t => s = t ∧ I s)
    (fun hl hs σ _ h => h.1 ▸ SameRun.iff_outRel.1 (leaf hl hs σ h.2)) (fun _ h => h.1 ▸ ⟨rfl, rfl⟩)
    (fun hs σ _ v h => h.1 ▸ ⟨rfl, enter hs σ v h.2⟩) s σ σ hs ⟨rfl, h⟩

theorem exec_inv (hE : Interp E EL) (hc : SubClosed Ok OkL)
    (leaf : ∀ {s}, Leaf s → Ok s → ∀ σ σ', I σ → E s σ = .ok σ' → I σ')
    (enter : ∀ {i lo hi b}, Ok (.forRange i lo hi b) → ∀ σ v, I σ → I (σ.setIV i v))
    (s : Stmt) (σ σ' : St R) (hs : Ok s) (h : I σ) (hx : E s σ = .ok σ') : I σ' :=
  (exec_same hE hE hc (fun hl hs σ h => ⟨rfl, fun σ' => leaf hl hs σ σ' h⟩) enter s σ hs h).inv σ' hx

end Same

end Ffcx.LNodes
