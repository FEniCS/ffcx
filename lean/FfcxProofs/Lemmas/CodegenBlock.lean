/-
What `genOneBlock` / `genBlocks` produce in the regular case (no tensor factors, full tensor),
and the value of the produced right-hand sides and subscripts: `fw · Π_r table_r[perm][entity][q][d_r]`
and the row-major flat index of `(block_size_r · d_r + offset_r)_r`, for one term at one index tuple
(`block_term_sem`, from `BlockInv`: what `genOneBlock` returns).  The table value is `argVal`, readable under
`ArgOk`; both depend on the state through the table and the integer arrays only (`ConstSub`: the constant
subscripts), so they pass to any state with the same arrays (`argVal_congr`, `ArgOk_congr`).
-/
import FfcxModel.Codegen.Spec
import FfcxProofs.Lemmas.CodegenEval
import FfcxProofs.Lemmas.CodegenBox

namespace Ffcx.Codegen
open Ffcx.LNodes Lean.Grind
attribute [local instance] Lean.Grind.Ring.intCast
variable {R : Type} [Field R] (x : Extra R)

/-- the entity subscript of a table access (`entity = 0` for uniform tables) -/
def entExpr (et : String) (t : TableRef) (r : Restr) : Option Expr :=
  if t.isUniform then some (.litI 0) else entityExpr et r

/-- value of a subscript that reads only literals / integer arrays (`0` if it has none: `ArgOk` says it has) -/
def subVal (σ : St R) (e : Expr) : Int := (evalI σ.iv σ.ia e).getD 0

/-- **The argument table value** `table[perm][entity][q or 0][d]` as the generated access reads it
    (1 for a "ones" table).  Where there is no entity subscript (`entExpr = none`, the generator raises)
    the entity is taken as `0`; `ArgOk` excludes that case. -/
def argVal (σ : St R) (et : String) (q : Int) (a : ArgDesc) (d : Int) : R :=
  if a.table.ttype == "ones" then 1
  else readArr σ a.table.name
    [subVal σ (qpExpr a.table a.restriction),
     (match entExpr et a.table a.restriction with | some e => subVal σ e | none => 0),
     (if a.table.isPiecewise then 0 else q), d]

/-- The table of argument `a` is declared and the accesses `[perm][entity][q or 0][d]`, `d < ndofs`,
    are inside its extents (or the table is "ones": no access). -/
def ArgOk (σ : St R) (et : String) (q : Int) (a : ArgDesc) : Prop :=
  a.table.ttype = "ones" ∨
  ∃ e vp ve arr, entExpr et a.table a.restriction = some e ∧
    evalI σ.iv σ.ia (qpExpr a.table a.restriction) = some vp ∧ evalI σ.iv σ.ia e = some ve ∧
    σ.sa.get a.table.name = some arr ∧
    ∀ d : Nat, d < a.table.ndofs →
      (flatIdx arr.dims [vp, ve, (if a.table.isPiecewise then 0 else q), (d : Int)]).isSome = true

/-- What `qpExpr` and `entityExpr` build: the literal `0`, or a read of entry `0` or `1` of the
    integer array `arr`.  Such a subscript reads no integer variable and mentions only `arr`. -/
inductive ConstSub (arr : String) : Expr → Prop
  | zero : ConstSub arr (.litI 0)
  | get (k : Int) (hk : k = 0 ∨ k = 1) : ConstSub arr (.idx arr .int [.litI k])

theorem ConstSub.evalI_iv {arr : String} {e : Expr} (h : ConstSub arr e) (iv iv' : AList Int) (ia) :
    evalI iv ia e = evalI iv' ia e := by
  cases h <;> rfl

theorem ConstSub.mentions {arr m : String} {e : Expr} (h : ConstSub arr e) (hm : m ≠ arr) :
    mentionsE m e = false := by
  cases h
  · rfl
  · simp only [mentionsE, mentionsL, Bool.or_false, beq_eq_false_iff_ne, ne_eq]
    exact fun e => hm e.symm

omit [Field R] in
theorem ConstSub.subVal_eq {arr : String} {e : Expr} (h : ConstSub arr e) {σ τ : St R}
    (hia : τ.ia = σ.ia) : subVal τ e = subVal σ e := by
  rw [subVal, subVal, hia, h.evalI_iv τ.iv σ.iv]

theorem qpExpr_constSub (t : TableRef) (r : Restr) : ConstSub "quadrature_permutation" (qpExpr t r) :=
  ite_elim (fun _ => ite_elim (fun _ => .get 1 (.inr rfl)) (fun _ => .get 0 (.inl rfl))) (fun _ => .zero)

theorem entityExpr_constSub {et : String} {r : Restr} {e : Expr} :
    entityExpr et r = some e → ConstSub "entity_local_index" e := by
  let Q : Option Expr → Prop := fun o => o = some e → ConstSub "entity_local_index" e
  have lit0 : Q (some (.litI 0)) := fun h => by cases h; exact .zero
  have get : ∀ k, k = 0 ∨ k = 1 → Q (some (.idx "entity_local_index" .int [.litI k])) := fun k hk h => by
    cases h; exact .get k hk
  exact ite_elim (P := Q) (fun _ => lit0) fun _ =>
    ite_elim (P := Q) (fun _ => ite_elim (P := Q) (fun _ => get 1 (.inr rfl)) (fun _ => get 0 (.inl rfl))) fun _ =>
    ite_elim (P := Q) (fun _ => get 0 (.inl rfl)) fun _ =>
      ite_elim (P := Q) (fun _ => get 0 (.inl rfl)) fun _ h => nomatch h

theorem entExpr_constSub {et : String} {t : TableRef} {r : Restr} {e : Expr} :
    entExpr et t r = some e → ConstSub "entity_local_index" e :=
  ite_elim (P := fun o => o = some e → ConstSub "entity_local_index" e)
    (fun _ h => by cases h; exact .zero) fun _ => entityExpr_constSub

theorem quadIndex_noTF (r : QRule) (h : r.factors = none) :
    quadIndex r = { syms := ["iq"], sizes := [r.nweights] } := by
  simp [quadIndex, h]

/-- `table_access` on one-symbol quadrature and dof indices, for a table that is not "ones" (so that `ArgOk` says
    it is readable) -/
theorem tableAccess_sem (t : TableRef) (et : String) (r : Restr) (s : String) (n nq : Nat) (fe : Expr)
    (tabs : List String)
    (h : tableAccess t et r { syms := ["iq"], sizes := [nq] } { syms := [s], sizes := [n] } = .ok (fe, tabs))
    (hone : (t.ttype == "ones") = false)
    (τ : St R) (q d : Int) (hq : τ.iv.get "iq" = some q) (hd : τ.iv.get s = some d)
    (hok : ArgOk τ et q { table := t, restriction := r }) :
    eval x τ fe = argVal τ et q { table := t, restriction := r } d ∧
    (0 ≤ d ∧ d < (t.ndofs : Int) → safeE τ fe = true) ∧
    (∀ m, m ≠ t.name → m ≠ "iq" → m ≠ s → m ≠ "quadrature_permutation" →
      m ≠ "entity_local_index" → mentionsE m fe = false) := by
  rcases hok with hok | ⟨e, vp, ve, arr, he, hvp, hve, harr, hfl⟩
  · simp [show t.ttype = "ones" from hok] at hone
  unfold tableAccess at h
  simp only [MIx.dim, List.length_cons, List.length_nil, Nat.zero_add, beq_self_eq_true,
    Bool.and_self, if_true] at h
  have he' : (if t.isUniform = true then some (Expr.litI 0) else entityExpr et r) = some e := he
  rw [he'] at h
  simp only [Except.ok.injEq, Prod.mk.injEq] at h
  obtain ⟨rfl, _⟩ := h
  have hiq : evalI τ.iv τ.ia (if t.isPiecewise = true then Expr.litI 0
      else MIx.global { syms := ["iq"], sizes := [nq] }) =
      some (if t.isPiecewise = true then 0 else q) := by
    split
    · rfl
    · exact evalI_global_single τ.iv τ.ia "iq" nq q hq
  have hic := evalI_global_single τ.iv τ.ia s n d hd
  have hixs : evalIs τ.iv τ.ia [qpExpr t r, e,
      (if t.isPiecewise = true then Expr.litI 0 else MIx.global { syms := ["iq"], sizes := [nq] }),
      MIx.global { syms := [s], sizes := [n] }] =
      some [vp, ve, (if t.isPiecewise = true then 0 else q), d] := by
    simp [evalIs, hvp, hve, hiq, hic]
  refine ⟨?_, ?_, ?_⟩
  · simp only [eval, hixs, Option.getD_some, argVal, hone, he, subVal, hvp, hve]
    simp
  · rintro ⟨hd0, hd1⟩
    obtain ⟨dn, rfl⟩ := Int.eq_ofNat_of_zero_le hd0
    simp only [safeE, harr, hixs]
    simpa using hfl dn (show dn < t.ndofs by omega)
  · intro m h1 h2 h3 h4 h5
    have m1 := (qpExpr_constSub t r).mentions h4
    have m2 := (entExpr_constSub he).mentions h5
    have m3 : mentionsE m (if t.isPiecewise = true then Expr.litI 0
        else MIx.global { syms := ["iq"], sizes := [nq] }) = false := by
      split
      · rfl
      · exact (mentions_global_single ..).trans (beq_eq_false_iff_ne.mpr h2.symm)
    have m4 : mentionsE m (MIx.global { syms := [s], sizes := [n] }) = false :=
      (mentions_global_single ..).trans (beq_eq_false_iff_ne.mpr h3.symm)
    simp [mentionsE, mentionsL, beq_eq_false_iff_ne.mpr h1.symm, m1, m2, m3, m4]

/-- one round of `get_arg_factors`: `1` for a "ones" table, else the table access (`tableAccess_sem`).  Takes a
    whole `GroupDesc` because the model's `argFactor` does; only `g.entityType` is read. -/
theorem argFactor_sem (g : GroupDesc) (a : ArgDesc) (s : String) (n nq : Nat) (f : MSym)
    (tabs : List String)
    (h : argFactor g { syms := ["iq"], sizes := [nq] } a { syms := [s], sizes := [n] } = .ok (f, tabs))
    (τ : St R) (q d : Int) (hq : τ.iv.get "iq" = some q) (hd : τ.iv.get s = some d)
    (hok : ArgOk τ g.entityType q a) :
    eval x τ f.toExpr = argVal τ g.entityType q a d ∧
    (0 ≤ d ∧ d < (a.table.ndofs : Int) → safeE τ f.toExpr = true) ∧
    (∀ m, m ≠ a.table.name → m ≠ "iq" → m ≠ s → m ≠ "quadrature_permutation" →
      m ≠ "entity_local_index" → mentionsE m f.toExpr = false) := by
  unfold argFactor at h
  -- not a "zeros" table (the generator asserts)
  replace h := (ite_eq_of_ne h nofun).2
  by_cases hone : (a.table.ttype == "ones") = true
  · rw [if_pos hone] at h
    cases h
    refine ⟨?_, fun _ => rfl, fun m _ _ _ _ _ => rfl⟩
    simp [MSym.toExpr, eval, argVal, hone, Ring.intCast_one]
  · rw [if_neg hone] at h
    generalize hta : tableAccess a.table g.entityType a.restriction _ _ = X at h
    obtain _ | ⟨fe, ts⟩ := X <;> cases h
    exact tableAccess_sem x a.table g.entityType a.restriction s n nq fe tabs hta (by simpa using hone) τ q d
      hq hd hok

/-- The dof loop indices hold the values `ds` (argument order).  Names beyond the values are not
    constrained (`| _, [] => True`), so that all of `dofNames` can be passed whatever the rank; this is
    what sets it apart from `BoundAll`, which asks for equal lengths. -/
def Bound (τ : St R) : List String → List Int → Prop
  | nm :: nms, d :: ds => τ.iv.get nm = some d ∧ Bound τ nms ds
  | _, [] => True
  | [], _ :: _ => False

def argVals (σ : St R) (et : String) (q : Int) : List ArgDesc → List Int → List R
  | a :: as, d :: ds => argVal σ et q a d :: argVals σ et q as ds
  | _, _ => []

def aCoords : List ArgDesc → List Nat → List Int → List Int
  | a :: as, n :: ns, d :: ds => aCoord a n d :: aCoords as ns ds
  | _, _, _ => []

theorem dofIndex_noTF (t : TableRef) (nm : String) (h : t.factors = none) :
    dofIndex t nm = { syms := [nm], sizes := [t.ndofs] } := by
  simp [dofIndex, h]

theorem argFactors_sem (g : GroupDesc) (nq : Nat) (τ : St R) (q : Int)
    (hq : τ.iv.get "iq" = some q) (args : List ArgDesc) (names : List String) (ds : List Int)
    (facs : List MSym) (tabs : List String)
    (h : argFactors g { syms := ["iq"], sizes := [nq] } (args.zip (bIndices args names)) = .ok (facs, tabs))
    (hnf : ∀ a ∈ args, a.table.factors = none) (hn : args.length ≤ names.length)
    (hl : ds.length = args.length) (hb : Bound τ names ds)
    (hok : ∀ a ∈ args, ArgOk τ g.entityType q a) :
    evalPy x τ facs = argVals τ g.entityType q args ds ∧
    (InBox (args.map (·.table.ndofs)) ds → ∀ f ∈ facs, safeE τ f.toExpr = true) ∧
    (∀ m, (∀ a ∈ args, m ≠ a.table.name) → m ∉ names → m ≠ "iq" → m ≠ "quadrature_permutation" →
      m ≠ "entity_local_index" → ∀ f ∈ facs, mentionsE m f.toExpr = false) := by
  induction args generalizing names ds facs tabs with
  | nil =>
    cases h
    refine ⟨rfl, fun _ _ h => ?_, fun _ _ _ _ _ _ _ h => ?_⟩ <;> cases h
  | cons a as ih =>
    obtain _ | ⟨nm, nms⟩ := names
    · exact absurd hn (Nat.not_succ_le_zero _)
    obtain _ | ⟨d, ds⟩ := ds
    · cases hl
    obtain ⟨ha, hnf'⟩ := List.forall_mem_cons.1 hnf
    obtain ⟨hoka, hok'⟩ := List.forall_mem_cons.1 hok
    simp only [bIndices, dofIndex_noTF _ _ ha, List.zip_cons_cons, argFactors] at h
    generalize h1 : argFactor g { syms := ["iq"], sizes := [nq] } a
      { syms := [nm], sizes := [a.table.ndofs] } = X at h
    generalize h2 : argFactors g { syms := ["iq"], sizes := [nq] } (as.zip (bIndices as nms)) = Y at h
    obtain _ | ⟨f, ts⟩ := X
    · cases h
    obtain _ | ⟨fs, tss⟩ := Y
    · cases h
    cases h
    obtain ⟨h_1, h_2, h_3⟩ := argFactor_sem x g a nm a.table.ndofs nq f ts h1 τ q d hq hb.1 hoka
    obtain ⟨i_1, i_2, i_3⟩ := ih nms ds fs tss h2 hnf' (Nat.le_of_succ_le_succ hn) (Nat.succ.inj hl) hb.2 hok'
    refine ⟨by rw [evalPy, argVals, h_1, i_1], fun hin => List.forall_mem_cons.2 ⟨h_2 hin.1, i_2 hin.2⟩,
      fun m hm1 hm2 hm3 hm4 hm5 => ?_⟩
    obtain ⟨hma, hm1'⟩ := List.forall_mem_cons.1 hm1
    exact List.forall_mem_cons.2 ⟨h_3 m hma hm3 (fun e => hm2 (e ▸ List.mem_cons_self)) hm4 hm5,
      i_3 m hm1' (fun e => hm2 (List.mem_cons_of_mem _ e)) hm3 hm4 hm5⟩

omit [Field R] in
theorem aIndices_sem (τ : St R) (args : List ArgDesc) (names : List String) (lens : List Nat)
    (ds : List Int) (hnf : ∀ a ∈ args, a.table.factors = none) (hn : args.length ≤ names.length)
    (hl : ds.length = args.length) (hl2 : lens.length = args.length) (hb : Bound τ names ds) :
    evalIs τ.iv τ.ia (aIndices args (bIndices args names) lens) = some (aCoords args lens ds) ∧
    (∀ m, m ∉ names → ∀ e ∈ aIndices args (bIndices args names) lens, mentionsE m e = false) := by
  induction args generalizing names lens ds with
  | nil => exact ⟨rfl, fun _ _ _ h => nomatch h⟩
  | cons a as ih =>
    obtain _ | ⟨nm, nms⟩ := names
    · exact absurd hn (Nat.not_succ_le_zero _)
    obtain _ | ⟨n, ns⟩ := lens
    · cases hl2
    obtain _ | ⟨d, ds⟩ := ds
    · cases hl
    obtain ⟨ha, hnf'⟩ := List.forall_mem_cons.1 hnf
    obtain ⟨i_1, i_2⟩ := ih nms ns ds hnf' (Nat.le_of_succ_le_succ hn) (Nat.succ.inj hl) (Nat.succ.inj hl2) hb.2
    simp only [bIndices, dofIndex_noTF _ _ ha, aIndices, evalIs, aCoords,
      evalI_aIndex_of τ.iv τ.ia a _ n d (evalI_global_single τ.iv τ.ia nm a.table.ndofs d hb.1), i_1]
    exact ⟨rfl, fun m hm => List.forall_mem_cons.2
      ⟨mentions_aIndex_of m a _ n ((mentions_global_single ..).trans
          (beq_eq_false_iff_ne.mpr fun e => hm (e ▸ List.mem_cons_self))),
        i_2 m fun e => hm (List.mem_cons_of_mem _ e)⟩⟩

/-- what `genOneBlock` returns for a block of a full-tensor group -/
def BlockInv (g : GroupDesc) (b : BlockData) (o : BlockOut) : Prop :=
  o.bIdx = bIndices b.args dofNames ∧
  o.term.aIdx = aIndices b.args (bIndices b.args dofNames) g.bmLens ∧
  g.bmLens.length ≤ dofNames.length ∧
  ∃ facs tabs, argFactors g (quadIndex g.rule) (b.args.zip (bIndices b.args dofNames)) = .ok (facs, tabs) ∧
    o.term.rhs = (floatProductPy (.ex o.fw :: facs)).toExpr

theorem genOneBlock_inv (g : GroupDesc) (st st1 : GenState) (b : BlockData) (o : BlockOut)
    (hgen : genOneBlock g st b = .ok (o, st1)) (hdiag : g.diagonal = false)
    (hlen : b.args.length = g.bmLens.length) :
    BlockInv g b o ∧ o.fw = (fwOf g st b).1 ∧ st1 = (fwOf g st b).2.2 := by
  unfold genOneBlock at hgen
  simp only [← hlen, hdiag, Bool.false_and, Nat.lt_irrefl, decide_false, Bool.false_or,
    Bool.false_eq_true, if_false, List.take_length] at hgen
  -- the guards of `genOneBlock` that raise, in order: fewer dof index names than the rank (`hr`), …
  obtain ⟨hr, hgen⟩ := ite_eq_of_ne hgen nofun
  -- … a "zeros" table type, more than one factor component, no factor component, …
  replace hgen := (ite_eq_of_ne hgen nofun).2
  replace hgen := (ite_eq_of_ne hgen nofun).2
  replace hgen := (ite_eq_of_ne hgen nofun).2
  simp only [decide_eq_true_eq, Nat.not_lt] at hr
  generalize varOf (fwOf g st b).1 = X at hgen
  cases X with
  | error e => cases hgen
  | ok var =>
    -- … and a transposed block
    replace hgen := (ite_eq_of_ne hgen nofun).2
    generalize ha : argFactors g (quadIndex g.rule) (b.args.zip (bIndices b.args dofNames)) = Y at hgen
    cases Y with
    | error e => cases hgen
    | ok p =>
      cases hgen
      exact ⟨⟨rfl, rfl, by omega, p.1, p.2, ha, rfl⟩, rfl, rfl⟩

/-- **The blocks of a group, one by one.**  Whatever `genOneBlock` guarantees of a block and its output (`P`)
    holds of every pair; the `fw` expressions and the final cache are the ones `fwExprs` / `fwState` compute. -/
theorem genBlocks_all (g : GroupDesc) (P : BlockData → BlockOut → Prop) (bs : List BlockData)
    (st st' : GenState) (outs : List BlockOut) (h : genBlocks g st bs = .ok (outs, st'))
    (h1 : ∀ b ∈ bs, ∀ st0 st1 o, genOneBlock g st0 b = .ok (o, st1) →
      P b o ∧ o.fw = (fwOf g st0 b).1 ∧ st1 = (fwOf g st0 b).2.2) :
    outs.length = bs.length ∧ outs.map (·.fw) = fwExprs g st bs ∧ st' = fwState g st bs ∧
    ∀ p ∈ bs.zip outs, P p.1 p.2 := by
  induction bs generalizing st outs with
  | nil =>
    cases h
    exact ⟨rfl, rfl, rfl, fun _ h => nomatch h⟩
  | cons b bs ih =>
    simp only [genBlocks, bind] at h
    obtain ⟨⟨o, st1⟩, e1, h⟩ := bind_eq_ok.mp h
    obtain ⟨⟨os, st2⟩, e2, h⟩ := bind_eq_ok.mp h
    cases h
    obtain ⟨hP, hfw, rfl⟩ := h1 b List.mem_cons_self st st1 o e1
    obtain ⟨i1, i2, i3, i4⟩ := ih _ os e2 fun b' hb' => h1 b' (List.mem_cons_of_mem _ hb')
    exact ⟨congrArg (· + 1) i1, by rw [List.map_cons, fwExprs, hfw, i2], i3, List.forall_mem_cons.2 ⟨hP, i4⟩⟩

theorem mem_zip_of_mem_right {α β} (bs : List α) (os : List β) (o : β) (hl : os.length = bs.length)
    (h : o ∈ os) : ∃ b, (b, o) ∈ bs.zip os := by
  obtain ⟨i, hi, rfl⟩ := List.mem_iff_getElem.mp h
  have hz : i < (bs.zip os).length := by rw [List.length_zip, ← hl, Nat.min_self]; exact hi
  exact ⟨bs[i]'(hl ▸ hi), by rw [← List.getElem_zip (h := hz)]; exact List.getElem_mem hz⟩

theorem coversB_lens (args : List ArgDesc) (lens shape : List Nat) (h : coversB args lens shape = true) :
    lens.length = args.length ∧ shape.length = args.length ∧ args.map (·.table.ndofs) = lens := by
  fun_induction coversB args lens shape with
  | case1 a as n ns e es ih =>
    simp only [Bool.and_eq_true, beq_iff_eq] at h
    obtain ⟨h1, h2, h3⟩ := ih h.2
    simp [h1, h2, h3, h.1.1.1.1.1]
  | case2 => exact ⟨rfl, rfl, rfl⟩
  | case3 => cases h

theorem coversB_pos (args : List ArgDesc) (lens shape : List Nat) (h : coversB args lens shape = true) :
    ∀ n ∈ lens, 1 ≤ n := by
  fun_induction coversB args lens shape with
  | case1 a as n ns e es ih =>
    simp only [Bool.and_eq_true, decide_eq_true_eq] at h
    exact List.forall_mem_cons.2 ⟨h.1.1.2, ih h.2⟩
  | case2 => exact fun _ h => nomatch h
  | case3 => cases h

/-- dof indices inside the block give coordinates inside `A` -/
theorem coversB_inBox (args : List ArgDesc) (lens shape : List Nat) (ds : List Int)
    (h : coversB args lens shape = true) (hin : InBox (args.map (·.table.ndofs)) ds) :
    InBox shape (aCoords args lens ds) := by
  fun_induction coversB args lens shape generalizing ds with
  | case1 a as n ns e es ih =>
    obtain ⟨d, ds, rfl, ⟨hd0, hd1⟩, hin'⟩ := hin.cons_inv
    simp only [Bool.and_eq_true, beq_iff_eq, decide_eq_true_eq] at h
    obtain ⟨⟨⟨⟨⟨hn, ho⟩, hb⟩, _⟩, hc'⟩, hrest⟩ := h
    obtain ⟨dn, rfl⟩ := Int.eq_ofNat_of_zero_le hd0
    have hd1 : (dn : Int) < (a.table.ndofs : Int) := hd1
    exact ⟨aCoord_inrange a n e dn ho hb (by omega) hc', ih ds hrest hin'⟩
  | case2 =>
    obtain rfl := hin.nil_inv
    trivial
  | case3 => cases h

variable {A : String} {Pi Ps : String → Prop}

theorem argVal_congr {σ τ : St R} (hia : τ.ia = σ.ia) (et : String) (q : Int) (a : ArgDesc) (d : Int)
    (hsa : τ.sa.get a.table.name = σ.sa.get a.table.name) : argVal τ et q a d = argVal σ et q a d := by
  have h2 : (match entExpr et a.table a.restriction with | some e => subVal τ e | none => 0) =
      (match entExpr et a.table a.restriction with | some e => subVal σ e | none => 0) := by
    cases he : entExpr et a.table a.restriction with
    | none => rfl
    | some e => exact (entExpr_constSub he).subVal_eq hia
  simp only [argVal, readArr, hsa, (qpExpr_constSub a.table a.restriction).subVal_eq hia, h2]

omit [Field R] in
theorem ArgOk_congr {σ τ : St R} (hia : τ.ia = σ.ia) (et : String) (q : Int) (a : ArgDesc)
    (hsa : τ.sa.get a.table.name = σ.sa.get a.table.name) (hok : ArgOk σ et q a) : ArgOk τ et q a := by
  rcases hok with hok | ⟨e, vp, ve, arr, he, hvp, hve, harr, hfl⟩
  · exact Or.inl hok
  · refine Or.inr ⟨e, vp, ve, arr, he, ?_, ?_, hsa.trans harr, hfl⟩
    · rw [hia, (qpExpr_constSub _ _).evalI_iv τ.iv σ.iv]; exact hvp
    · rw [hia, (entExpr_constSub he).evalI_iv τ.iv σ.iv]; exact hve

theorem argVal_agree {σ τ : St R} (h : Agree A Pi Ps σ τ) (et : String) (q : Int) (a : ArgDesc)
    (d : Int) (hn : a.table.name ≠ A) : argVal τ et q a d = argVal σ et q a d :=
  argVal_congr h.ia et q a d (h.sa _ hn)

theorem argVals_agree {σ τ : St R} (h : Agree A Pi Ps σ τ) (et : String) (q : Int) :
    ∀ (args : List ArgDesc) (ds : List Int), (∀ a ∈ args, a.table.name ≠ A) →
      argVals τ et q args ds = argVals σ et q args ds
  | [], _, _ | _ :: _, [], _ => rfl
  | a :: as, d :: ds, hn => by
    rw [argVals, argVals, argVal_agree h et q a d (hn a List.mem_cons_self),
      argVals_agree h et q as ds fun b hb => hn b (List.mem_cons_of_mem _ hb)]

omit [Field R] in
theorem ArgOk_agree {σ τ : St R} (h : Agree A Pi Ps σ τ) (et : String) (q : Int) (a : ArgDesc)
    (hn : a.table.name ≠ A) (hok : ArgOk σ et q a) : ArgOk τ et q a :=
  ArgOk_congr h.ia et q a (h.sa _ hn) hok

/-- the accumulation term `(subscript of A, right-hand side)` of an emitted `Term` -/
def Term.aterm (aShape : List Nat) (t : Term) : ATerm := (mkMultiIndex (t.aIdx.map .ex) aShape, t.rhs)

theorem map_termStmt (aShape : List Nat) (ts : List Term) :
    ts.map (termStmt aShape) = (ts.map (Term.aterm aShape)).map (ATerm.stmt aName) := by
  rw [List.map_map]; rfl

/-- One term of an innermost statement list can be executed in `τ`: it does not mention `A`, its right-hand side is
    safe and has the value `v`, its subscript evaluates to an entry `k < N`.  `c` is the caller's own expression for
    that entry (`flatIdx aShape …`), equal to `some k`: it is kept apart from `k` so that the sum in `LeafAdds.cons`
    (`Lemmas/CodegenGroup`) reads `[c = some k']·v`, the summand of the closed forms, verbatim. -/
structure TermAdds (A : String) (N : Nat) (τ : St R) (t : ATerm) (c : Option Nat) (v : R) : Prop where
  noA : t.noA A = true
  safe : safeE τ t.2 = true
  entry : ∃ k : Nat, evalI τ.iv τ.ia t.1 = some (k : Int) ∧ k < N ∧ c = some k
  val : eval x τ t.2 = v

/-- **One term, one index tuple.** With `iq = q` and the dof indices bound to `ds` (in range), the
    subscript of `A` evaluates to the row-major flat index of `(block_size_r·d_r + offset_r)_r` — inside
    `prod A_shape` — and the right-hand side to `fw · Π_r table_r[…][q][d_r]`; both are well defined
    and neither mentions `A`. -/
theorem block_term_sem (hlaw : LawfulExtra x) (g : GroupDesc) (b : BlockData) (o : BlockOut)
    (hinv : BlockInv g b o) (hrule : g.rule.factors = none)
    (hnf : ∀ a ∈ b.args, a.table.factors = none)
    (hcov : coversB b.args g.bmLens g.aShape = true)
    (hnames : ∀ a ∈ b.args, a.table.name ≠ aName) (hfwA : mentionsE aName o.fw = false)
    (τ : St R) (q : Int) (ds : List Int) (hq : τ.iv.get "iq" = some q) (hb : Bound τ dofNames ds)
    (hin : InBox (b.args.map (·.table.ndofs)) ds)
    (hok : ∀ a ∈ b.args, ArgOk τ g.entityType q a) (hsfw : safeE τ o.fw = true) :
    TermAdds x aName (sizeProd g.aShape) τ (o.term.aterm g.aShape)
      (flatIdx g.aShape (aCoords b.args g.bmLens ds))
      (eval x τ o.fw * prodR (argVals τ g.entityType q b.args ds)) := by
  obtain ⟨_, haidx, hrank, facs, tabs, hfac, hrhs⟩ := hinv
  obtain ⟨hl1, hl2, hl3⟩ := coversB_lens _ _ _ hcov
  have hlen : b.args.length ≤ dofNames.length := by omega
  have hl : ds.length = b.args.length := by rw [hin.length, List.length_map]
  rw [quadIndex_noTF _ hrule] at hfac
  obtain ⟨f1, f2, f3⟩ := argFactors_sem x g g.rule.nweights τ q hq b.args dofNames ds facs tabs hfac
    hnf hlen hl hb hok
  obtain ⟨a1, a2⟩ := aIndices_sem τ b.args dofNames g.bmLens ds hnf hlen hl hl1 hb
  obtain ⟨c1, c2⟩ := inBox_iff_zip.mp (coversB_inBox _ _ _ ds hcov hin)
  rw [← haidx] at a1 a2
  obtain ⟨k, k1, k2, k3⟩ := evalI_mkMultiIndex τ.iv τ.ia o.term.aIdx g.aShape _ a1 c1 c2
  have hAd : aName ∉ dofNames := by decide
  have hfacA : ∀ f ∈ facs, mentionsE aName f.toExpr = false :=
    f3 aName (fun a ha => (hnames a ha).symm) hAd (by decide) (by decide) (by decide)
  refine ⟨?_, ?_, ⟨k, k1, k2, k3⟩, ?_⟩
  · simp only [ATerm.noA, Term.aterm, Bool.and_eq_true, Bool.not_eq_true']
    refine ⟨mentions_mkMultiIndex aName _ _ (a2 aName hAd), ?_⟩
    rw [hrhs]
    exact mentions_floatProductPy _ _ (List.forall_mem_cons.2 ⟨hfwA, hfacA⟩)
  · rw [Term.aterm, hrhs]
    exact safe_floatProductPy _ _ (List.forall_mem_cons.2 ⟨hsfw, f2 hin⟩)
  · rw [Term.aterm, hrhs, eval_floatProductPy hlaw]
    simp only [evalPy, prodR, MSym.toExpr, f1]

end Ffcx.Codegen
