/-
The FFCx-specific strings of FfcxModel/Jit/Naming.lean (option signature, integral tag, points key, identifiers),
on top of Lemmas/ReadBack.lean and Lemmas/PyRepr.lean. `strLe` is core's order on `List Char` and `sortItems` the
insertion sort of Lemmas/Sorted.lean, so `sorted(d.items())` is determined by the items of a dict with unique keys;
the strings are read back component by component.
-/
import FfcxProofs.Lemmas.PyRepr
import FfcxProofs.Lemmas.Sorted
import FfcxProofs.Lemmas.Basics

namespace Ffcx.Naming

variable {T : Flt → Prop}

theorem strLe_iff : ∀ {a b : Str}, strLe a b = true ↔ a ≤ b
  | [], _ => by simp [strLe]
  | _ :: _, [] => by simp [strLe]
  | a :: as, b :: bs => by
    have hlt : a < b ↔ a.toNat < b.toNat := Iff.rfl
    have heq : a = b ↔ a.toNat = b.toNat := Char.toNat_inj.symm
    rw [List.cons_le_cons_iff, ← strLe_iff, hlt, heq, strLe]
    by_cases h1 : a.toNat < b.toNat
    · simp only [h1, if_true, true_or]
    · by_cases h2 : b.toNat < a.toNat
      · simp only [h1, h2, if_false, if_true, false_or, Bool.false_eq_true, false_iff, not_and]
        omega
      · simp only [h1, h2, if_false, false_or, iff_and_self]
        omega

theorem strLe_refl : ∀ a : Str, strLe a a = true := fun a => strLe_iff.mpr (List.le_refl a)

section SortSec
variable {α : Type}

/-- The order `sorted` uses on items with distinct keys. -/
def itemLe (a b : Str × α) : Bool := strLe a.1 b.1

theorem itemLe_iff {a b : Str × α} : itemLe a b = true ↔ a.1 ≤ b.1 := strLe_iff

theorem insertItem_eq (x : Str × α) : ∀ l, insertItem x l = insertSorted itemLe x l
  | [] => rfl
  | y :: ys => by rw [insertItem, insertSorted, insertItem_eq x ys]; rfl

theorem sortItems_eq : ∀ l : List (Str × α), sortItems l = insertionSort itemLe l
  | [] => rfl
  | x :: xs => by rw [sortItems, insertionSort, sortItems_eq xs, insertItem_eq]

theorem sortItems_perm (l : List (Str × α)) : (sortItems l).Perm l :=
  sortItems_eq l ▸ insertionSort_perm itemLe l

/-- `sorted(d.items())` does not depend on the insertion order of a dict (keys are unique). -/
theorem sortItems_of_perm {l₁ l₂ : List (Str × α)} (hp : l₁.Perm l₂)
    (hn : (l₁.map (·.1)).Nodup) : sortItems l₁ = sortItems l₂ := by
  rw [sortItems_eq, sortItems_eq]
  have total : ∀ a b : Str × α, itemLe a b = true ∨ itemLe b a = true := fun a b =>
    (List.le_total a.1 b.1).imp itemLe_iff.mpr itemLe_iff.mpr
  have trans : ∀ {a b c : Str × α}, itemLe a b = true → itemLe b c = true → itemLe a c = true :=
    fun h1 h2 => itemLe_iff.mpr (List.le_trans (itemLe_iff.mp h1) (itemLe_iff.mp h2))
  exact insertionSort_of_perm total trans hp fun a ha b hb h1 h2 =>
    eq_of_key_eq hn ha hb (List.le_antisymm (itemLe_iff.mp h1) (itemLe_iff.mp h2))

end SortSec

theorem tupleOf_head (parts : List Str) (r : Str) : HeadIn (· = '(') (tupleOf parts ++ r) := by
  rw [tupleOf_eq]
  exact ⟨'(', _, rfl, rfl⟩

/-- `repr((key, value))` with a `str` key and a delimited value printer can be read back from the front of
any text. -/
theorem pairRepr_prefix {β : Type} {S : β → Prop} {g : β → Str} (hg : Delim S g) :
    PrefixCodeOn (fun kv : Str × β => S kv.2) (fun kv => tupleOf [reprStr kv.1, g kv.2]) := by
  intro x y r s hx hy h
  simp only [tupleOf_many, joinWith, List.cons_append, List.append_assoc, List.nil_append, List.cons.injEq,
    true_and] at h
  obtain ⟨h1, h2⟩ := reprStr_prefix.rest h
  obtain ⟨h3, -⟩ := hg.read hx hy ⟨')', _, rfl, .inr (.inl rfl)⟩ ⟨')', _, rfl, .inr (.inl rfl)⟩
    (List.cons.inj (List.cons.inj h2).2).2
  exact Prod.ext h1 h3

theorem itemRepr_delim (hF : FltInjOn T) : Delim (fun kv : Str × Scalar => kv.2.OK T) itemRepr where
  read := (pairRepr_prefix (reprScalar_delim hF)).readOn _
  head := fun kv r _ hs => by
    obtain ⟨c, rfl, hc⟩ := (tupleOf_head _ r).common hs
    exact absurd hc (by unfold IsStop; decide)

/-- `str(sorted(options.items()))`, followed by anything, determines the items. -/
theorem optionSignature_prefix (hF : FltInjOn T) (o₁ o₂ : Options) (r s : Str)
    (h₁ : ∀ kv ∈ o₁, kv.2.OK T) (h₂ : ∀ kv ∈ o₂, kv.2.OK T)
    (h : optionSignature o₁ ++ r = optionSignature o₂ ++ s) : o₁.Perm o₂ ∧ r = s := by
  obtain ⟨hs, hr⟩ := (itemRepr_delim hF).listOf.rest (a := sortItems o₁) (b := sortItems o₂)
    (fun kv hkv => h₁ kv ((sortItems_perm o₁).subset hkv))
    (fun kv hkv => h₂ kv ((sortItems_perm o₂).subset hkv)) h
  exact ⟨(sortItems_perm o₁).symm.trans (hs ▸ sortItems_perm o₂), hr⟩

theorem strBool_prefix (a b : Bool) (r s : Str)
    (h : strScalar (.bool a) ++ r = strScalar (.bool b) ++ s) : a = b ∧ r = s := by
  cases a <;> cases b
  · exact ⟨rfl, List.append_cancel_left h⟩
  · exact absurd (List.cons.inj h).1 (by decide)
  · exact absurd (List.cons.inj h).1 (by decide)
  · exact ⟨rfl, List.append_cancel_left h⟩

theorem integralTag_eq (p t : Str) (i : Int) (sub : List Scalar) :
    integralTag p t i sub = '(' :: (reprStr p ++ (cs! ", " ++ (reprStr t ++ (cs! ", " ++
      (reprInt i ++ (cs! ", " ++ (tupleOf (sub.map reprScalar) ++ [')']))))))) := by
  simp only [integralTag, tupleOf_many, joinWith, List.append_assoc]

/-- The integral tag is injective in `(prefix, integral_type, form_id, subdomain_id)`. -/
theorem integralTag_inj {p q t u : Str} {i j : Int} {a b : List Scalar}
    (ha : ∀ v ∈ a, v.Simple) (hb : ∀ v ∈ b, v.Simple)
    (h : integralTag p t i a = integralTag q u j b) : p = q ∧ t = u ∧ i = j ∧ a = b := by
  have comma : ∀ x : Str, StopHead (cs! ", " ++ x) := fun _ => ⟨',', _, rfl, .inl rfl⟩
  rw [integralTag_eq, integralTag_eq] at h
  obtain ⟨h1, h2⟩ := reprStr_prefix.rest (List.cons.inj h).2
  obtain ⟨h3, h4⟩ := reprStr_prefix.rest (List.append_cancel_left (as := cs! ", ") h2)
  obtain ⟨h5, h6⟩ := reprInt_delim.read trivial trivial (comma _) (comma _) (List.append_cancel_left (as := cs! ", ") h4)
  obtain ⟨h7, -⟩ := (reprScalar_delim fltInjOn_false).tupleOf.rest ha hb (List.append_cancel_left (as := cs! ", ") h6)
  exact ⟨h1, h3, h5, h7⟩

theorem isIdent_of_hex {c : Char} (h : isHexChar c = true) : isIdentChar c = true := by
  simp only [isHexChar, Bool.or_eq_true, Bool.and_eq_true, decide_eq_true_eq] at h
  simp only [isIdentChar, isLetter, Bool.or_eq_true, Bool.and_eq_true, decide_eq_true_eq]
  rcases h with h | h
  · exact Or.inl (Or.inr h)
  · exact Or.inl (Or.inl (Or.inl ⟨h.1, by omega⟩))

theorem all_ident_append {a b : Str} (ha : a.all isIdentChar = true) (hb : b.all isIdentChar = true) :
    (a ++ b).all isIdentChar = true := by
  simp [List.all_append, ha, hb]

theorem validIdent_append {a b : Str} (ha : validIdent a = true) (hb : b.all isIdentChar = true) :
    validIdent (a ++ b) = true := by
  cases a with
  | nil => simp [validIdent] at ha
  | cons c cs =>
    simp only [validIdent, Bool.and_eq_true] at ha
    simp only [List.cons_append, validIdent, Bool.and_eq_true]
    exact ⟨ha.1, all_ident_append ha.2 hb⟩

theorem validIdent_all {a : Str} (h : validIdent a = true) : a.all isIdentChar = true := by
  cases a with
  | nil => simp [validIdent] at h
  | cons c cs =>
    simp only [validIdent, Bool.and_eq_true] at h
    simp only [List.all_cons, Bool.and_eq_true]
    refine ⟨?_, h.2⟩
    have := h.1
    simp only [isIdentStart, Bool.or_eq_true] at this
    simp only [isIdentChar, Bool.or_eq_true]
    rcases this with h | h
    · exact Or.inl (Or.inl h)
    · exact Or.inr h

theorem mem_joinWith {sep : Str} {c : Char} : ∀ {parts : List Str}, c ∈ joinWith sep parts →
    (∃ p ∈ parts, c ∈ p) ∨ c ∈ sep
  | [], h => nomatch h
  | a :: rest, h => by
    rw [joinWith_cons] at h
    rcases List.mem_append.mp h with h | h
    · exact .inl ⟨a, List.mem_cons_self, h⟩
    obtain ⟨_, hl, hc⟩ := List.mem_flatten.mp h
    obtain ⟨p, hp, rfl⟩ := List.mem_map.mp hl
    exact (List.mem_append.mp hc).elim .inr fun hc => .inl ⟨p, List.mem_cons_of_mem _ hp, hc⟩

theorem not_semi_of_hex {c : Char} (h : isHexChar c = true) : c ≠ ';' := by
  rintro rfl; revert h; decide

theorem shapeRepr_no_semi (sh : List Nat) : ';' ∉ shapeRepr sh := by
  intro hm
  rw [shapeRepr, tupleOf_eq] at hm
  rcases List.mem_cons.mp hm with hm | hm
  · exact absurd hm (by decide)
  rcases List.mem_append.mp hm with hm | hm
  · rcases mem_joinWith hm with ⟨p, hp, hc⟩ | hc
    · obtain ⟨n, _, rfl⟩ := List.mem_map.mp hp
      exact (reprInt_chars hc).elim (fun h => absurd h (by decide)) (fun h => absurd h (by decide))
    · exact absurd hc (by decide)
  · split at hm <;> exact absurd hm (by decide)

section PointsKey
variable {B : Type} (digest : B → Str)

/-- Points the theorems speak about: the dtype string has no `(` and no `;`, the bytes belong to
the set `D` of explored inputs. -/
def Pts.OK (D : B → Prop) (p : Pts B) : Prop := '(' ∉ p.dtype ∧ ';' ∉ p.dtype ∧ D p.data

/-- The points key can be read back from the front of any text, provided the digest has fixed width
and is injective on the explored byte strings. (40 is the length of the hex SHA-1 the code uses; the proof needs
only that all digests have one length.) -/
theorem pointsKey_prefix {D : B → Prop} (hlen : ∀ b, (digest b).length = 40)
    (hinj : ∀ a b, D a → D b → digest a = digest b → a = b) :
    PrefixCodeOn (Pts.OK D) (pointsKey digest) := by
  intro p q r s hp hq h
  simp only [pointsKey, List.append_assoc] at h
  -- the dtype ends at the `(` of the shape
  have hd : p.dtype = q.dtype := by
    obtain ⟨_, t₁, e₁, rfl⟩ := tupleOf_head (p.shape.map fun n => reprInt (Int.ofNat n)) (digest p.data ++ r)
    obtain ⟨_, t₂, e₂, rfl⟩ := tupleOf_head (q.shape.map fun n => reprInt (Int.ofNat n)) (digest q.data ++ s)
    rw [shapeRepr, shapeRepr, e₁, e₂] at h
    exact (split_sep hp.1 hq.1 h).1
  rw [hd] at h
  obtain ⟨hs, h3⟩ := (reprInt_delim.comap fun _ _ => Int.ofNat.inj).tupleOf.rest (a := p.shape) (b := q.shape)
    (fun _ _ => trivial) (fun _ _ => trivial) (List.append_cancel_left h)
  obtain ⟨h4, -⟩ := List.append_inj h3 (by rw [hlen, hlen])
  have hdat := hinj _ _ hp.2.2 hq.2.2 h4
  cases p; cases q
  cases hd; cases hs; cases hdat
  rfl

theorem pointsKey_no_semi {D : B → Prop} (hhex : ∀ b, ∀ c ∈ digest b, isHexChar c = true)
    (p : Pts B) (hp : Pts.OK D p) : ';' ∉ pointsKey digest p := by
  intro hm
  unfold pointsKey at hm
  rcases List.mem_append.mp hm with hm | hm
  · rcases List.mem_append.mp hm with hm | hm
    · exact hp.2.1 hm
    · exact shapeRepr_no_semi _ hm
  · exact not_semi_of_hex (hhex _ _ hm) rfl

end PointsKey

end Ffcx.Naming
