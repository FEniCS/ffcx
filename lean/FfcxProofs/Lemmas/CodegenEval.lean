/-
Values of the expressions the block generators build from their parts — `float_product` with Python numbers,
`MultiIndex.global_index` of a one-symbol index, the folding operators with an integer literal, the coordinate
`block_size * index + offset` (`aCoord`), the multi-index of `A` as a row-major flat index — and that such an
expression is safe, resp. mentions a name, only if a part is.  (The value of `lRMul` with a literal is
`evalI_lRMul_lit` in `Lemmas/Index`.)
-/
import FfcxModel.Codegen.Block
import FfcxProofs.Lemmas.Fold
import FfcxProofs.Lemmas.Index
import FfcxProofs.Lemmas.AgreeOn

namespace Ffcx.Codegen
open Ffcx.LNodes Lean.Grind
attribute [local instance] Lean.Grind.Ring.intCast
variable {R : Type}

section
variable [Field R] {x : Extra R}

/-- values of a list of (Python number | expression) factors -/
def evalPy (x : Extra R) (σ : St R) : List MSym → List R
  | [] => []
  | f :: fs => eval x σ f.toExpr :: evalPy x σ fs

theorem evalL_map_toExpr (σ : St R) : ∀ fs : List MSym,
    evalL x σ (fs.map MSym.toExpr) = evalPy x σ fs
  | [] => rfl
  | f :: fs => by simp [evalL, evalPy, evalL_map_toExpr σ fs]

theorem prodR_filter_py (h : LawfulExtra x) (σ : St R) : ∀ fs : List MSym,
    prodR (evalPy x σ (fs.filter (fun f => match f with | .py _ => true | .ex e => !isOne e))) =
      prodR (evalPy x σ fs)
  | [] => rfl
  | f :: fs => by
    have ih := prodR_filter_py h σ fs
    cases f with
    | py n => simp [List.filter, evalPy, prodR, ih]
    | ex e =>
      by_cases he : isOne e = true
      · simp [List.filter, he, evalPy, prodR, ih, MSym.toExpr, eval_isOne h σ e he]; grind
      · simp [List.filter, he, evalPy, prodR, ih]

theorem eval_floatProductPy (h : LawfulExtra x) (σ : St R) (fs : List MSym) :
    eval x σ (floatProductPy fs).toExpr = prodR (evalPy x σ fs) := by
  unfold floatProductPy
  rw [← prodR_filter_py h σ fs]
  generalize fs.filter _ = l
  match l with
  | [] => simp [MSym.toExpr, eval, evalPy, prodR, h.ofRat_one]
  | [f] => simp [evalPy, prodR]; grind
  | a :: b :: r => simp only [MSym.toExpr]; rw [eval_prod, evalL_map_toExpr]

end

/-- `float_product` returns the literal one, one of its factors, or the `Product` of some of them -/
theorem floatProductPy_elim {P : Expr → Prop} (fs : List MSym) (h1 : P (.litF 1 0 false))
    (hf : ∀ f ∈ fs, P f.toExpr)
    (hp : ∀ l : List MSym, (∀ f ∈ l, f ∈ fs) → P (.prod (l.map MSym.toExpr))) :
    P (floatProductPy fs).toExpr := by
  unfold floatProductPy
  have hsub : ∀ f ∈ fs.filter (fun f => match f with | .py _ => true | .ex e => !isOne e), f ∈ fs :=
    fun f hf => (List.mem_filter.mp hf).1
  generalize fs.filter _ = l at hsub
  match l, hsub with
  | [], _ => exact h1
  | [f], hs => exact hf f (hs f List.mem_cons_self)
  | a :: b :: r, hs => exact hp _ hs

theorem safe_floatProductPy (σ : St R) (fs : List MSym)
    (hs : ∀ f ∈ fs, safeE σ f.toExpr = true) : safeE σ (floatProductPy fs).toExpr = true :=
  floatProductPy_elim (P := fun e => safeE σ e = true) fs rfl hs fun l hl => by
    rw [safeE]
    exact safeL_eq_true_iff.2 (List.forall_mem_map.mpr fun f hf => hs f (hl f hf))

theorem mentions_floatProductPy (m : String) (fs : List MSym)
    (hs : ∀ f ∈ fs, mentionsE m f.toExpr = false) : mentionsE m (floatProductPy fs).toExpr = false :=
  floatProductPy_elim (P := fun e => mentionsE m e = false) fs rfl hs fun l hl => by
    rw [mentionsE]
    exact mentionsL_eq_false_iff.2 (List.forall_mem_map.mpr fun f hf => hs f (hl f hf))

/-- `MultiIndex([Symbol(s)], [n]).global_index` is `Sum([s])` and evaluates to the value of `s` -/
theorem evalI_global_single (iv : AList Int) (ia : AList (Array Int)) (s : String) (n : Nat) (v : Int)
    (h : iv.get s = some v) : evalI iv ia (MIx.global { syms := [s], sizes := [n] }) = some v := by
  simp [MIx.global, miGlobal, strides, miTerms, miTerm, lRMul, isZero, isOne, isym, evalI,
    evalI.evalISum, h]

theorem mentions_global_single (m s : String) (n : Nat) :
    mentionsE m (MIx.global { syms := [s], sizes := [n] }) = (s == m) := by
  simp [MIx.global, miGlobal, strides, miTerms, miTerm, lRMul, isZero, isOne, isym, mentionsE,
    mentionsL]

theorem evalI_lAdd_lit (iv ia) (a : Expr) (c va : Int) (h : evalI iv ia a = some va) :
    evalI iv ia (lAdd a (.litI c)) = some (va + c) := by
  refine lAdd_elim (P := fun e => evalI iv ia e = some (va + c)) a (.litI c) ?_ ?_ ?_ ?_
  · intro hz; rw [evalI_isZero iv ia a va hz h, Int.zero_add]; rfl
  · intro hz; rw [h, (isZero_litI c).mp hz, Int.add_zero]
  · intro _ hc; cases hc
  · simp only [evalI, h]; rfl

theorem mentions_lAdd_lit (m : String) (a : Expr) (c : Int) (h : mentionsE m a = false) :
    mentionsE m (lAdd a (.litI c)) = false :=
  lAdd_elim (P := fun e => mentionsE m e = false) a (.litI c) (fun _ => rfl) (fun _ => h)
    (fun _ hc => nomatch hc) (by simp only [mentionsE, h, Bool.or_false])

theorem mentions_lRMul_lit (m : String) (a : Expr) (c : Int) (h : mentionsE m a = false) :
    mentionsE m (lRMul a (.litI c)) = false :=
  lRMul_elim (P := fun e => mentionsE m e = false) a (.litI c) (fun _ => h) (fun _ => rfl)
    (fun _ => rfl) (fun _ => h) (fun _ => h) (fun _ => rfl) (by simp only [mentionsE, h, Bool.or_false])

theorem evalI_lMul_lit (iv ia) (s : Expr) (c v : Int) (h : evalI iv ia s = some v) :
    evalI iv ia (lMul s (.litI c)) = some (v * c) := by
  refine lMul_elim (P := fun e => evalI iv ia e = some (v * c)) s (.litI c) ?_ ?_ ?_ ?_ ?_ ?_ ?_ ?_
  · intro hz; rw [h, evalI_isZero iv ia s v hz h, Int.zero_mul]
  · intro hz; rw [(isZero_litI c).mp hz, Int.mul_zero]; rfl
  · intro hz; rw [evalI_isOne iv ia s v hz h, Int.one_mul]; rfl
  · intro hz; rw [h, (isOne_litI c).mp hz, Int.mul_one]
  · intro hz; rw [(isNegOne_litI c).mp hz, Int.mul_neg_one]; simp only [evalI, h, Option.map_some]
  · intro hz; rw [evalI_isNegOne iv ia s v hz h, Int.neg_one_mul]; rfl
  · intro u w hs hc; cases hc; subst hs; cases h; rfl
  · simp only [evalI, h]; rfl

theorem evalI_lRAdd_lit (iv ia) (s : Expr) (c v : Int) (h : evalI iv ia s = some v) :
    evalI iv ia (lRAdd s (.litI c)) = some (c + v) := by
  refine lRAdd_elim (P := fun e => evalI iv ia e = some (c + v)) s (.litI c) ?_ ?_ ?_ ?_
  · intro hz; rw [evalI_isZero iv ia s v hz h, Int.add_zero]; rfl
  · intro hz; rw [h, (isZero_litI c).mp hz, Int.zero_add]
  · intro d hs
    subst hs
    simp only [evalI, Option.map_eq_some_iff] at h
    obtain ⟨w, hw, rfl⟩ := h
    simp only [evalI, hw]
    exact congrArg some (Int.sub_eq_add_neg ..)
  · simp only [evalI, h]; rfl

theorem mentions_lMul (m : String) (a b : Expr) (ha : mentionsE m a = false) (hb : mentionsE m b = false) :
    mentionsE m (lMul a b) = false :=
  lMul_elim (P := fun e => mentionsE m e = false) a b (fun _ => ha) (fun _ => hb) (fun _ => hb)
    (fun _ => ha) (fun _ => ha) (fun _ => hb) (fun _ _ _ _ => rfl)
    (by simp only [mentionsE, ha, hb, Bool.or_false])

theorem mentions_lRAdd_lit (m : String) (a : Expr) (c : Int) (h : mentionsE m a = false) :
    mentionsE m (lRAdd a (.litI c)) = false :=
  lRAdd_elim (P := fun e => mentionsE m e = false) a (.litI c) (fun _ => rfl) (fun _ => h)
    (fun d hd => by subst hd; simpa only [mentionsE, Bool.false_or] using h)
    (by simp only [mentionsE, h, Bool.or_false])

theorem safe_lMul (σ : St R) (a b : Expr) (ha : safeE σ a = true) (hb : safeE σ b = true) :
    safeE σ (lMul a b) = true :=
  lMul_elim (P := fun e => safeE σ e = true) a b (fun _ => ha) (fun _ => hb) (fun _ => hb)
    (fun _ => ha) (fun _ => by rw [safeE]; exact ha) (fun _ => by rw [safeE]; exact hb)
    (fun _ _ _ _ => rfl) (by simp only [safeE, ha, hb, Bool.and_self])

/-- the coordinate `block_size * d + offset` (`d + offset` for a one-dof block) -/
def aCoord (a : ArgDesc) (len : Nat) (d : Int) : Int :=
  if len == 1 then d + a.table.offset else a.table.blockSize * d + a.table.offset

/-- a coordinate stays inside an extent that holds the coordinate of the last dof -/
theorem aCoord_inrange (a : ArgDesc) (n e dn : Nat) (ho : 0 ≤ a.table.offset) (hb : 0 ≤ a.table.blockSize)
    (hdn : dn < n) (hc : a.table.blockSize * ((n : Int) - 1) + a.table.offset < (e : Int)) :
    0 ≤ aCoord a n dn ∧ aCoord a n dn < (e : Int) := by
  unfold aCoord
  split
  · rename_i h1
    obtain rfl : n = 1 := by simpa using h1
    omega
  · have hmul : a.table.blockSize * (dn : Int) ≤ a.table.blockSize * ((n : Int) - 1) :=
      Int.mul_le_mul_of_nonneg_left (by omega) hb
    have hnn : 0 ≤ a.table.blockSize * (dn : Int) := Int.mul_nonneg hb (by omega)
    omega

theorem evalI_aIndex_of (iv ia) (a : ArgDesc) (ix : MIx) (len : Nat) (gv : Int)
    (hg : evalI iv ia ix.global = some gv) :
    evalI iv ia (aIndex a ix len) = some (aCoord a len gv) := by
  unfold aIndex aCoord
  split
  · exact evalI_lAdd_lit iv ia _ _ _ hg
  · exact evalI_lAdd_lit iv ia _ _ _ (evalI_lRMul_lit iv ia _ _ _ hg)

theorem mentions_aIndex_of (m : String) (a : ArgDesc) (ix : MIx) (len : Nat)
    (hg : mentionsE m ix.global = false) : mentionsE m (aIndex a ix len) = false := by
  unfold aIndex
  split
  · exact mentions_lAdd_lit m _ _ hg
  · exact mentions_lAdd_lit m _ _ (mentions_lRMul_lit m _ _ hg)

theorem flatIdx_some_of_inrange (ds : List Nat) (is : List Int) (hl : is.length = ds.length)
    (hr : ∀ p ∈ List.zip ds is, 0 ≤ p.2 ∧ p.2 < (p.1 : Int)) : ∃ k, flatIdx ds is = some k := by
  induction ds generalizing is with
  | nil =>
    obtain _ | ⟨_, _⟩ := is
    · exact ⟨0, rfl⟩
    · cases hl
  | cons d ds ih =>
    obtain _ | ⟨i, is⟩ := is
    · cases hl
    obtain ⟨r, hr'⟩ := ih is (Nat.succ.inj hl) fun p hp => hr p (List.mem_cons_of_mem _ hp)
    have h0 : 0 ≤ i ∧ i < (d : Int) := hr (d, i) List.mem_cons_self
    exact ⟨i.toNat * ds.foldr (· * ·) 1 + r, by rw [flatIdx, if_pos h0, hr']⟩

/-- the value of `MultiIndex(indices, A_shape).global_index` is the row-major flat index, inside
    `prod A_shape` -/
theorem evalI_mkMultiIndex (iv ia) (es : List Expr) (shape : List Nat) (vals : List Int)
    (hv : evalIs iv ia es = some vals) (hl : vals.length = shape.length)
    (hr : ∀ p ∈ List.zip shape vals, 0 ≤ p.2 ∧ p.2 < (p.1 : Int)) :
    ∃ k : Nat, evalI iv ia (mkMultiIndex (es.map .ex) shape) = some (k : Int) ∧ k < sizeProd shape ∧
      flatIdx shape vals = some k := by
  obtain ⟨k, hk⟩ := flatIdx_some_of_inrange shape vals hl hr
  refine ⟨k, ?_, flatIdx_lt shape vals k hk, hk⟩
  have hmap : evalIs iv ia ((es.map MSym.ex).map MSym.toExpr) = some vals := by
    simpa [List.map_map, Function.comp_def, MSym.toExpr] using hv
  simp only [mkMultiIndex, evalI]
  unfold miGlobal
  split
  · rename_i he
    have : shape = [] := by simpa using he
    subst this
    cases vals with
    | nil => simp [flatIdx] at hk; subst hk; simp [evalI]
    | cons _ _ => simp at hl
  · simp only [evalI, evalISum_miTerms iv ia (strides shape) (es.map .ex) vals hmap,
      flatIdx_dot shape vals k hk]

theorem mentions_miTerms (m : String) : ∀ (ns : List Nat) (l : List Expr),
    (∀ e ∈ l, mentionsE m e = false) → mentionsL m (miTerms ns (l.map .ex)) = false
  | [], [], _ | [], _ :: _, _ | _ :: _, [], _ => rfl
  | n :: ns, e :: l, hl => by
    rw [List.map_cons, miTerms, mentionsL, miTerm, mentions_lRMul_lit m e n (hl e List.mem_cons_self),
      mentions_miTerms m ns l fun e' he' => hl e' (List.mem_cons_of_mem _ he')]
    rfl

theorem mentions_mkMultiIndex (m : String) (es : List Expr) (shape : List Nat)
    (h : ∀ e ∈ es, mentionsE m e = false) : mentionsE m (mkMultiIndex (es.map .ex) shape) = false := by
  have h1 : mentionsL m ((es.map MSym.ex).map MSym.toExpr) = false := by
    rw [List.map_map]
    exact mentionsL_eq_false_iff.2 (List.forall_mem_map.mpr h)
  rw [mkMultiIndex, mentionsE, h1, Bool.false_or, miGlobal]
  split
  · rfl
  · exact mentions_miTerms m _ es h

end Ffcx.Codegen
