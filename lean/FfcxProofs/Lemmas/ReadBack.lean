/-
Reading a printer's output back from the front of a text; nothing here knows of Python's printers or of FFCx
beyond `Str`, `joinWith`, `tupleOf`, `listOf` of FfcxModel/Jit/Naming.lean.

Everything rests on `ReadOn S F f`: what `f` printed for an argument in `S` can be read back from the front of a
text whose rest is in `F`, and the rest with it (`a = b ∧ r = s`). `PrefixCodeOn S f` is the case of an arbitrary
rest (`ReadOn S (fun _ => True) f`), `PrefixCode f` that of arbitrary arguments as well
(`PrefixCodeOn (fun _ => True) f`; `reprStr` is the one printer that is read back that way). These two conclude
`a = b` only: `.rest` adds `r = s` by cancellation, `.readOn` and `.on` lead from the stronger notion to the weaker.
-/
import FfcxModel.Jit.Naming

namespace Ffcx.Naming

theorem joinWith_cons_cons (sep a b : Str) (rest : List Str) :
    joinWith sep (a :: b :: rest) = a ++ sep ++ joinWith sep (b :: rest) := rfl

theorem joinWith_cons (sep a : Str) : ∀ rest : List Str,
    joinWith sep (a :: rest) = a ++ (rest.map (sep ++ ·)).flatten
  | [] => (List.append_nil a).symm
  | b :: rest => by
    rw [joinWith_cons_cons, joinWith_cons sep b rest, List.map_cons, List.flatten_cons,
      List.append_assoc, List.append_assoc]

/-- A printer is a *prefix code* if what it printed can be read back from the front of a text,
whatever follows. -/
def PrefixCode {α : Type} (f : α → Str) : Prop :=
  ∀ a b r s, f a ++ r = f b ++ s → a = b

theorem PrefixCode.injective {α : Type} {f : α → Str} (h : PrefixCode f) {a b} (e : f a = f b) :
    a = b := h a b [] [] (congrArg (· ++ []) e)

def PrefixCodeOn {α : Type} (S : α → Prop) (f : α → Str) : Prop :=
  ∀ a b r s, S a → S b → f a ++ r = f b ++ s → a = b

theorem PrefixCodeOn.rest {α : Type} {S : α → Prop} {f : α → Str} (h : PrefixCodeOn S f) {a b r s}
    (ha : S a) (hb : S b) (e : f a ++ r = f b ++ s) : a = b ∧ r = s := by
  have := h a b r s ha hb e
  subst this
  exact ⟨rfl, List.append_cancel_left e⟩

theorem PrefixCodeOn.inj {α : Type} {S : α → Prop} {f : α → Str} (h : PrefixCodeOn S f) {a b}
    (ha : S a) (hb : S b) (e : f a = f b) : a = b := h a b [] [] ha hb (congrArg (· ++ []) e)

theorem PrefixCode.on {α : Type} {f : α → Str} (h : PrefixCode f) (S : α → Prop) : PrefixCodeOn S f :=
  fun a b r s _ _ e => h a b r s e

theorem PrefixCode.rest {α : Type} {f : α → Str} (h : PrefixCode f) {a b r s}
    (e : f a ++ r = f b ++ s) : a = b ∧ r = s := (h.on fun _ => True).rest trivial trivial e

variable {α : Type} {S : α → Prop} {F E : Str → Prop} {f : α → Str}

def ReadOn {α : Type} (S : α → Prop) (F : Str → Prop) (f : α → Str) : Prop :=
  ∀ ⦃a b r s⦄, S a → S b → F r → F s → f a ++ r = f b ++ s → a = b ∧ r = s

theorem PrefixCodeOn.readOn (h : PrefixCodeOn S f)
    (F : Str → Prop) : ReadOn S F f := fun _ _ _ _ ha hb _ _ e => h.rest ha hb e

/-- A run of items, each readable when an item or an end (`E`) follows, is readable when an end
follows, provided no end can be taken for the start of an item. -/
theorem ReadOn.flatten (hf : ReadOn S F f)
    (hE : ∀ t, E t → F t) (hF : ∀ a t, F (f a ++ t)) (hne : ∀ a r t, S a → E t → f a ++ r ≠ t) :
    ∀ ⦃xs ys : List α⦄ ⦃r s : Str⦄, (∀ x ∈ xs, S x) → (∀ y ∈ ys, S y) → E r → E s →
      (xs.map f).flatten ++ r = (ys.map f).flatten ++ s → xs = ys ∧ r = s := by
  have tail : ∀ (zs : List α) (t : Str), E t → F ((zs.map f).flatten ++ t)
    | [], t, ht => hE t ht
    | z :: zs, t, _ => by rw [List.map_cons, List.flatten_cons, List.append_assoc]; exact hF z _
  intro xs
  induction xs with
  | nil =>
    intro ys r s _ hy hr _ h
    cases ys with
    | nil => exact ⟨rfl, h⟩
    | cons y ys =>
      rw [List.map_cons, List.flatten_cons, List.append_assoc] at h
      exact absurd h.symm (hne y _ r (hy y List.mem_cons_self) hr)
  | cons x xs ih =>
    intro ys r s hx hy hr hs h
    rw [List.map_cons, List.flatten_cons, List.append_assoc] at h
    cases ys with
    | nil => exact absurd h (hne x _ s (hx x List.mem_cons_self) hs)
    | cons y ys =>
      rw [List.map_cons, List.flatten_cons, List.append_assoc] at h
      rw [List.forall_mem_cons] at hx hy
      obtain ⟨rfl, h₁⟩ := hf hx.1 hy.1 (tail xs r hr) (tail ys s hs) h
      obtain ⟨rfl, h₂⟩ := ih hx.2 hy.2 hr hs h₁
      exact ⟨rfl, h₂⟩

theorem PrefixCodeOn.flatten_inj (hf : PrefixCodeOn S f)
    (hne : ∀ a, S a → f a ≠ []) {xs ys : List α} (hx : ∀ x ∈ xs, S x) (hy : ∀ y ∈ ys, S y)
    (h : (xs.map f).flatten = (ys.map f).flatten) : xs = ys :=
  ((hf.readOn _).flatten (E := (· = [])) (fun _ _ => trivial) (fun _ _ => trivial)
    (fun a _ _ ha ht e => hne a ha (List.append_eq_nil_iff.mp (e.trans ht)).1)
    hx hy rfl rfl (congrArg (· ++ []) h)).1

theorem ne_nil_of_length {x : Str} {n : Nat} (hn : 0 < n) (h : x.length = n) : x ≠ [] :=
  List.ne_nil_of_length_pos (h ▸ hn)

theorem fixed_prefix (n : Nat) : PrefixCodeOn (fun x : Str => x.length = n) id :=
  fun _ _ _ _ ha hb h => (List.append_inj h (ha.trans hb.symm)).1

theorem PrefixCodeOn.fixed_append {β : Type} {S : β → Prop} {g : β → Str} (hg : PrefixCodeOn S g) (n : Nat) :
    PrefixCodeOn (fun e : Str × β => e.1.length = n ∧ S e.2) (fun e => e.1 ++ g e.2) := by
  intro a b r s ha hb h
  rw [List.append_assoc, List.append_assoc] at h
  obtain ⟨h1, h2⟩ := List.append_inj h (ha.1.trans hb.1.symm)
  exact Prod.ext h1 (hg.rest ha.2 hb.2 h2).1

def HeadIn (p : Char → Prop) (r : Str) : Prop := ∃ c t, r = c :: t ∧ p c

theorem HeadIn.append {p : Char → Prop} {l : Str} (h : HeadIn p l) (r : Str) : HeadIn p (l ++ r) := by
  obtain ⟨c, t, rfl, hc⟩ := h
  exact ⟨c, t ++ r, rfl, hc⟩

theorem HeadIn.of_all {p : Char → Prop} {l : Str} (hne : l ≠ []) (h : ∀ c ∈ l, p c) : HeadIn p l := by
  obtain ⟨c, t, rfl⟩ := List.exists_cons_of_ne_nil hne
  exact ⟨c, t, rfl, h c List.mem_cons_self⟩

theorem HeadIn.mono {p q : Char → Prop} {l : Str} (h : HeadIn p l) (hpq : ∀ c, p c → q c) : HeadIn q l := by
  obtain ⟨c, t, e, hc⟩ := h
  exact ⟨c, t, e, hpq c hc⟩

/-- A text has one first character. -/
theorem HeadIn.common {p q : Char → Prop} {l : Str} (hp : HeadIn p l) (hq : HeadIn q l) :
    ∃ c, p c ∧ q c := by
  obtain ⟨c, t, rfl, hc⟩ := hp
  obtain ⟨d, u, e, hd⟩ := hq
  exact ⟨c, hc, (List.cons.inj e).1 ▸ hd⟩

/-- A run of `body` characters ends where the first other character stands. -/
theorem token_inj {body : Char → Prop} {u v r s : Str} (hu : ∀ c ∈ u, body c) (hv : ∀ c ∈ v, body c)
    (hr : HeadIn (¬ body ·) r) (hs : HeadIn (¬ body ·) s) (h : u ++ r = v ++ s) : u = v ∧ r = s := by
  have one : ReadOn body (fun _ => True) (fun c : Char => [c]) := fun _ _ _ _ _ _ _ _ e => List.cons.inj e
  have run : ∀ l : Str, (l.map fun c => [c]).flatten = l := List.flatMap_singleton'
  exact one.flatten (E := HeadIn (¬ body ·)) (fun _ _ => trivial) (fun _ _ => trivial)
    (fun c _ _ hc ⟨_, _, e, hd⟩ e' => hd ((List.cons.inj (e'.trans e)).1 ▸ hc)) hu hv hr hs (by rwa [run, run])

theorem split_sep {sep : Char} {x y r s : Str} (hx : sep ∉ x) (hy : sep ∉ y)
    (h : x ++ sep :: r = y ++ sep :: s) : x = y ∧ r = s := by
  obtain ⟨h1, h2⟩ := token_inj (body := (· ≠ sep)) (fun c hc e => hx (e ▸ hc)) (fun c hc e => hy (e ▸ hc))
    ⟨sep, r, rfl, fun h => h rfl⟩ ⟨sep, s, rfl, fun h => h rfl⟩ h
  exact ⟨h1, (List.cons.inj h2).2⟩

theorem joinWith_snoc_cons (sep a : Str) (xs : List Str) (z : Str) :
    joinWith sep (a :: (xs ++ [z])) = a ++ sep ++ joinWith sep (xs ++ [z]) := by
  cases xs <;> rfl

theorem joinWith_inj {sep : Char} {xs ys : List Str} {a b : Str} (hl : xs.length = ys.length)
    (hx : ∀ x ∈ xs, sep ∉ x) (hy : ∀ y ∈ ys, sep ∉ y)
    (h : joinWith [sep] (xs ++ [a]) = joinWith [sep] (ys ++ [b])) : xs = ys ∧ a = b := by
  induction xs generalizing ys with
  | nil =>
    cases ys with
    | nil => exact ⟨rfl, h⟩
    | cons y ys => cases hl
  | cons x xs ih =>
    cases ys with
    | nil => cases hl
    | cons y ys =>
      rw [List.cons_append, List.cons_append, joinWith_snoc_cons, joinWith_snoc_cons,
        List.append_assoc, List.append_assoc] at h
      rw [List.forall_mem_cons] at hx hy
      obtain ⟨h1, h2⟩ := split_sep hx.1 hy.1 h
      obtain ⟨h3, h4⟩ := ih (Nat.succ.inj hl) hx.2 hy.2 h2
      exact ⟨by rw [h1, h3], h4⟩

/-- Characters that can follow a printed component inside a tuple / list. -/
def IsStop (c : Char) : Prop := c = ',' ∨ c = ')' ∨ c = ']'

abbrev StopHead : Str → Prop := HeadIn IsStop

/-- A printer of tuple / list components: on arguments in `S` its output can be read back when a stop
character follows, and does not itself start with one. -/
structure Delim {α : Type} (S : α → Prop) (f : α → Str) : Prop where
  read : ReadOn S StopHead f
  head : ∀ a r, S a → ¬ StopHead (f a ++ r)

theorem Delim.comap {β : Type} {g : β → α} (hf : Delim S f) (hg : ∀ a b, g a = g b → a = b) :
    Delim (fun b => S (g b)) (fun b => f (g b)) where
  read := fun _ _ _ _ ha hb hr hs h => (hf.read ha hb hr hs h).imp_left (hg _ _)
  head := fun b => hf.head (g b)

/-- What may stand behind the last component: the closing bracket, or `,)` in a one-element tuple. -/
def IsClose (t : Str) : Prop := HeadIn (fun c => c = ')' ∨ c = ']') t ∨ ∃ u, t = ',' :: ')' :: u

theorem IsClose.stopHead {t : Str} : IsClose t → StopHead t
  | .inl ⟨c, u, e, hc⟩ => ⟨c, u, e, .inr hc⟩
  | .inr ⟨_, e⟩ => ⟨',', _, e, .inl rfl⟩

/-- `", ".join(map f xs)` can be read back when a closing bracket follows. -/
theorem Delim.joined (hf : Delim S f) :
    ∀ ⦃xs ys : List α⦄ ⦃r s : Str⦄, (∀ x ∈ xs, S x) → (∀ y ∈ ys, S y) → IsClose r → IsClose s →
      joinWith (cs! ", ") (xs.map f) ++ r = joinWith (cs! ", ") (ys.map f) ++ s → xs = ys ∧ r = s := by
  -- behind a `", "` in front, a non-empty join is a run of components each behind `", "`, then the end
  have hg : ReadOn S StopHead (fun a => cs! ", " ++ f a) := fun _ _ _ _ ha hb hr hs e =>
    hf.read ha hb hr hs (List.append_cancel_left (by simpa only [List.append_assoc] using e))
  have hne : ∀ a r t, S a → IsClose t → (cs! ", " ++ f a) ++ r ≠ t := by
    rintro a r t - (⟨c, u, rfl, hc⟩ | ⟨u, rfl⟩) e
    · rw [← (List.cons.inj e).1] at hc; revert hc; decide
    · cases (List.cons.inj (List.cons.inj e).2).1
  have run := hg.flatten (fun _ => IsClose.stopHead) (fun _ _ => ⟨',', _, rfl, .inl rfl⟩) hne
  intro xs ys r s hx hy hr hs h
  cases xs with
  | nil =>
    cases ys with
    | nil => exact ⟨rfl, h⟩
    | cons y ys =>
      rw [List.map_cons, joinWith_cons, List.append_assoc] at h
      exact absurd ((show r = _ from h) ▸ hr.stopHead) (hf.head y _ (hy y List.mem_cons_self))
  | cons x xs =>
    cases ys with
    | nil =>
      rw [List.map_cons, joinWith_cons, List.append_assoc] at h
      exact absurd ((show _ = s from h) ▸ hs.stopHead) (hf.head x _ (hx x List.mem_cons_self))
    | cons y ys =>
      have h' := congrArg (cs! ", " ++ ·) h
      simp only [List.map_cons, joinWith_cons, List.map_map, List.append_assoc] at h'
      refine run hx hy hr hs ?_
      simp only [List.map_cons, List.flatten_cons, List.append_assoc]
      exact h'

theorem Delim.listOf (hf : Delim S f) :
    PrefixCodeOn (fun xs : List α => ∀ x ∈ xs, S x) (fun xs => listOf (xs.map f)) := by
  intro xs ys r s hx hy h
  -- `Naming.listOf`: inside a theorem of this name the bare `listOf` is the theorem itself
  simp only [Naming.listOf, List.cons_append, List.append_assoc, List.nil_append, List.cons.injEq, true_and] at h
  exact (hf.joined hx hy (.inl ⟨_, _, rfl, .inr rfl⟩) (.inl ⟨_, _, rfl, .inr rfl⟩) h).1

theorem tupleOf_nil : tupleOf [] = cs! "()" := rfl
theorem tupleOf_single (a : Str) : tupleOf [a] = '(' :: (a ++ cs! ",)") := rfl
theorem tupleOf_many (a b : Str) (rest : List Str) :
    tupleOf (a :: b :: rest) = '(' :: (joinWith (cs! ", ") (a :: b :: rest) ++ [')']) := rfl

theorem tupleOf_eq : ∀ parts : List Str, tupleOf parts =
    '(' :: (joinWith (cs! ", ") parts ++ if parts.length = 1 then cs! ",)" else [')'])
  | [] | [_] | _ :: _ :: _ => rfl

theorem Delim.tupleOf (hf : Delim S f) :
    PrefixCodeOn (fun xs : List α => ∀ x ∈ xs, S x) (fun xs => tupleOf (xs.map f)) := by
  intro xs ys r s hx hy h
  have close : ∀ (n : Nat) (t : Str), IsClose ((if n = 1 then cs! ",)" else [')']) ++ t) := by
    intro n t
    split
    · exact .inr ⟨t, rfl⟩
    · exact .inl ⟨_, _, rfl, .inl rfl⟩
  simp only [tupleOf_eq, List.cons_append, List.append_assoc, List.cons.injEq, true_and] at h
  exact (hf.joined hx hy (close _ r) (close _ s) h).1

end Ffcx.Naming
