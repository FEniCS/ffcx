/-
C16 — numba, no token fusion for expressions: the pieces of every well-formed expression are
separated for the Python lexer (`pySeparated_pieces`); dotted names (`psp_dotted`, `lex_np`); the
expression lexer on separated lists (`lexPyExpr_render`).
-/
import FfcxProofs.Lemmas.FormatPySep
namespace Ffcx.LNodes.Fmt

theorem pyTokOK_num_ofList {cs : List Char} (h : pyNumShape cs = true) : pyTokOK (.num (String.ofList cs)) = true := by
  simp [pyTokOK, String.toList_ofList, h]

/-- pieces of a signed number text whose magnitude text is `reprPart (absR x) ++ sfx` -/
theorem psp_part (x : Rat) (sfx : List Char) (hs : pyNumShape (reprPart (absR x) ++ sfx) = true) :
    PSP (numPieces (reprPart x ++ sfx)) :=
  pyLaws.signed (f := fun x => reprPart x ++ sfx) (nx := -x)
    (fun hx => by rw [reprPart_neg hx, ← reprPart_pos (by grind)]; rfl)
    (pyTokOK_num_ofList hs) (pyNumShape_head hs)

theorem validIdentPy_tokOK {s : String} (h : validIdentPy s = true) : pyTokOK (.id s) = true := by
  simp only [validIdentPy, Bool.and_eq_true] at h
  -- a `tokOK (.id s) = true`, which is the same term as the goal (see `tokOK_id`)
  exact validIdent_tokOK h.1

theorem psp_complex {re im : Rat} (hre : re = 0 ∨ pyNumShape (reprPart (absR re)) = true)
    (him : pyNumShape (reprPart (absR im) ++ ['j']) = true) : PSP (pyComplexPieces re im) := by
  have hI := psp_part im ['j'] him
  unfold pyComplexPieces
  by_cases h0 : re = 0
  · rw [if_pos h0]; exact hI
  · have hR : PSP (numPieces (reprPart re)) := by
      simpa using psp_part re [] (by simpa using hre.resolve_left h0)
    rw [if_neg h0]
    by_cases hi : im < 0
    · -- the imaginary part starts with `-` and no `+` is printed: the real part meets that `-`
      rw [if_pos hi]
      refine pyLaws.paren (sepd_app3 pyEqs hR hI rfl (fun x y _ hy => by cases hy) (fun x y hx => by cases hx) ?_)
      intro _ x y hx hy
      rw [reprPart_neg hi] at hy
      cases (show some (Tok.p .minus) = some y from hy)
      exact pySepTok_last hx (c := '-') (cs := []) rfl rfl
    · rw [if_neg hi]
      refine pyLaws.paren (sepd_app3 pyEqs hR hI rfl ?_ ?_ (fun h => by cases h))
      · intro x y hx hy; cases hy; exact pyLaws.before_closer hx (by decide)
      · intro x y hx hy; cases hx; exact pySepTok_pend_first '+' (by decide +kernel) (by decide) (by decide) hy

theorem psp_not {ps} (h : PSP ps) :
    PSP ([pp .lpar, .t (.id "not"), sp, pp .lpar] ++ ps ++ [pp .rpar, pp .rpar]) := by
  have := pyLaws.paren (sepd_app3 pyEqs (m := [sp]) (pyLaws.single (t := .id "not") (by decide +kernel) ⟨_, Or.inl rfl⟩) (pyLaws.paren h) rfl
    (fun x y _ hy => by cases hy) (fun x y hx => by cases hx) (fun h => by cases h))
  simpa using this

theorem pyTokOK_opTok (op : BinOp) : pyTokOK (pyOpTok op) = true := by cases op <;> decide +kernel

theorem piecesNaryPy_eq_map (p : Nat) (args : List Expr) :
    piecesNaryPy p args = args.map fun a => parenIf (decide (precF a ≥ p)) (piecesPy a) := by
  induction args with
  | nil => simp [piecesNaryPy]
  | cons a as ih => simp [piecesNaryPy, ih]

theorem piecesListPy_eq_map (args : List Expr) : piecesListPy args = args.map piecesPy := by
  induction args with
  | nil => simp [piecesListPy]
  | cons a as ih => simp [piecesListPy, ih]

theorem psp_nary (o : P) (ho : pyPunctOK o = true) (p : Nat) {args : List Expr} (hne : args ≠ [])
    (hall : ∀ x ∈ args, PSP (piecesPy x)) : PSP (joinP [sp, pp o, sp] (piecesNaryPy p args)) := by
  rw [piecesNaryPy_eq_map]
  exact pyLaws.join_op ho (mt List.map_eq_nil_iff.1 hne)
    (List.forall_mem_map.2 fun a ha => pyLaws.parenIf _ (hall a ha))

theorem psp_args {args : List Expr} (hne : args ≠ []) (hall : ∀ x ∈ args, PSP (piecesPy x)) :
    PSP (joinP [pp .comma, sp] (piecesListPy args)) := by
  rw [piecesListPy_eq_map]
  exact pyLaws.join_comma (mt List.map_eq_nil_iff.1 hne) (List.forall_mem_map.2 hall)

/-- a dotted name; only names may touch a `.`, so the invariant here is "begins and ends with a name" -/
theorem psp_dotted {parts : List String} (hne : parts ≠ []) (hall : ∀ s ∈ parts, pyTokOK (.id s) = true) :
    PSP (dotted parts) := by
  let N : Tok → Bool := fun t => match t with | .id s => pyTokOK (.id s) | _ => false
  have hN {t} (h : N t = true) : ∃ s, t = .id s ∧ pyTokOK (.id s) = true := by
    cases t with
    | id s => exact ⟨s, rfl, h⟩
    | _ => cases h
  have hA {t} (h : N t = true) : pyIsFirst t = true ∧ pyIsLast t = true := by
    obtain ⟨s, rfl, hs⟩ := hN h
    exact pyLaws.atom hs ⟨s, Or.inl rfl⟩
  refine Sepd.mono (F := N) (L := N) ?_ id (fun h => (hA h).1) fun h => (hA h).2
  refine sepd_join pyEqs (sepr := [pp .dot]) rfl (List.cons_ne_nil _ _) ?_ ?_ _
      (mt List.map_eq_nil_iff.1 hne) (List.forall_mem_map.2 fun s hs => ?_)
  · intro x y hx hy
    cases hy
    obtain ⟨s, rfl, hs⟩ := hN hx
    exact pySepTok_id_dot hs
  · intro x y hx hy
    cases hx
    obtain ⟨s, rfl, hs⟩ := hN hy
    exact pySepTok_dot_id hs
  · exact ⟨pyEqs.single (hall s hs), ⟨_, rfl, hall s hs⟩, ⟨_, rfl, hall s hs⟩⟩

/-- the pieces of a well-formed call: one of the four dotted callables, then the arguments -/
theorem piecesPy_call (f dt args) (hid : pyTokOK (.id (pyMathName f)) = true)
    (herf : pyMathName f ≠ "erf" ∨ args.length = 1) :
    ∃ hd, hd ≠ [] ∧ (∀ s ∈ hd, pyTokOK (.id s) = true) ∧ piecesPy (.call f dt args) =
      dotted hd ++ [pp .lpar] ++ joinP [pp .comma, sp] (piecesListPy args) ++ [pp .rpar] := by
  simp only [piecesPy]
  by_cases h1 : containsL "bessel_y".toList (pyMathName f).toList = true
  · rw [if_pos h1]; exact ⟨_, List.cons_ne_nil _ _, by decide +kernel, rfl⟩
  · rw [if_neg h1]
    by_cases h2 : containsL "bessel_j".toList (pyMathName f).toList = true
    · rw [if_pos h2]; exact ⟨_, List.cons_ne_nil _ _, by decide +kernel, rfl⟩
    · rw [if_neg h2]
      by_cases h3 : pyMathName f = "erf"
      · rw [if_pos h3]
        match args, herf.resolve_left (not_not_intro h3) with
        | [a], _ => exact ⟨_, List.cons_ne_nil _ _, by decide +kernel, rfl⟩
      · rw [if_neg h3]
        exact ⟨["np", pyMathName f], List.cons_ne_nil _ _,
          List.forall_mem_cons.2 ⟨by decide +kernel, List.forall_mem_cons.2 ⟨hid, fun _ h => nomatch h⟩⟩, rfl⟩

theorem psp_call {hd : List Piece} (hD : PSP hd) {args : List Expr} (hall : ∀ x ∈ args, PSP (piecesPy x)) :
    PSP (hd ++ [pp .lpar] ++ joinP [pp .comma, sp] (piecesListPy args) ++ [pp .rpar]) := by
  by_cases hne : args = []
  · -- `head()`
    subst hne
    obtain ⟨fD, hfD, hfD'⟩ := hD.first
    refine ⟨?_, ⟨fD, ?_, hfD'⟩, ⟨.p .rpar, lastP_append_cons _ _ _, rfl⟩⟩
    · rw [List.append_assoc, List.append_assoc]
      refine pyEqs.append hD.sep (by decide +kernel) fun x y hx hy => ?_
      cases hy
      exact pyLaws.before_closer (hD.last_of hx) (by decide)
    · rw [List.append_assoc, List.append_assoc, firstP_append _ hD.ne_nil]; exact hfD
  · refine pyLaws.snoc (Or.inl rfl) (sepd_app3 pyEqs hD (psp_args hne hall) (by decide +kernel) ?_ ?_ (fun h => by cases h))
    · intro x y hx hy; cases hy; exact pyLaws.before_closer hx (by decide)
    · intro x y hx hy; cases hx; exact pyLaws.after_open (Or.inl rfl) (pyIsFirst_ok hy)

mutual
theorem psp_pieces : ∀ e : Expr, wfPy e = true → PSP (piecesPy e)
  | .litF re im false, h =>
    have h := (Bool.and_eq_true_iff.1 h).1
    pyLaws.signed (f := reprFloat) (nx := -re) reprFloat_neg (pyTokOK_num_ofList h) (pyNumShape_head h)
  | .litF re im true, h => by
    simp only [wfPy, pyLitShapeOK, Bool.and_eq_true, Bool.or_eq_true, decide_eq_true_eq] at h
    exact psp_complex h.1 h.2
  | .litI v, h => pyLaws.signed fmtInt_neg (pyTokOK_num_ofList h) (pyNumShape_head h)
  | .sym n dt, h => pyLaws.single (validIdentPy_tokOK h) ⟨n, Or.inl rfl⟩
  | .mi s z gi, h => psp_pieces gi (Bool.and_eq_true_iff.1 h).2
  | .neg a, h => pyLaws.cons rfl (pyLaws.parenIf _ (psp_pieces a h)) fun _ hF _ =>
    pySepTok_pend_first '-' (by decide +kernel) (by decide) (by decide) hF
  | .not a, h => psp_not (psp_pieces a h)
  | .bin op a b, h => by
    have h := Bool.and_eq_true_iff.1 h
    simpa [piecesPy, pyOpPieces_eq, pyParen] using pyLaws.mid_ws (pyTokOK_opTok op)
      (pyLaws.parenIf (pyParen op a) (psp_pieces a h.1)) (pyLaws.parenIf (pyParen op b) (psp_pieces b h.2))
  | .sum args, h =>
    have h := Bool.and_eq_true_iff.1 h
    psp_nary .plus rfl 5 (ne_nil_of_not_isEmpty h.1) (psp_piecesL args h.2)
  | .prod args, h =>
    have h := Bool.and_eq_true_iff.1 h
    psp_nary .star rfl 4 (ne_nil_of_not_isEmpty h.1) (psp_piecesL args h.2)
  | .call f dt args, h => by
    simp only [wfPy, Bool.and_eq_true, Bool.or_eq_true, bne_iff_ne, ne_eq, beq_iff_eq] at h
    obtain ⟨hd, hne, hok, e⟩ := piecesPy_call f dt args (validIdentPy_tokOK h.1.1) h.1.2
    rw [e]
    exact psp_call (psp_dotted hne hok) (psp_piecesL args h.2)
  | .idx arr dt ix, h =>
    have h := Bool.and_eq_true_iff.1 h
    have h1 := Bool.and_eq_true_iff.1 h.1
    pyLaws.snoc (Or.inr rfl) (pyLaws.head (validIdentPy_tokOK h1.1) (Or.inr rfl)
      (psp_args (ne_nil_of_not_isEmpty h1.2) (psp_piecesL ix h.2)))
  | .cond c t f, h =>
    have h := Bool.and_eq_true_iff.1 h
    have h1 := Bool.and_eq_true_iff.1 h.1
    pyLaws.paren (pyLaws.mid_ws (t := .id "else") (by decide +kernel)
      (pyLaws.mid_ws (t := .id "if") (by decide +kernel) (pyLaws.parenIf _ (psp_pieces t h1.2))
        (pyLaws.parenIf _ (psp_pieces c h1.1))) (pyLaws.parenIf _ (psp_pieces f h.2)))
theorem psp_piecesL : ∀ l : List Expr, wfLPy l = true → ∀ x ∈ l, PSP (piecesPy x)
  | [], _, _, hx => nomatch hx
  | a :: as, h, x, hx => by
    have h := Bool.and_eq_true_iff.1 h
    rcases List.mem_cons.1 hx with e | hx
    · exact e ▸ psp_pieces a h.1
    · exact psp_piecesL as h.2 x hx
end

/-- the hypothesis of `lexPyExpr_render` for every well-formed expression (`no_token_fusion_py`) -/
theorem pySeparated_pieces (e : Expr) (hwf : wfPy e = true) : pySeparated (piecesPy e) = true :=
  (psp_pieces e hwf).sep

theorem pyJoin_id : ∀ (ts : List Tok) (d : Nat) (s : Bool), (∀ t ∈ ts, t ≠ .newline) → pyJoin d s ts = ts
  | [], _, _, _ => rfl
  | t :: ts, d, s, h => by
    have hr := fun d' s' => pyJoin_id ts d' s' (fun x hx => h x (List.mem_cons_of_mem _ hx))
    unfold pyJoin
    split
    · exact absurd rfl (h _ (List.mem_cons_self ..))
    -- every other token is kept, whatever it does to the bracket depth
    all_goals rw [hr]

/-- the four dtype names of the numba formatter are `np.` and an identifier (each by evaluation) -/
theorem pyTypeName_dotted {sc : Scalar} {dt : DType} {ty : String} (h : pyTypeName sc dt = some ty) :
    ∃ b, ty = "np" ++ "." ++ b ∧ pyTokOK (.id b) = true := by
  have e : "np" ++ "." = "np." := by decide +kernel
  have hs : ∀ s : Scalar, pyTokOK (.id s.name) = true := fun s => by cases s <;> decide +kernel
  rw [e]
  cases dt <;> cases h
  · exact ⟨_, rfl, hs _⟩
  · exact ⟨_, rfl, hs _⟩
  · exact ⟨"int32", by decide +kernel, by decide +kernel⟩
  · exact ⟨"bool_", by decide +kernel, by decide +kernel⟩

theorem psp_np {b : String} (hb : pyTokOK (.id b) = true) : PSP [.t (.id "np"), pp .dot, .t (.id b)] :=
  psp_dotted (parts := ["np", b]) (List.cons_ne_nil _ _)
    (List.forall_mem_cons.2 ⟨by decide +kernel, List.forall_mem_cons.2 ⟨hb, nofun⟩⟩)

/-- name, dot, name never fuse -/
theorem lex_np {b : String} (hb : pyTokOK (.id b) = true) :
    lexPyFlat ("np" ++ "." ++ b).toList = [.id "np", .p .dot, .id b] := by
  simpa [render, toks, pp, Tok.text, P.text, String.toList_append] using lex_render_py _ (psp_np hb).sep

/-- the expression lexer `lexPyExpr` (the flat lexer, then implicit line joining) on a pySeparated
    piece list: there is no NEWLINE token to join over -/
theorem lexPyExpr_render (ps : List Piece) (hs : pySeparated ps = true) : lexPyExpr (render ps) = toks ps := by
  rw [lexPyExpr, lex_render_py _ hs]
  refine pyJoin_id _ 0 true fun t ht hn => ?_
  have := pyEqs.toks_ok _ hs t ht
  rw [hn] at this
  exact absurd this (by decide)

end Ffcx.LNodes.Fmt
