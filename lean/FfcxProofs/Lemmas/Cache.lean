/-
Helper lemmas for C14/C15, about the cache protocol of `FfcxModel/Jit/Cache.lean`. Everything rests on
one inductive invariant `Inv` of the whole system, kept by every step of every request under every
fail/kill choice: per request `Loc` (what its control state knows of the directory and of its globals),
for the directory `GInv`, and counting facts that tie the ghost counters to the lock epochs. The effect
of a step on the directory is a function `fsAfter` of its observable; termination is a fuel argument
(a request scheduled `timeout + 16` times has terminated); failure-free runs have `InvNF` on top.
-/
import FfcxModel.Jit.Cache
import FfcxProofs.Lemmas.Basics

namespace Ffcx.Jit

def userG : Glob := ⟨.user, .user⟩
def capG : Glob := ⟨.capture, .capture⟩

/-- File-system invariant: the marker certifies a complete build, with the lock in place; a temp
file of the marker only exists inside a lock epoch. -/
def GInv (fs : FS) : Prop :=
  (fs.marker = true → fs.so = .complete ∧ fs.lock = .source ∧ fs.obj = true) ∧
  (fs.tmp = true → fs.lock ≠ .absent)

/-- What is known about a request that left `_compile_objects` by an exception: its globals are
restored, and the exception is not a `FileExistsError` (marker or temp file already there). -/
def FailG (g : Glob) (c : Cause) : Prop :=
  g = userG ∧ c ≠ .marker ∧ c ≠ .tmpExists

/-- What a builder between `ffibuilder.compile` and the publication of the marker knows. -/
def Built (fs : FS) (p : Proc) : Prop :=
  p.g = ⟨.capture, .user⟩ ∧ p.saved = userG ∧ fs.lock = .source ∧ fs.obj = true ∧ fs.so = .complete

def LocPc (timeout : Nat) (fs : FS) (p : Proc) : Prop :=
  match p.pc with
  | .idle => p.g = userG ∧ p.polls = 0
  | .wPoll i => i < timeout ∧ p.polls = i ∧ p.g = userG
  | .wFind => fs.marker = true ∧ p.g = userG
  | .wLoad => fs.marker = true ∧ p.g = userG
  | .bGen => p.g = userG
  | .bSwap => p.g = userG
  | .bSrc => p.g = capG ∧ p.saved = userG
  | .bObj => p.g = capG ∧ p.saved = userG ∧ fs.lock = .source
  | .bLink1 => p.g = capG ∧ p.saved = userG ∧ fs.lock = .source ∧ fs.obj = true
  | .bLink2 => p.g = capG ∧ p.saved = userG ∧ fs.lock = .source ∧ fs.obj = true
  | .bUnredir => p.g = capG ∧ p.saved = userG ∧ fs.lock = .source ∧ fs.obj = true ∧ fs.so = .complete
  | .bTmpCreate => Built fs p
  | .bTmpWrite => Built fs p
  | .bMarkCheck => Built fs p
  | .bPublish => Built fs p
  | .bTmpRemove c => p.g = ⟨.capture, .user⟩ ∧ p.saved = userG ∧ c ≠ .marker ∧ c ≠ .tmpExists
  | .bRestore => p.g = ⟨.capture, .user⟩ ∧ p.saved = userG ∧ fs.marker = true
  | .bFind => fs.marker = true ∧ p.g = userG
  | .bLoad => fs.marker = true ∧ p.g = userG
  | .bFailRestore c => p.g = ⟨.capture, .user⟩ ∧ p.saved = userG ∧ c ≠ .marker ∧ c ≠ .tmpExists
  | .bFail c => FailG p.g c
  | .done _ so => so = .complete ∧ p.tok = fs.gen ∧ fs.marker = true ∧ p.g = userG
  | .raised .timeout => p.polls = timeout ∧ p.g = userG
  | .raised .notFound => False
  | .raised (.build c) => FailG p.g c
  | .dead => True

/-- Per-process invariant: a request inside a lock epoch sees its lock file; before it has published,
there is no marker; outside the marker segment it has left no temp file; and `LocPc`. -/
def Loc (timeout : Nat) (fs : FS) (p : Proc) : Prop :=
  (p.pc.isB = true → fs.lock ≠ .absent) ∧ (p.pc.isPre = true → fs.marker = false) ∧
  (p.pc.noTmp = true → fs.tmp = false) ∧ LocPc timeout fs p

section
variable {t : Nat} {fs : FS} {p : Proc}

theorem Loc.lockHeld (h : Loc t fs p) (hb : p.pc.isB = true) : fs.lock ≠ .absent := h.1 hb

theorem Loc.noMarker (h : Loc t fs p) (hb : p.pc.isPre = true) : fs.marker = false := h.2.1 hb

theorem Loc.noTmp (h : Loc t fs p) (hb : p.pc.noTmp = true) : fs.tmp = false := h.2.2.1 hb

theorem Loc.pc (h : Loc t fs p) : LocPc t fs p := h.2.2.2

theorem Loc.wPoll (h : Loc t fs p) {i : Nat} (hpc : p.pc = .wPoll i) :
    i < t ∧ p.polls = i ∧ p.g = userG := by
  simpa only [LocPc, hpc] using h.pc

theorem Loc.timedOut (h : Loc t fs p) (hpc : p.pc = .raised .timeout) : p.polls = t ∧ p.g = userG := by
  simpa only [LocPc, hpc] using h.pc

theorem Loc.publish (h : Loc t fs p) (hpc : p.pc = .bPublish) : Built fs p := by
  simpa only [LocPc, hpc] using h.pc

theorem Loc.find (h : Loc t fs p) (hpc : p.pc = .bFind) : fs.marker = true ∧ p.g = userG := by
  simpa only [LocPc, hpc] using h.pc

theorem Loc.failRestore (h : Loc t fs p) {c : Cause} (hpc : p.pc = .bFailRestore c) :
    p.g = ⟨.capture, .user⟩ ∧ p.saved = userG := by
  have := h.pc
  simp only [LocPc, hpc] at this
  exact ⟨this.1, this.2.1⟩

/-- The cause of a failed build is never a `FileExistsError`. -/
theorem Loc.cause (h : Loc t fs p) {c : Cause}
    (hpc : p.pc = .bTmpRemove c ∨ p.pc = .bFailRestore c ∨ p.pc = .bFail c ∨ p.pc = .raised (.build c)) :
    c ≠ .marker ∧ c ≠ .tmpExists := by
  have := h.pc
  rcases hpc with hpc | hpc | hpc | hpc <;> simp only [LocPc, FailG, hpc] at this
  iterate 2 exact this.2.2
  iterate 2 exact this.2

theorem Loc.found (h : Loc t fs p) : p.pc ≠ .raised .notFound :=
  fun hpc => by simpa only [LocPc, hpc] using h.pc

theorem Loc.done (h : Loc t fs p) {b : Bool} {so : So}
    (hpc : p.pc = .done b so) : so = .complete ∧ p.tok = fs.gen ∧ fs.marker = true ∧ p.g = userG := by
  simpa only [LocPc, hpc] using h.pc

end

/-! How the sets of control states hang together (those of the model are `terminal`, `isB`, `isPre`, `noTmp`, `isCompile`, `isLoad`):
`isB = isPre ∪ {bRestore, bFind, bLoad}`; `isPre = preC ∪ postC ∪ (faulty ∩ isB)`; `postC = preL ∪ postL`;
`isCompile = preC ∪ preL ∪ {bLink2}`; `isBB = isB ∪ isBuilt`. -/

theorem isCompile_isPre {pc : Pc} (h : pc.isCompile = true) : pc.isPre = true := by
  cases pc <;> simp_all [Pc.isCompile, Pc.isPre]

/-- Lock acquired, `ffibuilder.compile` not yet invoked. -/
def Pc.preC : Pc → Bool
  | .bGen | .bSwap | .bSrc => true
  | _ => false

theorem preC_isB {pc : Pc} (h : pc.preC = true) : pc.isB = true := by
  cases pc <;> simp_all [Pc.preC, Pc.isB]

/-- `ffibuilder.compile` has been entered (source phase done), the marker not yet created. -/
def Pc.postC : Pc → Bool
  | .bObj | .bLink1 | .bLink2 | .bUnredir | .bTmpCreate | .bTmpWrite | .bMarkCheck | .bPublish => true
  | _ => false

/-- The linker has re-created the `.so`, the marker not yet created. -/
def Pc.postL : Pc → Bool
  | .bLink2 | .bUnredir | .bTmpCreate | .bTmpWrite | .bMarkCheck | .bPublish => true
  | _ => false

/-- Inside `ffibuilder.compile`, before the linker starts. -/
def Pc.preL : Pc → Bool
  | .bObj | .bLink1 => true
  | _ => false

theorem preL_isB {pc : Pc} (h : pc.preL = true) : pc.isB = true := by
  cases pc <;> simp_all [Pc.preL, Pc.isB]

/-- Control states that are only reached through a `fail` or `kill` choice. -/
def Pc.faulty : Pc → Bool
  | .bTmpRemove _ | .bFailRestore _ | .bFail _ | .raised (.build _) | .dead => true
  | _ => false

/-- The request has returned from a build of its own. -/
def Pc.isBuilt : Pc → Bool
  | .done true _ => true
  | _ => false

/-- The request is, or (having returned) was, a builder. -/
def Pc.isBB (pc : Pc) : Bool := pc.isB || pc.isBuilt

/-- Counting facts about one request relative to the ghost counters `nCompile` and `fs.gen`. Third
clause: inside `ffibuilder.compile` before the linker starts, the request's own compile is counted, its
link not yet; this keeps `Inv.genle` when `link1` raises `gen`. -/
def Cnt (nC gen : Nat) (pc : Pc) : Prop :=
  (pc.postC = true → 1 ≤ nC) ∧ (pc.postL = true → 1 ≤ gen) ∧ (pc.preL = true → gen + 1 ≤ nC)

theorem Cnt_mono {nC gen nC' : Nat} {pc : Pc} (h : Cnt nC gen pc) (hn : nC ≤ nC') : Cnt nC' gen pc :=
  ⟨fun a => Nat.le_trans (h.1 a) hn, h.2.1, fun a => Nat.le_trans (h.2.2 a) hn⟩

section Step
variable {t : Nat} {fs fs' : FS} {p p' : Proc} {c : Choice} {o : Obs}

@[elab_as_elim]
theorem stepProc_elim {motive : FS → Proc → Obs → Prop} (e : stepProc t fs p c = (fs', p', o))
    (again : p.pc.terminal = true → c = .again → p.pc ≠ .dead →
      motive fs { p with pc := .idle, polls := 0 } ⟨.again, .unit⟩)
    (stay : p.pc.terminal = true → motive fs p ⟨.none, .unit⟩)
    (kill : p.pc.terminal = false → c = .kill → motive fs { p with pc := .dead } ⟨.kill, .unit⟩)
    (live : p.pc.terminal = false → c ≠ .kill →
      motive (stepLive t fs p c p.pc).1 (stepLive t fs p c p.pc).2.1 (stepLive t fs p c p.pc).2.2) :
    motive fs' p' o := by
  have h : motive (stepProc t fs p c).1 (stepProc t fs p c).2.1 (stepProc t fs p c).2.2 := by
    unfold stepProc
    split
    · split
      · exact again ‹_› ‹_ ∧ _›.1 ‹_ ∧ _›.2
      · exact stay ‹_›
    · have ht := Bool.eq_false_iff.2 ‹_›
      split
      · exact kill ht ‹_›
      · exact live ht ‹_›
  rwa [e] at h

theorem stepProc_live (ht : p.pc.terminal = false) (hc : c ≠ .kill) :
    stepProc t fs p c = stepLive t fs p c p.pc := by
  simp [stepProc, ht, hc]

theorem Proc.markRaises_pc (p : Proc) (fs : FS) (c : Cause) :
    (p.markRaises fs c).pc = .bTmpRemove c ∨ (p.markRaises fs c).pc = .bFailRestore c := by
  unfold Proc.markRaises; cases fs.tmp <;> simp

/-- What an observable does to the cache directory, file by file. -/
def fsAfter (fs : FS) (o : Obs) : FS where
  lock := if o = ⟨.lock, .ok⟩ then .empty else if o = ⟨.src, .ok⟩ then .source
    else if o = ⟨.release, .ok⟩ then .absent else fs.lock
  so := if o = ⟨.link1, .ok⟩ then .part else if o = ⟨.link2, .ok⟩ then .complete else fs.so
  obj := o = ⟨.obj, .ok⟩ || fs.obj
  marker := o = ⟨.publish, .ok⟩ || fs.marker
  failed := o = ⟨.release, .ok⟩ || fs.failed
  tmp := o = ⟨.tmpCreate, .ok⟩ || (o ≠ ⟨.publish, .ok⟩ && o ≠ ⟨.tmpRemove, .ok⟩ && fs.tmp)
  gen := fs.gen + if o = ⟨.link1, .ok⟩ then 1 else 0

theorem stepProc_fs (e : stepProc t fs p c = (fs', p', o)) : fs' = fsAfter fs o := by
  refine stepProc_elim e (fun _ _ _ => rfl) (fun _ => rfl) (fun _ _ => rfl) fun _ _ => ?_
  generalize p.pc = pc
  fun_cases stepLive t fs p c pc <;> rfl

/-- Which request can produce the observable `o`, and what the directory looked like. The only `.ok`
result of a request outside a lock epoch is the successful exclusive create. `src` is keyed on the
operation alone because `Sys.nCompile` counts every invocation of `ffibuilder.compile`, also one
that raises in its first phase (`⟨.src, .raise⟩`). -/
structure ObsFrom (fs : FS) (p : Proc) (o : Obs) : Prop where
  lock : o = ⟨.lock, .ok⟩ → p.pc = .idle ∧ fs.lock = .absent
  src : o.op = .src → p.pc = .bSrc
  link1 : o = ⟨.link1, .ok⟩ → p.pc = .bLink1
  publish : o = ⟨.publish, .ok⟩ → p.pc = .bPublish
  release : o = ⟨.release, .ok⟩ → p.pc.isB = true ∧ fs.lock ≠ .absent
  load : o.op = .load → p.pc.isLoad = true ∧ o.res = .so fs.so
  nonB : p.pc.isB = false → o.res = .ok → o = ⟨.lock, .ok⟩

theorem stepProc_obs (e : stepProc t fs p c = (fs', p', o)) : ObsFrom fs p o := by
  refine stepProc_elim e ?_ ?_ ?_ fun ht hk => ?_
  iterate 3 intros; constructor <;> simp
  clear e ht hk
  generalize hpc : p.pc = pc
  fun_cases stepLive t fs p c pc <;> constructor <;> simp [*, Pc.isB, Pc.isLoad]

/-- Nobody ever deletes the marker. -/
theorem stepProc_marker_mono (e : stepProc t fs p c = (fs', p', o)) (h : fs.marker = true) :
    fs'.marker = true := by
  rw [stepProc_fs e]; simp [fsAfter, h]

/-- The linker re-creates the `.so` exactly at `link1`. -/
theorem stepProc_gen (e : stepProc t fs p c = (fs', p', o)) :
    fs'.gen = fs.gen + (if o = ⟨.link1, .ok⟩ then 1 else 0) := by
  rw [stepProc_fs e]; rfl

/-- The marker appears only by the `os.replace` of a builder. -/
theorem stepProc_marks (e : stepProc t fs p c = (fs', p', o)) (h0 : fs.marker = false)
    (h1 : fs'.marker = true) : p.pc = .bPublish ∧ o = ⟨.publish, .ok⟩ := by
  rw [stepProc_fs e] at h1
  have h2 : o = ⟨.publish, .ok⟩ := by simpa [fsAfter, h0] using h1
  exact ⟨(stepProc_obs e).publish h2, h2⟩

/-- A process that is not in a lock epoch changes the file system only by acquiring the lock. -/
theorem stepProc_frame (e : stepProc t fs p c = (fs', p', o))
    (hb : p.pc.isB = false) (hi : ¬(p.pc = .idle ∧ fs.lock = .absent)) : fs' = fs := by
  have ho := stepProc_obs e
  have h : ∀ x, o ≠ ⟨x, .ok⟩ := fun x h => hi (ho.lock (ho.nonB hb (by rw [h])))
  rw [stepProc_fs e]
  simp [fsAfter, h]

/-- Lock epochs: acquisitions and releases bracket the existence of the lock file. -/
theorem stepProc_epoch (e : stepProc t fs p c = (fs', p', o)) (hl : p.pc.isB = true → fs.lock ≠ .absent) :
    (if fs'.lock = .absent then 0 else 1) + (if o = ⟨.release, .ok⟩ then 1 else 0)
    = (if fs.lock = .absent then 0 else 1) + (if o = ⟨.lock, .ok⟩ then 1 else 0) := by
  have ho := stepProc_obs e
  have h2 : o = ⟨.src, .ok⟩ → fs.lock ≠ .absent := fun h => hl (by rw [ho.src (by rw [h])]; rfl)
  rw [stepProc_fs e]
  simp only [fsAfter]
  split
  · simp [*, (ho.lock ‹_›).2]
  split
  · simp [*, h2 ‹_›]
  split
  · simp [*, (ho.release ‹_›).2]
  · simp [*]

/-- Every row of `stepLive` keeps `Loc` of the stepping request and `GInv`: each control state's
clause of `LocPc` holds exactly what the rows leaving it need (`fs.so = .complete` is carried from
`bUnredir` on, then inside `Built`, because `publish` must establish the marker clause of `GInv`;
`bRestore` carries `fs.marker` because `bFind`, `bLoad` and `done` state it). -/
theorem stepProc_local (e : stepProc t fs p c = (fs', p', o)) (hl : Loc t fs p) (hg : GInv fs) :
    Loc t fs' p' ∧ GInv fs' := by
  refine stepProc_elim e (fun ht _ hd => ?_) (fun _ => ⟨hl, hg⟩)
    (fun _ _ => ⟨by simp [Loc, LocPc, Pc.isB, Pc.isPre, Pc.noTmp], hg⟩) fun ht hk => ?_ <;> clear e
  · obtain ⟨pc, g, saved, polls, tok⟩ := p
    refine ⟨?_, hg⟩
    cases pc <;> simp [Pc.terminal] at ht hd
    case raised e => cases e <;> simp_all [Loc, LocPc, FailG, Pc.isB, Pc.isPre, Pc.noTmp]
    all_goals simp_all [Loc, LocPc, Pc.isB, Pc.isPre, Pc.noTmp]
  · clear ht hk
    obtain ⟨pc, g, saved, polls, tok⟩ := p
    obtain ⟨lock, so, obj, marker, failed, tmp, gen⟩ := fs
    fun_cases stepLive t _ _ c pc <;>
      simp_all [Proc.compileRaises, Proc.markRaises, Loc, LocPc, Built, GInv, FailG, Pc.isB, Pc.isPre, Pc.noTmp, userG,
        capG]
    -- left: the poll count at the two timeouts, and whether a failing marker write leaves a temp file
    iterate 2 omega
    all_goals cases tmp <;> simp_all

/-- `Loc` of a request outside a lock epoch mentions the directory only through the marker and, at
`done`, through `tok = fs.gen`: it survives any change that keeps a present marker and, with it, the
link generation. -/
theorem Loc_mono_nonB (t : Nat) (fs fs' : FS) (q : Proc) (hb : q.pc.isB = false)
    (h : Loc t fs q) (hm : fs.marker = true → fs'.marker = true ∧ fs'.gen = fs.gen) : Loc t fs' q := by
  obtain ⟨pc, g, saved, polls, tok⟩ := q
  cases pc <;> simp_all [Loc, LocPc, Pc.isB, Pc.isPre, Pc.noTmp]
  case raised e => cases e <;> simp_all

/-- With the marker present no step re-creates the `.so`. -/
theorem stepProc_gen_frozen (e : stepProc t fs p c = (fs', p', o)) (hl : Loc t fs p)
    (hm : fs.marker = true) : fs'.gen = fs.gen := by
  rw [stepProc_gen e, if_neg, Nat.add_zero]
  intro h
  have := hl.noMarker (by rw [(stepProc_obs e).link1 h]; rfl)
  simp [hm] at this

/-- A lock epoch starts only with a successful exclusive create: a request outside a lock epoch that
is afterwards inside one, or has returned from a build of its own, has taken the lock or has not moved. -/
theorem stepProc_birth (e : stepProc t fs p c = (fs', p', o))
    (hb : p.pc.isB = false) (hb' : p'.pc.isBB = true) : o = ⟨.lock, .ok⟩ ∨ p'.pc = p.pc := by
  revert hb'
  refine stepProc_elim e (fun _ _ _ => ?_) (fun _ _ => .inr rfl) (fun _ _ => ?_) fun ht _ => ?_
  iterate 2 simp [Pc.isBB, Pc.isB, Pc.isBuilt]
  · generalize hpc : p.pc = pc at ht hb ⊢
    fun_cases stepLive t fs p c pc <;> simp_all [Pc.isBB, Pc.isB, Pc.isBuilt]

/-- How a step moves a request between the phases of a build: each phase is entered by exactly one
observable. -/
theorem stepProc_phases (e : stepProc t fs p c = (fs', p', o)) :
    (p'.pc.preC = true → o = ⟨.lock, .ok⟩ ∨ (p.pc.preC = true ∧ o.op ≠ .src)) ∧
    (p'.pc.postC = true → p.pc.postC = true ∨ o.op = .src) ∧
    (p'.pc.postL = true → p.pc.postL = true ∨ o = ⟨.link1, .ok⟩) ∧
    (p'.pc.preL = true → (p.pc.preL = true ∧ o ≠ ⟨.link1, .ok⟩ ∧ o.op ≠ .src) ∨ o.op = .src) := by
  refine stepProc_elim e (fun _ _ _ => ?_) (fun h => ?_) (fun _ _ => ?_) fun ht _ => ?_
  · simp [Pc.preC, Pc.postC, Pc.postL, Pc.preL]
  · cases hp : p.pc <;> simp_all [Pc.terminal, Pc.preC, Pc.postC, Pc.postL, Pc.preL]
  · simp [Pc.preC, Pc.postC, Pc.postL, Pc.preL]
  · generalize p.pc = pc at ht ⊢
    cases htmp : fs.tmp <;> fun_cases stepLive t fs p c pc <;>
      simp [htmp, Pc.terminal, Proc.compileRaises, Proc.markRaises, Pc.preC, Pc.postC, Pc.postL, Pc.preL] at ht ⊢

/-- The step of the counting fields of `Inv`, with `nC` for `Sys.nCompile` (which `step` raises at
every `src`): `cnt` of the stepping request and `genle` after the step, then what `cnt` of the other
requests needs (`gen` never decreases, and only a request inside a lock epoch moves it) and what
`lower` needs. -/
theorem stepProc_cnt (e : stepProc t fs p c = (fs', p', o)) {nC : Nat}
    (hc : Cnt nC fs.gen p.pc) (hle : fs.gen ≤ nC) :
    Cnt (nC + (if o.op = .src then 1 else 0)) fs'.gen p'.pc ∧
    fs'.gen ≤ nC + (if o.op = .src then 1 else 0) ∧
    fs.gen ≤ fs'.gen ∧
    (fs'.gen ≠ fs.gen → p.pc.isB = true) ∧
    (fs'.marker = true → fs.marker = false → 1 ≤ nC ∧ 1 ≤ fs.gen) := by
  have hg1 := stepProc_gen e
  have hg2 := (stepProc_obs e).link1
  obtain ⟨-, hp1, hp2, hp3⟩ := stepProc_phases e
  obtain ⟨hc1, hc2, hc3⟩ := hc
  have hsl : o.op = .src → o ≠ ⟨.link1, .ok⟩ := by
    intro h1 h2; rw [h2] at h1; cases h1
  refine ⟨⟨?_, ?_, ?_⟩, ?_, ?_, ?_, ?_⟩
  · intro h
    rcases hp1 h with h1 | h1
    · have := hc1 h1; omega
    · simp [h1]
  · intro h
    rcases hp2 h with h1 | h1
    · have := hc2 h1; omega
    · simp [hg1, h1]
  · intro h
    rcases hp3 h with ⟨h1, h2, h3⟩ | h1
    · have := hc3 h1; simp [hg1, h2, h3]; omega
    · simp [hg1, hsl h1, h1]; omega
  · by_cases h1 : o = ⟨.link1, .ok⟩
    · have h2 : p.pc.preL = true := by rw [hg2 h1]; rfl
      have := hc3 h2
      simp [hg1, h1]; omega
    · simp [hg1, h1]; split <;> omega
  · omega
  · intro h
    have h1 : o = ⟨.link1, .ok⟩ := by
      apply Classical.byContradiction; intro h1; simp [hg1, h1] at h
    rw [hg2 h1]; rfl
  · intro h1 h0
    have := (stepProc_marks e h0 h1).1
    exact ⟨hc1 (by rw [this]; rfl), hc2 (by rw [this]; rfl)⟩

/-- Every effective step uses up fuel. The values of `fuel` are lengths of longest paths with a little
to spare: the builder's straight line is numbered backwards (`bLoad ↦ 2`, …, `bGen ↦ 15`); the
exception path `bTmpRemove ↦ 3`, `bFailRestore ↦ 2`, `bFail ↦ 1` lies below every state that can raise
into it (the last is `bPublish ↦ 5`); a waiter at `wPoll i` has `timeout - i` polls left, then `find`,
`load` and the return; `idle ↦ timeout + 16` lies above `bGen` and `wPoll 0` and is the bound of
`fuel_le` and `terminal_of_sched`. -/
theorem stepProc_fuel (e : stepProc t fs p c = (fs', p', o)) (hc : c ≠ .again) :
    fuel t p'.pc ≤ fuel t p.pc - 1 := by
  refine stepProc_elim e (fun _ h _ => absurd h hc) (fun h => ?_) (fun _ _ => ?_) fun ht _ => ?_
  · cases hp : p.pc <;> simp_all [Pc.terminal, fuel]
  · simp [fuel]
  · generalize p.pc = pc at ht ⊢
    cases htmp : fs.tmp <;> fun_cases stepLive t fs p c pc <;>
      first
      | (simp only [htmp, Proc.compileRaises, Proc.markRaises, fuel, if_true, Bool.false_eq_true, if_false]; omega)
      | cases ht

theorem fuel_zero_iff (t : Nat) (pc : Pc) : fuel t pc = 0 ↔ pc.terminal = true := by
  cases pc <;> simp [fuel, Pc.terminal]

theorem fuel_le (t : Nat) (pc : Pc) : fuel t pc ≤ t + 16 := by
  cases pc <;> simp [fuel] <;> omega

/-- A failure-free step of a request that has met no fault meets none (given the invariant), and it
becomes a builder exactly by acquiring the lock. -/
theorem stepProc_nf (e : stepProc t fs p .none = (fs', p', o)) (hl : Loc t fs p) (hg : GInv fs)
    (hf : p.pc.faulty = false) :
    p'.pc.faulty = false ∧ o ≠ ⟨.release, .ok⟩ ∧ (p'.pc.isBB = true ↔ p.pc.isBB = true ∨ o = ⟨.lock, .ok⟩) := by
  have hm := hl.noMarker
  have htmp := hl.noTmp
  have hso : p.pc = .bFind → fs.so ≠ .absent := by
    intro h; rw [(hg.1 (hl.find h).1).1]; simp
  refine stepProc_elim e (fun _ h _ => nomatch h) (fun _ => ?_) (fun _ h => nomatch h) fun ht _ => ?_ <;> clear e
  · simp [hf]
  · generalize hpc : p.pc = pc at *
    fun_cases stepLive t fs p .none pc <;>
      simp_all [Pc.terminal, Pc.isPre, Pc.noTmp, Pc.faulty, Pc.isBB, Pc.isB, Pc.isBuilt]

/-- Once the marker exists no step acquires the lock or invokes the compiler. -/
theorem stepProc_reuse (e : stepProc t fs p c = (fs', p', o)) (hl : Loc t fs p)
    (hg : GInv fs) (hm : fs.marker = true) : o ≠ ⟨.lock, .ok⟩ ∧ o.op ≠ .src := by
  have ho := stepProc_obs e
  refine ⟨fun h => ?_, fun h => ?_⟩
  · have := (hg.1 hm).2.1
    rw [(ho.lock h).2] at this; cases this
  · have := hl.noMarker (by rw [ho.src h]; rfl)
    rw [hm] at this; cases this

theorem stepProc_polls (e : stepProc t fs p c = (fs', p', o)) : p'.polls ≤ p.polls + 1 := by
  refine stepProc_elim e (by simp) (by simp) (by simp) fun _ _ => ?_
  generalize p.pc = pc
  fun_cases stepLive t fs p c pc <;> simp [Proc.compileRaises, Proc.markRaises]

end Step

/-- The inductive invariant of the whole system (every fault, including a failing marker write).
The counting part: upper bounds come from the lock epochs (`epochs`, `compiles`, `compiles'`: one
compile per acquisition) and from `genle` (one link per compile, kept by the third clause of `Cnt`),
lower bounds from the phases a request has passed (the first two clauses of `cnt`, and `lower` once
the marker stands for them). -/
structure Inv (s : Sys) : Prop where
  loc : ∀ (i : Nat) (p : Proc), s.procs[i]? = some p → Loc s.timeout s.fs p
  ginv : GInv s.fs
  /-- at most one request is inside a lock epoch -/
  mutex : ∀ (i j : Nat) (p q : Proc), s.procs[i]? = some p → s.procs[j]? = some q →
    p.pc.isB = true → q.pc.isB = true → i = j
  /-- every acquisition but possibly the current one has been released -/
  epochs : s.nLock = s.nRel + (if s.fs.lock = .absent then 0 else 1)
  compiles : s.nCompile ≤ s.nLock
  /-- a builder that has not yet entered `ffibuilder.compile` still owes its compile -/
  compiles' : (∃ (i : Nat) (p : Proc), s.procs[i]? = some p ∧ p.pc.preC = true) →
    s.nCompile + 1 ≤ s.nLock
  cnt : ∀ (i : Nat) (p : Proc), s.procs[i]? = some p → Cnt s.nCompile s.fs.gen p.pc
  /-- the linker runs at most once per compile -/
  genle : s.fs.gen ≤ s.nCompile
  /-- a marker certifies at least one compile and one link -/
  lower : s.fs.marker = true → 1 ≤ s.nCompile ∧ 1 ≤ s.fs.gen

theorem init_proc {n t i : Nat} {p : Proc} (h : (init n t).procs[i]? = some p) : p = {} := by
  simp only [init, List.getElem?_replicate] at h
  split at h <;> simp_all

theorem inv_init (n t : Nat) : Inv (init n t) where
  loc i p h := by cases init_proc h; simp [Loc, LocPc, Pc.isB, Pc.isPre, Pc.noTmp, userG]
  ginv := by simp [init, GInv]
  mutex i j p q hp _ hb := by cases init_proc hp; cases hb
  epochs := rfl
  compiles := Nat.le_refl _
  compiles' := fun ⟨i, p, hp, hpre⟩ => by cases init_proc hp; cases hpre
  cnt i p h := by cases init_proc h; simp [Cnt, Pc.postC, Pc.postL, Pc.preL]
  genle := Nat.le_refl _
  lower h := by cases h

theorem step_timeout (s : Sys) (pid : Nat) (c : Choice) : (step s pid c).timeout = s.timeout := by
  unfold step; split <;> rfl

theorem step_none {s : Sys} {pid : Nat} (c : Choice) (h : s.procs[pid]? = none) : step s pid c = s := by
  unfold step; simp [h]

theorem step_some {s : Sys} {pid : Nat} {c : Choice} {p p' : Proc} {fs' : FS} {o : Obs}
    (hp : s.procs[pid]? = some p) (e : stepProc s.timeout s.fs p c = (fs', p', o)) :
    step s pid c = { s with
      fs := fs', procs := s.procs.set pid p'
      nLock := s.nLock + (if o = ⟨.lock, .ok⟩ then 1 else 0)
      nRel := s.nRel + (if o = ⟨.release, .ok⟩ then 1 else 0)
      nCompile := s.nCompile + (if o.op = .src then 1 else 0) } := by
  simp only [step, hp, e]

theorem inv_step (s : Sys) (pid : Nat) (c : Choice) (h : Inv s) : Inv (step s pid c) := by
  cases hp : s.procs[pid]? with
  | none => rw [step_none c hp]; exact h
  | some p =>
    rcases e : stepProc s.timeout s.fs p c with ⟨fs', p', o⟩
    rw [step_some hp e]
    have hlp := h.loc pid p hp
    obtain ⟨hloc', hginv'⟩ := stepProc_local e hlp h.ginv
    have hother : ∀ j q, j ≠ pid → s.procs[j]? = some q → Loc s.timeout fs' q := by
      intro j q hj hq
      have hlq := h.loc j q hq
      cases hbq : q.pc.isB with
      | false =>
        exact Loc_mono_nonB _ _ _ _ hbq hlq
          (fun hm => ⟨stepProc_marker_mono e hm, stepProc_gen_frozen e hlp hm⟩)
      | true =>
        have hbp : p.pc.isB = false := by
          cases hbp : p.pc.isB with
          | false => rfl
          | true => exact absurd (h.mutex j pid q p hq hp hbq hbp) hj
        rw [stepProc_frame e hbp (fun hh => hlq.lockHeld hbq hh.2)]
        exact hlq
    have ho := stepProc_obs e
    have hph := (stepProc_phases e).1
    obtain ⟨hcnt, hgenle, hgenmono, hgenB, hlow⟩ := stepProc_cnt e (h.cnt pid p hp) h.genle
    refine { loc := ?loc, ginv := hginv', mutex := ?mutex, epochs := ?epochs, compiles := ?compiles,
             compiles' := ?compiles', cnt := ?cnt, genle := hgenle, lower := ?lower }
    case cnt =>
      intro i q hq
      rcases getElem?_set_cases hq with ⟨-, rfl⟩ | ⟨hne, hq⟩
      · exact hcnt
      · have hq0 := h.cnt i q hq
        refine ⟨fun a => Nat.le_trans (hq0.1 a) (Nat.le_add_right _ _),
          fun a => Nat.le_trans (hq0.2.1 a) hgenmono, ?_⟩
        intro a
        have hgen : fs'.gen = s.fs.gen := by
          apply Classical.byContradiction
          intro hne'
          exact hne (h.mutex i pid q p hq hp (preL_isB a) (hgenB hne'))
        have := hq0.2.2 a
        simp only [hgen]
        omega
    case lower =>
      intro hm
      simp only at hm ⊢
      cases hm0 : s.fs.marker with
      | true =>
        have := h.lower hm0
        omega
      | false =>
        have := hlow hm hm0
        omega
    case loc =>
      intro i q hq
      rcases getElem?_set_cases hq with ⟨-, rfl⟩ | ⟨hne, hq⟩
      · exact hloc'
      · exact hother i q hne hq
    case mutex =>
      intro i j q r hq hr hbq hbr
      -- a builder other than `pid` excludes `pid` from being or becoming one
      have key : ∀ j q, j ≠ pid → s.procs[j]? = some q → q.pc.isB = true → p'.pc.isB = true → False := by
        intro j q hj hq hbq hb'
        cases hbp : p.pc.isB with
        | true => exact hj (h.mutex j pid q p hq hp hbq hbp)
        | false =>
          rcases stepProc_birth e hbp (by simp [Pc.isBB, hb']) with hl | hsame
          · exact (h.loc j q hq).lockHeld hbq (ho.lock hl).2
          · rw [hsame, hbp] at hb'; cases hb'
      rcases getElem?_set_cases hq with ⟨hi, rfl⟩ | ⟨hi, hq'⟩ <;>
        rcases getElem?_set_cases hr with ⟨hj, rfl⟩ | ⟨hj, hr'⟩
      · rw [hi, hj]
      · exact (key j r hj hr' hbr hbq).elim
      · exact (key i q hi hq' hbq hbr).elim
      · exact h.mutex i j q r hq' hr' hbq hbr
    case epochs =>
      have he := stepProc_epoch e hlp.lockHeld
      have h0 := h.epochs
      simp only
      omega
    case compiles =>
      have h0 := h.compiles
      simp only
      by_cases h1 : o.op = .src
      · have := h.compiles' ⟨pid, p, hp, by rw [ho.src h1]; rfl⟩
        simp only [h1, if_true]
        split <;> omega
      · simp only [h1, if_false]
        split <;> omega
    case compiles' =>
      rintro ⟨j, q, hq, hpre⟩
      have h0 := h.compiles
      simp only
      by_cases h2 : o = ⟨.lock, .ok⟩
      · rw [h2]
        simp <;> omega
      · by_cases h1 : o.op = .src
        · exfalso
          rcases getElem?_set_cases hq with ⟨-, rfl⟩ | ⟨hne, hq⟩
          · rcases hph hpre with h3 | h3
            · exact h2 h3
            · exact h3.2 h1
          · have hbp : p.pc.isB = true := by rw [ho.src h1]; rfl
            exact hne (h.mutex j pid q p hq hp (preC_isB hpre) hbp)
        · have hA : ∃ (i : Nat) (p : Proc), s.procs[i]? = some p ∧ p.pc.preC = true := by
            rcases getElem?_set_cases hq with ⟨-, rfl⟩ | ⟨-, hq⟩
            · rcases hph hpre with h3 | h3
              · exact absurd h3 h2
              · exact ⟨pid, p, hp, h3.1⟩
            · exact ⟨j, q, hq, hpre⟩
          have := h.compiles' hA
          simp only [h1, h2, if_false]
          omega

theorem inv_reach {s : Sys} (h : Reach s) : Inv s := by
  induction h with
  | init n t => exact inv_init n t
  | step pid c _ ih => exact inv_step _ pid c ih

/-- Whoever is about to import the module finds a complete `.so`. -/
theorem Inv.load_complete {s : Sys} (hi : Inv s) {i : Nat} {p : Proc} (hp : s.procs[i]? = some p)
    (hl : p.pc.isLoad = true) : s.fs.so = .complete := by
  have hloc := (hi.loc i p hp).pc
  obtain ⟨pc, g, saved, polls, tok⟩ := p
  cases pc <;> cases hl <;> exact (hi.ginv.1 hloc.1).1

/-- Whoever has returned imported a complete `.so`, the one now on disk. -/
theorem Inv.done_tok {s : Sys} (hi : Inv s) {i : Nat} {p : Proc} (hp : s.procs[i]? = some p)
    {b : Bool} {so : So} (hpc : p.pc = .done b so) : so = .complete ∧ p.tok = s.fs.gen :=
  have h := (hi.loc i p hp).done hpc
  ⟨h.1, h.2.1⟩

theorem step_procs_other (s : Sys) (pid j : Nat) (c : Choice) (h : j ≠ pid) :
    (step s pid c).procs[j]? = s.procs[j]? := by
  unfold step
  cases hp : s.procs[pid]? with
  | none => rfl
  | some p => simp [Ne.symm h]

theorem step_procs_self {s : Sys} {pid : Nat} {c : Choice} {p p' : Proc} {fs' : FS} {o : Obs}
    (hp : s.procs[pid]? = some p) (e : stepProc s.timeout s.fs p c = (fs', p', o)) :
    (step s pid c).procs[pid]? = some p' ∧ (step s pid c).fs = fs' ∧ obs s pid c = o := by
  have hlt : pid < s.procs.length := (List.getElem?_eq_some_iff.1 hp).1
  exact ⟨by simp [step_some hp e, hlt], by rw [step_some hp e], by simp only [obs, hp, e]⟩

theorem step_length (s : Sys) (pid : Nat) (c : Choice) : (step s pid c).procs.length = s.procs.length := by
  unfold step; split <;> simp

theorem run_timeout (s : Sys) (sch : List (Nat × Choice)) : (run s sch).timeout = s.timeout := by
  induction sch generalizing s with
  | nil => rfl
  | cons a rest ih => simp [run, ih, step_timeout]

theorem run_append (s : Sys) (a b : List (Nat × Choice)) : run s (a ++ b) = run (run s a) b := by
  induction a generalizing s with
  | nil => rfl
  | cons x rest ih => simp [run, ih]

theorem reach_run {s : Sys} (h : Reach s) (sch : List (Nat × Choice)) : Reach (run s sch) := by
  induction sch generalizing s with
  | nil => exact h
  | cons a rest ih => exact ih (Reach.step a.1 a.2 h)

theorem reachNF_reach {s : Sys} (h : ReachNF s) : Reach s := by
  induction h with
  | init n t => exact Reach.init n t
  | step pid _ ih => exact Reach.step pid .none ih

theorem reachNF_run {s : Sys} (h : ReachNF s) (sch : List (Nat × Choice))
    (hn : ∀ x ∈ sch, x.2 = .none) : ReachNF (run s sch) := by
  induction sch generalizing s with
  | nil => exact h
  | cons a rest ih =>
    obtain ⟨pid, c⟩ := a
    have : c = .none := hn (pid, c) (by simp)
    subst this
    exact ih (ReachNF.step pid h) (fun x hx => hn x (by simp [hx]))

def sched (sch : List (Nat × Choice)) (pid : Nat) : Nat := (sch.filter (fun x => x.1 == pid)).length

/-- Request `j` does not issue a new request within the schedule. -/
def noRetry (sch : List (Nat × Choice)) (j : Nat) : Prop := ∀ x ∈ sch, x.1 = j → x.2 ≠ .again

/-- Induction along a schedule with a counter for request `j`: `P k` is kept by the steps of the
other requests and becomes `P (k + 1)` when `j` is scheduled (with a choice allowed by `ok`). -/
theorem run_sched_induction {P : Nat → Sys → Prop} {ok : Choice → Prop} (j : Nat)
    (hself : ∀ k s c, ok c → P k s → P (k + 1) (step s j c))
    (hother : ∀ k s pid c, pid ≠ j → P k s → P k (step s pid c))
    (sch : List (Nat × Choice)) (hn : ∀ x ∈ sch, x.1 = j → ok x.2) {k : Nat} {s : Sys} (h : P k s) :
    P (k + sched sch j) (run s sch) := by
  induction sch generalizing k s with
  | nil => exact h
  | cons a rest ih =>
    obtain ⟨pid, c⟩ := a
    have hn' := fun x hx => hn x (List.mem_cons_of_mem _ hx)
    by_cases hj : pid = j
    · subst hj
      have := ih hn' (hself k s c (hn (pid, c) List.mem_cons_self rfl) h)
      simpa [run, sched, Nat.add_assoc, Nat.add_comm 1] using this
    · simpa [run, sched, hj] using ih hn' (hother k s pid c hj h)

theorem fuelAt_step_self (s : Sys) (pid : Nat) (c : Choice) (hc : c ≠ .again) :
    fuelAt (step s pid c) pid ≤ fuelAt s pid - 1 := by
  cases hp : s.procs[pid]? with
  | none => simp [step_none c hp, fuelAt, hp]
  | some p =>
    rcases e : stepProc s.timeout s.fs p c with ⟨fs', p', o⟩
    simp only [fuelAt, (step_procs_self hp e).1, hp, step_timeout]
    exact stepProc_fuel e hc

theorem fuelAt_step_other (s : Sys) (pid j : Nat) (c : Choice) (h : j ≠ pid) :
    fuelAt (step s pid c) j = fuelAt s j := by
  simp [fuelAt, step_procs_other s pid j c h, step_timeout]

theorem fuelAt_run (s : Sys) (sch : List (Nat × Choice)) (j : Nat) (hn : noRetry sch j) :
    fuelAt (run s sch) j ≤ fuelAt s j - sched sch j := by
  have := run_sched_induction (P := fun k s' => fuelAt s' j ≤ fuelAt s j - k) j
    (fun k s' c hc h => Nat.le_trans (fuelAt_step_self s' j c hc) (by omega))
    (fun k s' pid c hne h => by rw [fuelAt_step_other s' pid j c (Ne.symm hne)]; exact h)
    sch hn (k := 0) (Nat.le_refl _)
  simpa using this

theorem fuelAt_le (s : Sys) (j : Nat) : fuelAt s j ≤ s.timeout + 16 := by
  unfold fuelAt; split
  · exact fuel_le _ _
  · omega

/-- A request that has been scheduled `timeout + 16` times without being re-issued has returned,
raised or died. -/
theorem terminal_of_sched (s : Sys) (sch : List (Nat × Choice)) (j : Nat) (p : Proc)
    (hn : noRetry sch j)
    (hs : sched sch j ≥ s.timeout + 16) (hp : (run s sch).procs[j]? = some p) :
    p.pc.terminal = true := by
  have h1 := fuelAt_run s sch j hn
  have h2 := fuelAt_le s j
  have h3 : fuelAt (run s sch) j = 0 := by omega
  simp only [fuelAt, hp, run_timeout] at h3
  exact (fuel_zero_iff _ _).mp h3

structure InvNF (s : Sys) : Prop where
  clean : ∀ (i : Nat) (p : Proc), s.procs[i]? = some p → p.pc.faulty = false
  norel : s.nRel = 0
  /-- every lock acquisition belongs to exactly one request that is, or was, a builder -/
  built : s.procs.countP (fun p => p.pc.isBB) = s.nLock

theorem invNF_reach {s : Sys} (h : ReachNF s) : InvNF s := by
  induction h with
  | init n t =>
    refine ⟨?_, by simp [init], ?_⟩
    · intro i p hp; cases init_proc hp; rfl
    · simp [init, List.countP_replicate, Pc.isBB, Pc.isB, Pc.isBuilt]
  | @step s pid hr ih =>
    have hinv := inv_reach (reachNF_reach hr)
    cases hp : s.procs[pid]? with
    | none => rw [step_none _ hp]; exact ih
    | some p =>
      rcases e : stepProc s.timeout s.fs p .none with ⟨fs', p', o⟩
      obtain ⟨hclean, hnorel, hbb⟩ := stepProc_nf e (hinv.loc pid p hp) hinv.ginv (ih.clean pid p hp)
      rw [step_some hp e]
      refine ⟨?_, ?_, ?_⟩
      · intro i q hq
        rcases getElem?_set_cases hq with ⟨-, rfl⟩ | ⟨-, hq⟩
        · exact hclean
        · exact ih.clean i q hq
      · simp [hnorel, ih.norel]
      · have h2 : o = ⟨.lock, .ok⟩ → p.pc.isBB = false :=
          fun h => by rw [((stepProc_obs e).lock h).1]; rfl
        have hcount : (if p'.pc.isBB then 1 else 0) =
            (if p.pc.isBB then 1 else 0) + (if o = ⟨.lock, .ok⟩ then 1 else 0) := by
          by_cases h3 : o = ⟨.lock, .ok⟩ <;> cases h4 : p.pc.isBB <;> simp_all
        have hcs := countP_set (fun p => p.pc.isBB) s.procs pid p' p hp
        have := ih.built
        simp only
        omega

/-- Without failures the lock is acquired at most once: no release, one epoch. -/
theorem InvNF.nLock_le_one {s : Sys} (hn : InvNF s) (hi : Inv s) : s.nLock ≤ 1 := by
  have := hi.epochs; have := hn.norel
  split at * <;> omega

theorem step_after_marker (s : Sys) (pid : Nat) (c : Choice) (h : Inv s) (hm : s.fs.marker = true) :
    (step s pid c).fs.marker = true ∧ (step s pid c).nLock = s.nLock ∧
    (step s pid c).nCompile = s.nCompile := by
  cases hp : s.procs[pid]? with
  | none => rw [step_none c hp]; exact ⟨hm, rfl, rfl⟩
  | some p =>
    rcases e : stepProc s.timeout s.fs p c with ⟨fs', p', o⟩
    have hr := stepProc_reuse e (h.loc pid p hp) h.ginv hm
    rw [step_some hp e]
    exact ⟨stepProc_marker_mono e hm, by simp [hr.1], by simp [hr.2]⟩

theorem run_after_marker (s : Sys) (sch : List (Nat × Choice)) (h : Inv s) (hm : s.fs.marker = true) :
    (run s sch).fs.marker = true ∧ (run s sch).nLock = s.nLock ∧ (run s sch).nCompile = s.nCompile := by
  induction sch generalizing s with
  | nil => exact ⟨hm, rfl, rfl⟩
  | cons a rest ih =>
    obtain ⟨pid, c⟩ := a
    have h1 := step_after_marker s pid c h hm
    have h2 := ih (step s pid c) (inv_step s pid c h) h1.1
    simp only [run]
    exact ⟨h2.1, h2.2.1.trans h1.2.1, h2.2.2.trans h1.2.2⟩

theorem polls_run (s : Sys) (sch : List (Nat × Choice)) (j k : Nat)
    (h : ∀ p, s.procs[j]? = some p → p.polls ≤ k) :
    ∀ p, (run s sch).procs[j]? = some p → p.polls ≤ k + sched sch j := by
  refine run_sched_induction (P := fun k s' => ∀ p, s'.procs[j]? = some p → p.polls ≤ k)
    (ok := fun _ => True) j ?_ ?_ sch (fun _ _ _ => trivial) h
  · intro k s' c _ h q hq
    cases hp : s'.procs[j]? with
    | none => rw [step_none c hp, hp] at hq; cases hq
    | some p =>
      rcases e : stepProc s'.timeout s'.fs p c with ⟨fs', p', o⟩
      have := stepProc_polls e
      have := h p hp
      rw [(step_procs_self hp e).1] at hq; cases hq
      omega
  · intro k s' pid c hne h q hq
    exact h q (by rwa [step_procs_other s' pid j c (Ne.symm hne)] at hq)

/-- Request 0 builds alone: lock, gen, swap, src, obj, link1, link2, unredir, `open(tmp,'x')`
(nine steps); then `fd.write(s)` raises (`fail` at `tmpWrite`); the inner `finally` removes the temp
file; the outer one restores the handlers; the `except` block of compile_forms renames
`<module>.c` to `.c.failed`. -/
def failedMarkerWrite : List (Nat × Choice) :=
  List.replicate 9 (0, .none) ++ [(0, .fail), (0, .none), (0, .none), (0, .none)]

end Ffcx.Jit
