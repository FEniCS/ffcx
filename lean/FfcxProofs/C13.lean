/-
C13 — JIT signatures are stable and separating; object names are distinct valid identifiers.

Model: FfcxModel/Jit/Naming.lean (`encode` = the exact string handed to SHA-1, tied to
ffcx/naming.py and ffcx/codegeneration/jit.py by the correspondence run of harness/props/c13.py).
SHA-1 is an uninterpreted function `sha1`; where a theorem needs it, injectivity on the strings
at hand is an explicit hypothesis (trusted base: "SHA-1 taken as injective on the inputs explored").

The evaluation points of an expression enter the string as dtype.str ++ str(shape) ++ the hex SHA-1 of
their bytes (`pointsKey digest`); that inner digest is an uninterpreted parameter too, with the
hypotheses "40 hex characters" and "injective on the explored byte strings `D`" explicit.

Which inputs of the model the injectivity theorems speak of is said by their hypotheses: UFL signatures are 128
hex characters (`Objs.WF`), every option value is `Scalar.WF` (str / int / bool / None, or a float in `Flt.Norm`; no
`Scalar.raw`, whose text can be that of an int), `cffi_debug` is a `bool`, the dtype string of the points has no `(`
and no `;` (`Pts.OK`), version and ufcx hash no `;` (`Env.WF`). `reprFlt_inj` is in Lemmas/PyRepr.lean,
`pointsKey_prefix` in Lemmas/Names.lean. The premise "positions distinct" of `names_distinct` fails for two
integration domains with equal (type, subdomain id): `names_distinct_counterexample` (DESIGN §7 F12, a known
finding). The stability half (the renumbering of naming.py:41-67) is FfcxProofs/C13Renumber.lean.

What `encode_inj` is and is not: it SEPARATES requests up to the pre-hash string (the outer SHA-1 and the
UFL signatures are opaque). `encode_congr` is only the converse congruence (equal ingredients ⇒ equal
string); that counters / creation order / hash seed do not enter the ingredients is the subject of
C13Renumber.lean (expressions; for forms UFL's own `Form.signature()` renumbering is trusted).
-/
import FfcxProofs.Lemmas.Names
-- the renumbering theorems of C13 are in this module; harness/props/c13.py reads them through `FfcxProofs.C13`
import FfcxProofs.C13Renumber

namespace Ffcx.Naming
variable {P : Type}

/-- The `;`-join is injective when the non-final fields contain no `;`. -/
theorem join_inj {xs ys : List Str} {a b : Str} (hl : xs.length = ys.length)
    (hx : ∀ x ∈ xs, ';' ∉ x) (hy : ∀ y ∈ ys, ';' ∉ y)
    (h : joinWith [';'] (xs ++ [a]) = joinWith [';'] (ys ++ [b])) : xs = ys ∧ a = b :=
  joinWith_inj hl hx hy h

example : joinWith [';'] ([cs! "ab", cs! "1.0"] ++ [cs! "x;y"]) = cs! "ab;1.0;x;y" := by decide +kernel

/-- A UFL signature: 128 hex characters. -/
def IsSig (s : Str) : Prop := s.length = 128 ∧ ∀ c ∈ s, isHexChar c = true

/-- Concatenation of fixed-length (128-hex) signatures is injective. -/
theorem concat_fixed_inj {xs ys : List Str} (hx : ∀ x ∈ xs, IsSig x) (hy : ∀ y ∈ ys, IsSig y)
    (h : xs.flatten = ys.flatten) : xs = ys :=
  (fixed_prefix 128).flatten_inj (fun _ => ne_nil_of_length (by decide))
    (fun x m => (hx x m).1) (fun y m => (hy y m).1) (by rwa [List.map_id, List.map_id])

theorem isSig_replicate : IsSig (List.replicate 128 'a') :=
  ⟨List.length_replicate, fun _ hc => (List.mem_replicate.mp hc).2 ▸ rfl⟩

example : IsSig (List.replicate 128 'a') := isSig_replicate

/-- Integral / form / expression tag strings are injective in their tuple. -/
theorem tag_inj :
    (∀ p q i j, formTag p i = formTag q j → p = q ∧ i = j) ∧
    (∀ p q t u i j (a b : List Scalar), (∀ v ∈ a, v.Simple) → (∀ v ∈ b, v.Simple) →
      integralTag p t i a = integralTag q u j b → p = q ∧ t = u ∧ i = j ∧ a = b) ∧
    (∀ p q i j, expressionTag p (some i) = expressionTag q (some j) → p = q ∧ i = j) ∧
    (∀ p q, expressionTag p none = expressionTag q none → p = q) := by
  have form : ∀ p q i j, formTag p i = formTag q j → p = q ∧ i = j := fun p q i j h =>
    Prod.mk.inj ((pairRepr_prefix reprInt_delim).inj (a := (p, i)) (b := (q, j)) trivial trivial h)
  exact ⟨form, fun _ _ _ _ _ _ _ _ ha hb h => integralTag_inj ha hb h, form, fun _ _ h => h⟩

example : expressionTag (cs! "libffcx_expressions_ab") (some 1) = cs! "('libffcx_expressions_ab', 1)" := by decide +kernel
example : integralTag (cs! "m") (cs! "cell") 0 [.str (cs! "otherwise")] =
    cs! "('m', 'cell', 0, ('otherwise',))" := by decide +kernel
example : integralTag (cs! "m") (cs! "exterior_facet") 1 [.int 1, .int 2] =
    cs! "('m', 'exterior_facet', 1, (1, 2))" := by decide +kernel
example : formTag (cs! "it's") (-3) = cs! "(\"it's\", -3)" := by decide +kernel

/-- Scalars the theorems speak about: str / int / bool / None, and floats given by their shortest
round-trip digits in normal form (no opaque objects). -/
abbrev Scalar.WF : Scalar → Prop := Scalar.OK Flt.Norm

/-- `str(sorted(options.items()))` determines the option dict: equal signatures ⇒ the same items
(python repr model for str / int / bool / None / float values). -/
theorem options_sorted_inj {o₁ o₂ : Options}
    (h₁ : ∀ kv ∈ o₁, kv.2.WF) (h₂ : ∀ kv ∈ o₂, kv.2.WF)
    (h : optionSignature o₁ = optionSignature o₂) : o₁.Perm o₂ :=
  (optionSignature_prefix reprFlt_inj o₁ o₂ [] [] h₁ h₂ (congrArg (· ++ []) h)).1

/-- …and conversely the signature does not depend on the order in which the dict was filled. -/
theorem options_order_indep {o₁ o₂ : Options} (hp : o₁.Perm o₂) (hn : (o₁.map (·.1)).Nodup) :
    optionSignature o₁ = optionSignature o₂ := by
  unfold optionSignature
  rw [sortItems_of_perm hp hn]

/-- The default option dict of this tree as the model sees it (values as in FFCX_DEFAULT_OPTIONS). -/
def sampleOptions : Options :=
  [(cs! "language", .str (cs! "C")), (cs! "epsilon", .float (.fin false [1] (-13))),
   (cs! "scalar_type", .str (cs! "float64")), (cs! "sum_factorization", .bool false),
   (cs! "table_rtol", .float (.fin false [1] (-5))), (cs! "verbosity", .int 30)]

example : optionSignature sampleOptions =
    cs! "[('epsilon', 1e-14), ('language', 'C'), ('scalar_type', 'float64'), ('sum_factorization', False), ('table_rtol', 1e-06), ('verbosity', 30)]" := by
  decide +kernel

theorem sampleOptions_wf : ∀ kv ∈ sampleOptions, kv.2.WF := by
  have flt : ∀ p : Int, Flt.Norm (.fin false [1] p) := fun _ => ⟨by decide, by decide, .inr ⟨by decide, by decide⟩⟩
  simp only [sampleOptions, List.forall_mem_cons]
  exact ⟨trivial, flt _, trivial, trivial, flt _, trivial, nofun⟩

example : ∀ kv ∈ sampleOptions, kv.2.WF := sampleOptions_wf

/-- `1e-14` and `1e-06` are printed from the normal forms 0.1·10⁻¹³ and 0.1·10⁻⁵. -/
example : reprFlt (.fin false [1] (-13)) = cs! "1e-14" ∧ reprFlt (.fin false [1] (-5)) = cs! "1e-06" ∧
    reprFlt (.fin true [1, 2, 5] 2) = cs! "-12.5" ∧ reprFlt (.fin false [1] 17) = cs! "1e+16" ∧
    reprFlt (.fin false [1] 16) = cs! "1000000000000000.0" := by decide +kernel

/-- Signatures are 128 hex characters; the points of expressions satisfy `S`. -/
def Objs.WF (S : P → Prop) : Objs P → Prop
  | .forms sigs => ∀ s ∈ sigs, IsSig s
  | .exprs es => ∀ e ∈ es, IsSig e.1 ∧ S e.2

def Env.WF (env : Env) : Prop := ';' ∉ env.version ∧ ';' ∉ env.ufcxHash

/-- The five `;`-separated fields of a pre-hash string: signature text, kind and tag can be read back when the
signature text and the kind have no `;` (version and hash are those of `env`). -/
theorem prehash_inj {env : Env} (henv : env.WF) {s₁ s₂ k₁ k₂ t₁ t₂ : Str} (hs₁ : ';' ∉ s₁) (hs₂ : ';' ∉ s₂)
    (hk₁ : ';' ∉ k₁) (hk₂ : ';' ∉ k₂)
    (h : joinWith [';'] [s₁, env.version, env.ufcxHash, k₁, t₁] =
      joinWith [';'] [s₂, env.version, env.ufcxHash, k₂, t₂]) : s₁ = s₂ ∧ k₁ = k₂ ∧ t₁ = t₂ := by
  simp only [joinWith, List.append_assoc, List.singleton_append] at h
  obtain ⟨h1, h⟩ := split_sep hs₁ hs₂ h
  obtain ⟨-, h⟩ := split_sep henv.1 henv.1 h
  obtain ⟨-, h⟩ := split_sep henv.2 henv.2 h
  exact ⟨h1, split_sep hk₁ hk₂ h⟩

theorem objectSignature_no_semi {S : P → Prop} {reprP : P → Str} (hsemi : ∀ p, S p → ';' ∉ reprP p)
    {o : Objs P} (h : o.WF S) : ';' ∉ objectSignature reprP o := by
  intro hm
  cases o with
  | forms sigs =>
    simp only [objectSignature, List.mem_flatten] at hm
    obtain ⟨s, hs, hc⟩ := hm
    exact not_semi_of_hex ((h s hs).2 _ hc) rfl
  | exprs es =>
    simp only [objectSignature, List.mem_flatten, List.mem_map] at hm
    obtain ⟨_, ⟨e, he, rfl⟩, hc⟩ := hm
    rcases List.mem_append.mp hc with hc | hc
    · exact not_semi_of_hex ((h e he).1.2 _ hc) rfl
    · exact hsemi _ (h e he).2 hc

/-- The kind string tells forms from expressions. -/
theorem kindOf_eq {o : Objs P} {k : Str} (h : kindOf o = some k) :
    (k = cs! "form" ∧ ∃ l, o = .forms l) ∨ (k = cs! "expression" ∧ ∃ l, o = .exprs l) := by
  cases o with
  | forms l =>
    cases l with
    | nil => cases h
    | cons _ _ => exact .inl ⟨(Option.some.inj h).symm, _, rfl⟩
  | exprs l =>
    cases l with
    | nil => cases h
    | cons _ _ => exact .inr ⟨(Option.some.inj h).symm, _, rfl⟩

/-- `compute_signature` separates object lists and tags, provided the text standing for the points
can be read back (`PrefixCodeOn S`) and has no `;`. -/
theorem encode_objs_tag_inj {S : P → Prop} {reprP : P → Str} (hP : PrefixCodeOn S reprP)
    (hsemi : ∀ p, S p → ';' ∉ reprP p)
    {env : Env} (henv : env.WF) {o₁ o₂ : Objs P} (h₁ : o₁.WF S) (h₂ : o₂.WF S) {t₁ t₂ s : Str}
    (e₁ : encode reprP env o₁ t₁ = some s) (e₂ : encode reprP env o₂ t₂ = some s) :
    o₁ = o₂ ∧ t₁ = t₂ := by
  unfold encode at e₁ e₂
  obtain ⟨k₁, hk₁, e₁⟩ := Option.map_eq_some_iff.mp e₁
  obtain ⟨k₂, hk₂, e₂⟩ := Option.map_eq_some_iff.mp e₂
  have nk : ∀ {o : Objs P} {k}, kindOf o = some k → ';' ∉ k := fun hk => by
    rcases kindOf_eq hk with ⟨rfl, -⟩ | ⟨rfl, -⟩ <;> decide
  obtain ⟨hos, rfl, ht⟩ := prehash_inj henv (objectSignature_no_semi hsemi h₁)
    (objectSignature_no_semi hsemi h₂) (nk hk₁) (nk hk₂) (e₁.trans e₂.symm)
  refine ⟨?_, ht⟩
  rcases kindOf_eq hk₁ with ⟨rfl, l₁, rfl⟩ | ⟨rfl, l₁, rfl⟩ <;>
    rcases kindOf_eq hk₂ with ⟨hk, l₂, rfl⟩ | ⟨hk, l₂, rfl⟩
  · rw [concat_fixed_inj h₁ h₂ hos]
  · exact absurd hk (by decide)
  · exact absurd hk (by decide)
  · rw [(hP.fixed_append 128).flatten_inj
      (fun _ he e => ne_nil_of_length (by decide) he.1 (List.append_eq_nil_iff.mp e).1)
      (fun e m => ⟨(h₁ e m).1.1, (h₁ e m).2⟩) (fun e m => ⟨(h₂ e m).1.1, (h₂ e m).2⟩) hos]

section EncodeInj
variable {B : Type} (digest : B → Str) {D : B → Prop}

/-- For the requests that meet its hypotheses (`Objs.WF`; option values `Scalar.WF`: no `Scalar.raw`, floats in
`Flt.Norm`; `cffi_debug` a `bool`; points `Pts.OK`; `Env.WF`), with two limits that are part of the statement:
(1) it is about the NON-win32 branch of `_compilation_signature` (`encode_inj_win32` is the other branch);
(2) it stops at the PRE-HASH STRING: the conclusion is about the string handed to the outer SHA-1, and the UFL
signatures inside it are opaque 128-hex inputs — "never share a module name" follows only as far as SHA-1
separates the explored strings and UFL signatures separate the integrands.
Equal pre-hash strings of two JIT requests ⇒ equal signatures, equal evaluation points
(dtype, shape and bytes), equal options, equal extra compile arguments, equal debug flag, equal
CFLAGS+SOABI text.
Explicit hypotheses about the inner digest of the point bytes (SHA-1 in the code): it yields 40 hex
characters and is injective on the explored byte strings `D`.
`hd₁`, `hd₂`: `str(cffi_debug)` stands in front of `str(CFLAGS)` without a separator. `True` / `False` can be cut
off the front of a text (`strBool_prefix`); the `str` of an arbitrary scalar cannot (a `str` value is printed
without quotes) — for the same reason the last conjunct is about the CFLAGS and SOABI texts joined. -/
theorem encode_inj (hlen : ∀ b, (digest b).length = 40)
    (hhex : ∀ b, ∀ c ∈ digest b, isHexChar c = true)
    (hinj : ∀ a b, D a → D b → digest a = digest b → a = b)
    {env : Env} (henv : env.WF) {r₁ r₂ : Request (Pts B)}
    (h₁ : r₁.objs.WF (Pts.OK D)) (h₂ : r₂.objs.WF (Pts.OK D))
    (ho₁ : ∀ kv ∈ r₁.options, kv.2.WF) (ho₂ : ∀ kv ∈ r₂.options, kv.2.WF)
    {b₁ b₂ : Bool} (hd₁ : r₁.compile.debug = .bool b₁) (hd₂ : r₂.compile.debug = .bool b₂)
    {s : Str} (e₁ : encodeRequest (pointsKey digest) env r₁ = some s)
    (e₂ : encodeRequest (pointsKey digest) env r₂ = some s) :
    r₁.objs = r₂.objs ∧ r₁.options.Perm r₂.options ∧
    r₁.compile.extraArgs = r₂.compile.extraArgs ∧ r₁.compile.debug = r₂.compile.debug ∧
    strScalar r₁.compile.cflags ++ strScalar r₁.compile.soabi =
      strScalar r₂.compile.cflags ++ strScalar r₂.compile.soabi := by
  obtain ⟨ho, ht⟩ := encode_objs_tag_inj (pointsKey_prefix digest hlen hinj)
    (pointsKey_no_semi digest hhex) henv h₁ h₂ e₁ e₂
  unfold moduleTag at ht
  obtain ⟨hs, hc⟩ := optionSignature_prefix reprFlt_inj _ _ _ _ ho₁ ho₂ ht
  unfold compilationSignature at hc
  simp only [List.append_assoc] at hc
  obtain ⟨ha, hr⟩ := reprStr_delim.listOf.rest (fun _ _ => trivial) (fun _ _ => trivial) hc
  rw [hd₁, hd₂] at hr
  obtain ⟨hb, hr'⟩ := strBool_prefix _ _ _ _ hr
  exact ⟨ho, hs, ha, by rw [hd₁, hd₂, hb], hr'⟩

/-- The win32 branch is the other branch read through `CompileArgs.win32`. -/
theorem compilationSignature_win32 (a : List Str) (d e : Scalar) :
    compilationSignature (CompileArgs.win32 a d e) = compilationSignatureWin32 a d e := by
  simp [compilationSignature, compilationSignatureWin32, CompileArgs.win32, strScalar]

/-- `encode_inj` for the win32 branch of `_compilation_signature` (EXT_SUFFIX instead of CFLAGS + SOABI):
same hypotheses, same limits; the last conjunct is about the `str(EXT_SUFFIX)` text. -/
theorem encode_inj_win32 (hlen : ∀ b, (digest b).length = 40)
    (hhex : ∀ b, ∀ c ∈ digest b, isHexChar c = true)
    (hinj : ∀ a b, D a → D b → digest a = digest b → a = b)
    {env : Env} (henv : env.WF) {o₁ o₂ : Objs (Pts B)} {p₁ p₂ : Options} {a₁ a₂ : List Str}
    {b₁ b₂ : Bool} {x₁ x₂ : Scalar}
    (h₁ : o₁.WF (Pts.OK D)) (h₂ : o₂.WF (Pts.OK D))
    (ho₁ : ∀ kv ∈ p₁, kv.2.WF) (ho₂ : ∀ kv ∈ p₂, kv.2.WF) {s : Str}
    (e₁ : encode (pointsKey digest) env o₁
      (optionSignature p₁ ++ compilationSignatureWin32 a₁ (.bool b₁) x₁) = some s)
    (e₂ : encode (pointsKey digest) env o₂
      (optionSignature p₂ ++ compilationSignatureWin32 a₂ (.bool b₂) x₂) = some s) :
    o₁ = o₂ ∧ p₁.Perm p₂ ∧ a₁ = a₂ ∧ b₁ = b₂ ∧ strScalar x₁ = strScalar x₂ := by
  rw [← compilationSignature_win32] at e₁ e₂
  obtain ⟨g1, g2, g3, g4, g5⟩ := encode_inj digest hlen hhex hinj henv
    (r₁ := ⟨o₁, p₁, CompileArgs.win32 a₁ (.bool b₁) x₁⟩) (r₂ := ⟨o₂, p₂, CompileArgs.win32 a₂ (.bool b₂) x₂⟩)
    h₁ h₂ ho₁ ho₂ rfl rfl e₁ e₂
  exact ⟨g1, g2, g3, Scalar.bool.inj g4, List.append_cancel_right g5⟩

end EncodeInj

/-- CONGRUENCE only: the pre-hash string is a function of the signatures, the
point values, the option *set* and the compile arguments — equal ingredients give the equal string, and the
order in which the option dict was filled does not matter. This says nothing about whether counters,
creation order or the hash seed enter the ingredients (the signatures): that is
`signature_stable_across_processes` in C13Renumber.lean. -/
theorem encode_congr {reprP : P → Str} {env : Env} {r₁ r₂ : Request P} (ho : r₁.objs = r₂.objs)
    (hp : r₁.options.Perm r₂.options) (hn : (r₁.options.map (·.1)).Nodup)
    (hc : r₁.compile = r₂.compile) : encodeRequest reprP env r₁ = encodeRequest reprP env r₂ := by
  unfold encodeRequest moduleTag
  rw [ho, hc, options_order_indep hp hn]

/-! ### Non-vacuity of `encode_inj` -/

/-- A toy digest with the required shape (40 hex characters), injective on `D = {[1], [2]}`. -/
def toyDigest (b : List Nat) : Str :=
  List.replicate 39 'a' ++ [if b = [1] then 'b' else 'c']

example : (∀ b, (toyDigest b).length = 40) ∧ (∀ b, ∀ c ∈ toyDigest b, isHexChar c = true) ∧
    (∀ a b, (a = [1] ∨ a = [2]) → (b = [1] ∨ b = [2]) → toyDigest a = toyDigest b → a = b) ∧
    Env.WF ⟨cs! "0.11.0.dev0", cs! "79f1a657d2b8defd18bec429a24080d2534220eb"⟩ ∧
    Objs.WF (Pts.OK (fun a => a = [1] ∨ a = [2]))
      (Objs.exprs [(List.replicate 128 'a', (⟨cs! "<f8", [2, 2], [1]⟩ : Pts (List Nat)))]) ∧
    (∀ kv ∈ sampleOptions, kv.2.WF) := by
  refine ⟨fun b => ?_, ?_, ?_, ⟨by decide, by decide⟩, ?_, sampleOptions_wf⟩
  · rw [toyDigest, List.length_append, List.length_replicate]; rfl
  · intro b c hc
    rcases List.mem_append.mp hc with hc | hc
    · rw [(List.mem_replicate.mp hc).2]; rfl
    · rw [List.mem_singleton.mp hc]; split <;> rfl
  · rintro a b (rfl | rfl) (rfl | rfl) h <;> first | rfl | exact absurd h (by decide)
  · intro e he
    cases List.mem_singleton.mp he
    exact ⟨isSig_replicate, by decide, by decide, .inl rfl⟩

example : pointsKey toyDigest ⟨cs! "<f8", [501, 2], [1]⟩ =
    cs! "<f8(501, 2)" ++ List.replicate 39 'a' ++ ['b'] := by decide +kernel
example : shapeRepr [3] = cs! "(3,)" ∧ shapeRepr [] = cs! "()" := by decide +kernel

example : compilationSignatureWin32 [cs! "-O2"] (.bool false) (.str (cs! ".cp312-win_amd64.pyd")) =
    cs! "['-O2']False.cp312-win_amd64.pyd" := by decide +kernel

example : encodeRequest (pointsKey toyDigest) ⟨cs! "0.1", cs! "ab"⟩
    ⟨.exprs [(cs! "f00d", ⟨cs! "<f8", [1, 2], [2]⟩)], [(cs! "k", .int 1)],
      ⟨[cs! "-O2"], .bool false, .str (cs! "-g"), .none⟩⟩ =
    some (cs! "f00d<f8(1, 2)" ++ List.replicate 39 'a' ++ cs! "c;0.1;ab;expression;[('k', 1)]['-O2']False-gNone") := by
  decide +kernel

section Ident
variable (sha1 : Str → Str) (reprP : P → Str) (env : Env)

/-- Every generated name matches `[A-Za-z_][A-Za-z0-9_]*` (SHA-1 hex digests are hex; cell names
are basix `CellType` names, i.e. identifier characters). -/
theorem ident_valid (hsha : ∀ s, (sha1 s).all isHexChar = true) (sig pre itype : Str) (i : Int)
    (sub : List Scalar) (cell : Str) (p : P) (r : Request P) (hcell : cell.all isIdentChar = true) :
    validIdent (formName sha1 env sig pre i) = true ∧
    validIdent (integralFactoryName sha1 env sig pre itype i sub cell) = true ∧
    (∀ id, validIdent (expressionName sha1 reprP env sig p pre id) = true) ∧
    (∀ m, moduleName sha1 reprP env r = some m → validIdent m = true) := by
  have hid : ∀ s, (sha1 s).all isIdentChar = true := fun s =>
    List.all_eq_true.mpr fun c hc => isIdent_of_hex (List.all_eq_true.mp (hsha s) c hc)
  refine ⟨validIdent_append (by decide) (hid _), ?_, fun _ => validIdent_append (by decide) (hid _), ?_⟩
  · unfold integralFactoryName integralName
    rw [List.append_assoc]
    refine validIdent_append (by decide) (all_ident_append (hid _) ?_)
    rw [List.all_cons, hcell]
    rfl
  · intro m hm
    obtain ⟨_, -, rfl⟩ := Option.map_eq_some_iff.mp hm
    split <;> exact validIdent_append (by decide) (hid _)

/-- `form_{prefix}_{name}` is a valid identifier when prefix and name consist of identifier
characters (the CLI sanitises the prefix: C20 `sanitise_ident`; names are Python identifiers or the
decimal index). -/
theorem alias_valid (kind pre name : Str) (hk : validIdent kind = true)
    (hp : pre.all isIdentChar = true) (hn : name.all isIdentChar = true) :
    validIdent (aliasName kind pre name) = true := by
  unfold aliasName
  refine validIdent_append hk ?_
  simp only [List.all_cons, List.all_append, Bool.and_eq_true]
  exact ⟨by decide, hp, by decide, hn⟩

example : aliasName (cs! "form") (cs! "poisson") (cs! "a") = cs! "form_poisson_a" := by decide +kernel
example : validIdent (cs! "form_poisson_a") = true := by decide +kernel
example : validIdent (cs! "9lives") = false := by decide +kernel

/-- The objects a module defines (JIT: `pre` = the module name). -/
inductive GenObj (P : Type) where
  | form (sig : Str) (formId : Int)
  | integral (sig : Str) (formId : Int) (d : IntegralData) (cell : Str)
  | expression (sig : Str) (p : P) (id : Int)

variable (pre : Str)

/-- The string whose SHA-1 names the object. -/
def GenObj.prehash : GenObj P → Str
  | .form sig i => formPre env sig pre i
  | .integral sig i d _ => integralPre env sig pre d.itype i d.sub
  | .expression sig p id => expressionPre reprP env sig p pre (some id)

def GenObj.name : GenObj P → Str
  | .form sig i => formName sha1 env sig pre i
  | .integral sig i d cell => integralFactoryName sha1 env sig pre d.itype i d.sub cell
  | .expression sig p id => expressionName sha1 reprP env sig p pre (some id)

/-- What must differ between two objects: the kind, the hashed string, or the cell suffix. -/
def GenObj.key : GenObj P → Nat × Str × Str
  | o@(.form ..) => (0, o.prehash reprP env pre, [])
  | o@(.integral _ _ _ cell) => (1, o.prehash reprP env pre, cell)
  | o@(.expression ..) => (2, o.prehash reprP env pre, [])

/-- Where the code puts an object in its module (kind, index, integral type, subdomain ids, cell) — no
signature in it. -/
def GenObj.pos : GenObj P → Nat × Int × Str × List Scalar × Str
  | .form _ i => (0, i, [], [], [])
  | .integral _ i d cell => (1, i, d.itype, d.sub, cell)
  | .expression _ _ id => (2, id, [], [], [])

/-- Side conditions under which the hashed strings can be read back: no `;` in the signature text (hex
digests), subdomain ids are ints / "otherwise". -/
def GenObj.OK : GenObj P → Prop
  | .form sig _ => ';' ∉ sig
  | .integral sig _ d _ => ';' ∉ sig ∧ ∀ v ∈ d.sub, v.Simple
  | .expression sig p _ => ';' ∉ sig ++ reprP p

/-- The step from keys to names: within one module all object names are distinct, provided SHA-1 is injective
on the hashed strings of the module and the keys (kind, hashed string, cell) are distinct. `names_distinct` below
derives the premise `hkeys` from the POSITIONS the code assigns. -/
theorem names_distinct_of_keys (hlen : ∀ s, (sha1 s).length = 40) (objs : List (GenObj P))
    (hinj : ∀ a ∈ objs, ∀ b ∈ objs, sha1 (a.prehash reprP env pre) = sha1 (b.prehash reprP env pre) →
      a.prehash reprP env pre = b.prehash reprP env pre)
    (hkeys : objs.Pairwise (fun a b => a.key reprP env pre ≠ b.key reprP env pre)) :
    (objs.map (GenObj.name sha1 reprP env pre)).Nodup := by
  unfold List.Nodup
  rw [List.pairwise_map]
  refine List.Pairwise.imp_of_mem ?_ hkeys
  intro a b ha hb hk hn
  apply hk
  have hab := hinj a ha b hb
  -- names of different kinds start with different letters; otherwise compare the 40 digest characters
  cases a <;> cases b
  case form.form => exact Prod.ext rfl (Prod.ext (hab (List.append_cancel_left hn)) rfl)
  case integral.integral =>
    obtain ⟨h1, h2⟩ := List.append_inj hn (by
      rw [integralName, integralName, List.length_append, List.length_append, hlen, hlen])
    exact Prod.ext rfl (Prod.ext (hab (List.append_cancel_left h1)) (List.cons.inj h2).2)
  case expression.expression => exact Prod.ext rfl (Prod.ext (hab (List.append_cancel_left hn)) rfl)
  all_goals exact absurd (List.cons.inj hn).1 (by decide)

/-- Non-vacuity of `names_distinct_of_keys`: a toy "hash" (the last 40 characters) that is injective on
the three hashed strings of a module with two forms and one integral. -/
example :
    let sha : Str → Str := fun s => (s.reverse.take 40).reverse.map (fun c => if isHexChar c then c else 'a')
    let e : Env := ⟨cs! "0.1", cs! "ab"⟩
    let objs : List (GenObj Unit) :=
      [.form (cs! "aa") 0, .form (cs! "bb") 1, .integral (cs! "aa") 0 ⟨cs! "cell", [.int 1], 0⟩ (cs! "triangle")]
    (∀ a ∈ objs, ∀ b ∈ objs, sha (a.prehash (fun _ => []) e (cs! "m")) = sha (b.prehash (fun _ => []) e (cs! "m")) →
      a.prehash (fun _ => []) e (cs! "m") = b.prehash (fun _ => []) e (cs! "m")) ∧
    objs.Pairwise (fun a b => a.key (fun _ => []) e (cs! "m") ≠ b.key (fun _ => []) e (cs! "m")) ∧
    (objs.map (GenObj.name sha (fun _ => []) e (cs! "m"))).Nodup := by
  decide +kernel

end Ident

/-- The hashed strings of two integrals are equal only if signature and the whole tag tuple are:
the key premise of `names_distinct_of_keys` reduces to "one tag per generated object". -/
theorem integralPre_inj_of_no_semi {env : Env} (henv : env.WF) {s₁ s₂ p₁ p₂ t₁ t₂ : Str} {i₁ i₂ : Int}
    {a₁ a₂ : List Scalar} (hs₁ : ';' ∉ s₁) (hs₂ : ';' ∉ s₂) (ha₁ : ∀ v ∈ a₁, v.Simple)
    (ha₂ : ∀ v ∈ a₂, v.Simple)
    (h : integralPre env s₁ p₁ t₁ i₁ a₁ = integralPre env s₂ p₂ t₂ i₂ a₂) :
    s₁ = s₂ ∧ p₁ = p₂ ∧ t₁ = t₂ ∧ i₁ = i₂ ∧ a₁ = a₂ := by
  obtain ⟨hs, -, ht⟩ := prehash_inj henv hs₁ hs₂ (by decide) (by decide) h
  exact ⟨hs, tag_inj.2.1 _ _ _ _ _ _ _ _ ha₁ ha₂ ht⟩

/-- … in particular for UFL signatures, which are hex and so hold no `;`. -/
theorem integralPre_inj {env : Env} (henv : env.WF) {s₁ s₂ p₁ p₂ t₁ t₂ : Str} {i₁ i₂ : Int}
    {a₁ a₂ : List Scalar} (hs₁ : IsSig s₁) (hs₂ : IsSig s₂) (ha₁ : ∀ v ∈ a₁, v.Simple)
    (ha₂ : ∀ v ∈ a₂, v.Simple)
    (h : integralPre env s₁ p₁ t₁ i₁ a₁ = integralPre env s₂ p₂ t₂ i₂ a₂) :
    s₁ = s₂ ∧ p₁ = p₂ ∧ t₁ = t₂ ∧ i₁ = i₂ ∧ a₁ = a₂ :=
  integralPre_inj_of_no_semi henv (fun hm => not_semi_of_hex (hs₁.2 _ hm) rfl)
    (fun hm => not_semi_of_hex (hs₂.2 _ hm) rfl) ha₁ ha₂ h

/-- The hashed strings of two forms of a module are equal only if signature, prefix and position are. -/
theorem formPre_inj {env : Env} (henv : env.WF) {s₁ s₂ p₁ p₂ : Str} {i₁ i₂ : Int}
    (hs₁ : ';' ∉ s₁) (hs₂ : ';' ∉ s₂) (h : formPre env s₁ p₁ i₁ = formPre env s₂ p₂ i₂) :
    s₁ = s₂ ∧ p₁ = p₂ ∧ i₁ = i₂ := by
  obtain ⟨hs, -, ht⟩ := prehash_inj henv hs₁ hs₂ (by decide) (by decide) h
  exact ⟨hs, tag_inj.1 _ _ _ _ ht⟩

/-- F12: `compute_ir` names an integral from (form, type, form id, subdomain ids) only. Two integral
data of one form that differ only in their integration domain get the same tag, hence the same
name whatever SHA-1 does: the list of names is not duplicate free. -/
theorem names_distinct_counterexample (sha1 : Str → Str) (env : Env) (sig pre : Str) :
    let d₁ : IntegralData := ⟨cs! "cell", [.str (cs! "otherwise")], 0⟩
    let d₂ : IntegralData := ⟨cs! "cell", [.str (cs! "otherwise")], 1⟩
    d₁ ≠ d₂ ∧
    (GenObj.integral (P := Unit) sig 0 d₁ (cs! "triangle")).pos =
      (GenObj.integral (P := Unit) sig 0 d₂ (cs! "triangle")).pos ∧
    ¬ ([GenObj.integral (P := Unit) sig 0 d₁ (cs! "triangle"),
        GenObj.integral sig 0 d₂ (cs! "triangle")].map
          (GenObj.name sha1 (fun _ => []) env pre)).Nodup := by
  refine ⟨by decide, rfl, ?_⟩
  simp [GenObj.name]

/-- The hashed strings of two expressions of a module are equal only if signature+points text,
prefix and position are. -/
theorem expressionPre_inj {reprP : P → Str} {env : Env} (henv : env.WF) {s₁ s₂ pre₁ pre₂ : Str}
    {p₁ p₂ : P} {i j : Int} (n₁ : ';' ∉ s₁ ++ reprP p₁) (n₂ : ';' ∉ s₂ ++ reprP p₂)
    (h : expressionPre reprP env s₁ p₁ pre₁ (some i) = expressionPre reprP env s₂ p₂ pre₂ (some j)) :
    s₁ ++ reprP p₁ = s₂ ++ reprP p₂ ∧ pre₁ = pre₂ ∧ i = j := by
  obtain ⟨hs, -, ht⟩ := prehash_inj henv n₁ n₂ (by decide) (by decide) h
  exact ⟨hs, tag_inj.2.2.1 _ _ _ _ ht⟩

/-! ## From positions to names

What the code establishes about the objects of one module is WHERE they sit, not what their signatures are:
`jit.compile_forms` / `compile_expressions` / `compute_ir` tag the i-th form with `(prefix, i)`, the i-th
expression with `(prefix, i)`, and an integral with `(prefix, type, form id, subdomain ids)` + the cell suffix.
`names_distinct` derives distinct names from distinct positions, whatever the signatures (equal forms listed
twice included); that the integrals of one form have distinct `(type, subdomain ids, cell)` is UFL's
`build_integral_data` grouping — true for one integration domain, false for two (F12, counterexample above). -/

/-- Objects at different positions of a module have different keys (kind, hashed string, cell). -/
theorem key_ne_of_pos_ne {reprP : P → Str} {env : Env} (henv : env.WF) (pre : Str) {a b : GenObj P}
    (ha : a.OK reprP) (hb : b.OK reprP) (hp : a.pos ≠ b.pos) :
    a.key reprP env pre ≠ b.key reprP env pre := by
  intro h
  apply hp
  obtain ⟨hkind, hpre, hcell⟩ := Prod.mk.inj h |>.imp id Prod.mk.inj
  cases a <;> cases b
  case form.form => exact congrArg (fun i => (0, i, [], [], [])) (formPre_inj henv ha hb hpre).2.2
  case integral.integral =>
    obtain ⟨-, -, h3, h4, h5⟩ := integralPre_inj_of_no_semi henv ha.1 hb.1 ha.2 hb.2 hpre
    exact Prod.ext rfl (Prod.ext h4 (Prod.ext h3 (Prod.ext h5 hcell)))
  case expression.expression =>
    exact congrArg (fun i => (2, i, [], [], [])) (expressionPre_inj henv ha hb hpre).2.2
  all_goals cases hkind

/-- The expression case of `key_ne_of_pos_ne`: expressions at different positions of one module have
different KEYS — even the same (expression, points) listed twice. -/
theorem expression_names_distinct {reprP : P → Str} {env : Env} (henv : env.WF) (pre : Str)
    {s₁ s₂ : Str} {p₁ p₂ : P} {i j : Int} (n₁ : ';' ∉ s₁ ++ reprP p₁) (n₂ : ';' ∉ s₂ ++ reprP p₂)
    (hij : i ≠ j) :
    (GenObj.expression s₁ p₁ i).key reprP env pre ≠ (GenObj.expression s₂ p₂ j).key reprP env pre :=
  key_ne_of_pos_ne henv pre n₁ n₂ fun e => hij (Prod.mk.inj (Prod.mk.inj e).2).1

/-- Within one module all object names are distinct, provided SHA-1 is injective on the hashed strings of
the module and the objects sit at pairwise different POSITIONS (kind, index, integral type, subdomain ids,
cell) — the signatures play no role. -/
theorem names_distinct (sha1 : Str → Str) {reprP : P → Str} {env : Env} (henv : env.WF) (pre : Str)
    (hlen : ∀ s, (sha1 s).length = 40) (objs : List (GenObj P))
    (hinj : ∀ a ∈ objs, ∀ b ∈ objs, sha1 (a.prehash reprP env pre) = sha1 (b.prehash reprP env pre) →
      a.prehash reprP env pre = b.prehash reprP env pre)
    (hok : ∀ o ∈ objs, o.OK reprP)
    (hpos : objs.Pairwise (fun a b => a.pos ≠ b.pos)) :
    (objs.map (GenObj.name sha1 reprP env pre)).Nodup :=
  names_distinct_of_keys sha1 reprP env pre hlen objs hinj
    (hpos.imp_of_mem fun ha hb h => key_ne_of_pos_ne henv pre (hok _ ha) (hok _ hb) h)

/-- The objects of a module as the code lays them out: `enumerate(forms)`, the integrals of the forms
(signature, form id, integral data, cell), `enumerate(expressions)`. -/
def moduleObjs (n k : Nat) (fsig : Nat → Str) (esig : Nat → Str × P)
    (ints : List (Str × Int × IntegralData × Str)) : List (GenObj P) :=
  ((List.range n).map fun (i : Nat) => GenObj.form (fsig i) (Int.ofNat i)) ++
  (ints.map fun (x : Str × Int × IntegralData × Str) => GenObj.integral x.1 x.2.1 x.2.2.1 x.2.2.2) ++
  ((List.range k).map fun (i : Nat) => GenObj.expression (esig i).1 (esig i).2 (Int.ofNat i))

/-- The positions the code assigns are pairwise different: forms and expressions are enumerated, whatever
their signatures; for the integrals this is the premise "one (form id, type, subdomain ids, cell) per
kernel". -/
theorem module_positions_distinct (n k : Nat) (fsig : Nat → Str) (esig : Nat → Str × P)
    (ints : List (Str × Int × IntegralData × Str))
    (hints : (ints.map fun (x : Str × Int × IntegralData × Str) =>
      (x.2.1, x.2.2.1.itype, x.2.2.1.sub, x.2.2.2)).Nodup) :
    (moduleObjs n k fsig esig ints).Pairwise (fun (a b : GenObj P) => a.pos ≠ b.pos) := by
  have hr : ∀ m : Nat, (List.range m).Pairwise (fun (i j : Nat) => Int.ofNat i ≠ Int.ofNat j) := fun m =>
    (List.nodup_range (n := m)).imp (fun h e => h (Int.ofNat.inj e))
  unfold moduleObjs
  rw [List.pairwise_append, List.pairwise_append]
  refine ⟨⟨?_, ?_, ?_⟩, ?_, ?_⟩
  · rw [List.pairwise_map]
    exact (hr n).imp (fun h e => h (congrArg (·.2.1) e))
  · unfold List.Nodup at hints
    rw [List.pairwise_map] at hints ⊢
    refine hints.imp (fun h e => h ?_)
    simp only [GenObj.pos, Prod.mk.injEq, true_and] at e
    simp only [Prod.mk.injEq]
    exact e
  · intro a ha b hb
    obtain ⟨i, _, rfl⟩ := List.mem_map.mp ha
    obtain ⟨x, _, rfl⟩ := List.mem_map.mp hb
    exact fun e => nomatch congrArg (·.1) e
  · rw [List.pairwise_map]
    exact (hr k).imp (fun h e => h (congrArg (·.2.1) e))
  · intro a ha b hb
    obtain ⟨j, _, rfl⟩ := List.mem_map.mp hb
    rcases List.mem_append.mp ha with ha | ha
    · obtain ⟨i, _, rfl⟩ := List.mem_map.mp ha
      exact fun e => nomatch congrArg (·.1) e
    · obtain ⟨x, _, rfl⟩ := List.mem_map.mp ha
      exact fun e => nomatch congrArg (·.1) e

/-- The same form twice and the same expression twice: positions differ although every signature is equal. -/
example : (moduleObjs (P := Unit) 2 2 (fun _ => cs! "aa") (fun _ => (cs! "bb", ())) []).Pairwise
    (fun (a b : GenObj Unit) => a.pos ≠ b.pos) :=
  module_positions_distinct 2 2 _ _ [] (by simp)

/-- The same expression twice in one module: two different names (toy hash = last 40 characters). -/
example :
    let sha : Str → Str := fun s => (s.reverse.take 40).reverse.map (fun c => if isHexChar c then c else 'a')
    let e : Env := ⟨cs! "0.1", cs! "ab"⟩
    ([GenObj.expression (P := Unit) (cs! "aa") () 0, GenObj.expression (cs! "aa") () 1].map
      (GenObj.name sha (fun _ => []) e (cs! "m"))).Nodup := by
  decide +kernel

end Ffcx.Naming
