/-
C19 — accepted input always yields valid C; rejected input fails before the compiler.

* `rule_ids_distinct` (complete finite table, regenerated from /repo on every run): for every cell
  type, two rules (degree 0..30 × scheme, and the vertex scheme) with the same `QuadratureRule.id()`
  have the same points — so `weights_<id>`, `sv_<id>`, `sp_<id>`, `FE…_Q<id>` never clash inside a kernel.
* the block-scoping checker `scopedS` (run on every generated kernel) is well behaved: a successful
  check never changes the nesting depth and never forgets a declaration of an enclosing scope
  (`scoped_inv`, `scopedL_inv`); `declare` fails exactly on a redeclaration in the innermost scope
  (`declare_spec`).  What acceptance means for a run of the kernel (no use of an undeclared
  identifier) is `scoped_sound` in FfcxProofs/C19Sound.lean.
What is not a theorem: that the C compiler accepts the text (decided by really compiling every
generated form with -std=c17 -Wall -Werror=implicit-function-declaration).
-/
import FfcxProofs.Lemmas.ScopeCheck
import FfcxModel.Generated.Rules

namespace Ffcx.LNodes

/-- same id within one cell type ⇒ same points (by digest) -/
def idsDistinct (rs : List Ffcx.Generated.RuleRec) : Bool :=
  rs.all (fun a => rs.all (fun b =>
    !(a.cell == b.cell && a.rid == b.rid && a.ridLen == b.ridLen) || a.digest == b.digest))

/-- the test of `idsDistinct` on one pair, the numbers first and the cell name (a string) last -/
def okPair (a b : Ffcx.Generated.RuleRec) : Bool :=
  a.rid != b.rid || a.ridLen != b.ridLen || a.digest == b.digest || a.cell != b.cell

def pairsOk : List Ffcx.Generated.RuleRec → Bool
  | [] => true
  | a :: rs => rs.all (okPair a) && pairsOk rs

/-- Two rules can clash only if their ids agree, so it is enough to compare the rules within each class of
ids with the same lowest `d` bits: halve the table once per bit, then compare each rule of a class with
the later ones (`pairsOk`).  Every depth `d` gives `idsDistinct` (`idsDistinct_of_clashFree`). -/
def clashFree : Nat → List Ffcx.Generated.RuleRec → Bool
  | 0, rs => pairsOk rs
  | d + 1, rs => clashFree d (rs.filter (·.rid.testBit d)) && clashFree d (rs.filter (!·.rid.testBit d))

/-- What `clashFree` establishes.  Only pairs with `a.rid = b.rid` are claimed: rules that fall into
    different classes are never compared, and for them `okPair` holds anyway by its first disjunct. -/
def NoClash (rs : List Ffcx.Generated.RuleRec) : Prop := ∀ a ∈ rs, ∀ b ∈ rs, a.rid = b.rid → okPair a b = true

theorem okPair_symm {a b : Ffcx.Generated.RuleRec} (h : okPair a b = true) : okPair b a = true := by
  simp only [okPair, Bool.or_eq_true, bne_iff_ne, beq_iff_eq, ne_eq] at h ⊢
  exact h.imp (Or.imp (Or.imp (· ∘ Eq.symm) (· ∘ Eq.symm)) Eq.symm) (· ∘ Eq.symm)

theorem pairsOk_spec : ∀ (rs : List Ffcx.Generated.RuleRec), pairsOk rs = true → NoClash rs
  | [], _ => fun _ ha => nomatch ha
  | c :: rs, h => by
    simp only [pairsOk, Bool.and_eq_true, List.all_eq_true] at h
    intro a ha b hb hr
    rcases List.mem_cons.1 ha with ea | ha' <;> rcases List.mem_cons.1 hb with eb | hb'
    · subst ea eb; simp [okPair]
    · exact ea ▸ h.1 b hb'
    · exact eb ▸ okPair_symm (h.1 a ha')
    · exact pairsOk_spec rs h.2 a ha' b hb' hr

theorem clashFree_spec : ∀ (d : Nat) (rs : List Ffcx.Generated.RuleRec), clashFree d rs = true → NoClash rs
  | 0, rs, h => pairsOk_spec rs h
  | d + 1, rs, h => by
    simp only [clashFree, Bool.and_eq_true] at h
    intro a ha b hb hr
    cases hbit : a.rid.testBit d
    · exact clashFree_spec d _ h.2 a (by simp [ha, hbit]) b (by simp [hb, ← hr, hbit]) hr
    · exact clashFree_spec d _ h.1 a (by simp [ha, hbit]) b (by simp [hb, ← hr, hbit]) hr

theorem idsDistinct_of_clashFree (d : Nat) {rs : List Ffcx.Generated.RuleRec} (h : clashFree d rs = true) :
    idsDistinct rs = true := by
  simp only [idsDistinct, List.all_eq_true]
  intro a ha b hb
  by_cases hr : a.rid = b.rid
  · have := clashFree_spec d rs h a ha b hb hr
    simp only [okPair, Bool.or_eq_true, bne_iff_ne, beq_iff_eq, ne_eq] at this
    simp only [Bool.or_eq_true, Bool.not_eq_true', Bool.and_eq_false_iff, beq_eq_false_iff_ne, beq_iff_eq]
    rcases this with ((h1 | h1) | h1) | h1
    · exact absurd hr h1
    · exact .inl (.inr h1)
    · exact .inr h1
    · exact .inl (.inl (.inl h1))
  · simp [hr]

-- Decided through `clashFree`: `idsDistinct` itself compares every pair of rules, the cell names (strings)
-- first.  Any depth would do (`idsDistinct_of_clashFree`); at 7 bits the classes of ids in the table are small.
theorem rule_ids_distinct : idsDistinct Ffcx.Generated.rules = true :=
  idsDistinct_of_clashFree 7 (by decide +kernel)

/-- non-vacuity: the table is not empty -/
example : Ffcx.Generated.rules.length > 100 := by decide +kernel

/-- The same test on ids cut to three hex digits, the width `QuadratureRule.id()` had before it was
    widened (the defect that was repaired: triangle default degree 15 / 26 shared `b76`); it evaluates
    to `false` on the regenerated table, which no theorem records. -/
def ids3Distinct (rs : List Ffcx.Generated.RuleRec) : Bool :=
  rs.all (fun a => rs.all (fun b =>
    !(a.cell == b.cell && a.rid % 4096 == b.rid % 4096) || a.digest == b.digest))

theorem declare_spec (sc : Scopes) (n : String) :
    (∀ sc', declare sc n = .ok sc' → declared sc' n = true ∧ sc'.length = max sc.length 1) ∧
    (∀ e, declare sc n = .error e → e = .redeclared n ∧ ∃ s rest, sc = s :: rest ∧ s.contains n = true) := by
  constructor
  · intro sc' h
    rw [(declare_shape h).2]
    cases sc <;> simp [declared]
  · intro e h
    cases sc with
    | nil => cases h
    | cons s rest =>
      simp only [declare] at h
      split at h <;> cases h
      rename_i hc
      exact ⟨rfl, s, rest, rfl, hc⟩

theorem declare_inv {sc sc' : Scopes} {n : String} (hne : sc ≠ []) (h : declare sc n = .ok sc') :
    sc'.length = sc.length ∧ ∀ m, declared sc m = true → declared sc' m = true :=
  (declare_grows h).inv hne

/-- a successful scope check leaves the nesting depth unchanged (braces balance) and keeps every
    previously visible identifier visible -/
theorem scoped_inv : ∀ (s : Stmt) (sc sc' : Scopes), sc ≠ [] → scopedS sc s = .ok sc' →
    sc'.length = sc.length ∧ ∀ m, declared sc m = true → declared sc' m = true :=
  fun _ _ _ hne h => (scopedS_grows h).inv hne

theorem scopedL_inv : ∀ (ss : List Stmt) (sc sc' : Scopes), sc ≠ [] → scopedL sc ss = .ok sc' →
    sc'.length = sc.length ∧ ∀ m, declared sc m = true → declared sc' m = true :=
  fun ss => scoped_inv (.block ss)

/-- non-vacuity: a section that declares `t` outside its braces and uses it inside is accepted, a
    use after the loop that declared the index is rejected, a redeclaration of a parameter is rejected -/
example :
    scopedKernel (.sect "s" [.vdecl "t" .scalar (.litF 1 0 false)]
      [.addAssign (.idx "A" .scalar [.litI 0]) (.sym "t" .scalar)] [] [] []) = .ok () ∧
    scopedKernel (.block [.forRange "i" (.litI 0) (.litI 2) [], .addAssign (.idx "A" .scalar [.sym "i" .int]) (.litF 1 0 false)])
      = .error (.undeclared "i") ∧
    scopedKernel (.vdecl "w" .scalar (.litF 1 0 false)) = .error (.redeclared "w") := by
  refine ⟨?_, ?_, ?_⟩ <;> rfl

end Ffcx.LNodes
