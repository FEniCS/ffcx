/-
C15 — failed or killed builds never poison later requests or the process.

Same transition system as C14 (`FfcxModel/Jit/Cache.lean`); `Reach` quantifies over every fail and
kill choice at every step of every request, followed by any later requests.
Since /repo commit 9fb79f1 (`try ... finally: root_logger.handlers = old_handlers`) `globals_restored`
holds at full strength; the model also lets a process issue further requests after a failed one
(`Choice.again`), which is where leaked globals would matter.

Fault domain: `fail` is honoured at code generation, at the four phases of `ffibuilder.compile`, at
`open(tmp_name,'x')`, at `fd.write(s)`/`fd.close()` of the marker's temp file and at
`os.replace(tmp_name, ready_name)`; `kill` everywhere.  Not modelled as fallible: the
`os.remove(tmp_name)` of the inner `finally` (the `bTmpRemove` row of `stepLive` ignores the choice).
Since /repo commit 101bdbe the marker is
completed under a temporary name and moved into place in one step, so every theorem holds for this
whole fault domain (before, a failing `fd.write` on the marker left a stale marker behind while the
lock was released: every later request rebuilt and died with `FileExistsError`, and a concurrent
one could import a `.so` that was being relinked; the first repair, removing the marker again,
still let a waiter that had seen the short-lived marker import a relinked `.so`).

`compile_forms` and `compile_expressions` share `get_cached_module`, `_compile_objects`,
`_load_objects` and have the same `try/except` around `_compile_objects`: the model is one
transition system for both; every theorem is about both, and `harness/props/c15.py` injects the
faults into both through the same scheduler.
-/
import FfcxProofs.Lemmas.Cache

namespace Ffcx.Jit

/-- If code generation or the C compiler fails - or creating / writing / publishing the ready marker -
the request raises without touching the cache any further: it
is in the `except` block (code generation), or in the `finally` block that restores the handlers and
leads to the `except` block (C compiler, marker), or first in the inner `finally` that removes the
marker's temp file (a); that step removes the temp file and nothing else (b); the `finally` block
restores the handlers (c); the `except` block renames the lock to `.failed` and re-raises, and in the
resulting state a newly arriving request — or the same process asking again — acquires the lock and
builds afresh instead of waiting (d). -/
theorem fail_releases_lock {s : Sys} (h : Reach s) (pid : Nat) (p : Proc)
    (hp : s.procs[pid]? = some p) :
    ((p.pc = .bGen ∨ p.pc = .bSrc ∨ p.pc = .bObj ∨ p.pc = .bLink1 ∨ p.pc = .bLink2 ∨
        p.pc = .bTmpCreate ∨ p.pc = .bTmpWrite ∨ p.pc = .bPublish) →
      (obs s pid .fail).res = .raise ∧ (step s pid .fail).fs = s.fs ∧
      ∃ q, (step s pid .fail).procs[pid]? = some q ∧
        (q.pc = .bFail .gen ∨ (∃ cause, q.pc = .bFailRestore cause) ∨ (∃ cause, q.pc = .bTmpRemove cause))) ∧
    (∀ cause : Cause, p.pc = .bTmpRemove cause → ∀ c : Choice, c ≠ .kill →
      obs s pid c = ⟨.tmpRemove, .ok⟩ ∧ (step s pid c).fs = { s.fs with tmp := false } ∧
      (step s pid c).procs[pid]? = some { p with pc := .bFailRestore cause }) ∧
    (∀ cause : Cause, p.pc = .bFailRestore cause → ∀ c : Choice, c ≠ .kill →
      obs s pid c = ⟨.restore, .unit⟩ ∧ (step s pid c).fs = s.fs ∧
      (step s pid c).procs[pid]? = some { p with pc := .bFail cause, g := userG }) ∧
    (∀ cause : Cause, p.pc = .bFail cause → ∀ c : Choice, c ≠ .kill →
      obs s pid c = ⟨.release, .ok⟩ ∧
      (step s pid c).fs.lock = .absent ∧ (step s pid c).fs.failed = true ∧
      (step s pid c).procs[pid]? = some { p with pc := .raised (.build cause) } ∧
      ∀ (j : Nat) (q : Proc), (step s pid c).procs[j]? = some q → q.pc = .idle →
        ∀ c' : Choice, c' ≠ .kill →
          obs (step s pid c) j c' = ⟨.lock, .ok⟩ ∧
          (step (step s pid c) j c').procs[j]? = some { q with pc := .bGen }) := by
  have hi := inv_reach h
  refine ⟨?_, ?_, ?_, ?_⟩
  · intro hpc
    have ht : p.pc.terminal = false := by
      rcases hpc with h | h | h | h | h | h | h | h <;> rw [h] <;> rfl
    obtain ⟨p', op, e, hp'⟩ : ∃ p' op, stepProc s.timeout s.fs p .fail = (s.fs, p', ⟨op, .raise⟩) ∧
        (p'.pc = .bFail .gen ∨ (∃ cause, p'.pc = .bFailRestore cause) ∨ (∃ cause, p'.pc = .bTmpRemove cause)) := by
      rw [stepProc_live ht (by simp)]
      rcases hpc with h | h | h | h | h | h | h | h <;> rw [h]
      · exact ⟨_, _, rfl, .inl rfl⟩
      iterate 4 exact ⟨_, _, rfl, .inr (.inl ⟨_, rfl⟩)⟩
      iterate 3 exact ⟨_, _, rfl, (Proc.markRaises_pc ..).elim (fun h => .inr (.inr ⟨_, h⟩)) (fun h => .inr (.inl ⟨_, h⟩))⟩
    have hs := step_procs_self hp e
    exact ⟨by rw [hs.2.2], hs.2.1, p', hs.1, hp'⟩
  · intro cause hpc c hc
    have hstep : stepProc s.timeout s.fs p c =
        ({ s.fs with tmp := false }, { p with pc := .bFailRestore cause }, ⟨.tmpRemove, .ok⟩) := by
      rw [stepProc_live (by rw [hpc]; rfl) hc, hpc]; rfl
    have hs := step_procs_self hp hstep
    exact ⟨hs.2.2, hs.2.1, hs.1⟩
  · intro cause hpc c hc
    have hloc := (hi.loc pid p hp).failRestore hpc
    have hstep : stepProc s.timeout s.fs p c =
        (s.fs, { p with pc := .bFail cause, g := userG }, ⟨.restore, .unit⟩) := by
      rw [stepProc_live (by rw [hpc]; rfl) hc, hpc]
      simp [stepLive, hloc.1, hloc.2, userG]
    have hs := step_procs_self hp hstep
    exact ⟨hs.2.2, hs.2.1, hs.1⟩
  · intro cause hpc c hc
    have hlock : s.fs.lock ≠ .absent := (hi.loc pid p hp).lockHeld (by rw [hpc]; rfl)
    have hstep : stepProc s.timeout s.fs p c =
        ({ s.fs with lock := .absent, failed := true }, { p with pc := .raised (.build cause) },
          ⟨.release, .ok⟩) := by
      rw [stepProc_live (by rw [hpc]; rfl) hc, hpc]
      simp [stepLive, hlock]
    have hs := step_procs_self hp hstep
    refine ⟨hs.2.2, by rw [hs.2.1], by rw [hs.2.1], hs.1, ?_⟩
    intro j q hq hidle c' hc'
    have hl' : (step s pid c).fs.lock = .absent := by rw [hs.2.1]
    have hstep' : stepProc (step s pid c).timeout (step s pid c).fs q c' =
        ({ (step s pid c).fs with lock := .empty }, { q with pc := .bGen }, ⟨.lock, .ok⟩) := by
      rw [stepProc_live (by rw [hidle]; rfl) hc', hidle]
      simp [stepLive, hl']
    have hs' := step_procs_self hq hstep'
    exact ⟨hs'.2.2, hs'.1⟩

/-- non-vacuity: the compiler fails at the object step; the handlers are restored; the lock is
renamed; request 1, which arrives afterwards, becomes the builder -/
example :
    let s := run (init 2 3) [(0, .none), (0, .none), (0, .none), (0, .none), (0, .fail)]
    s.procs.map (·.pc) = [.bFailRestore .compile, .idle] ∧ s.fs.lock = .source ∧
    (step s 0 .none).procs.map (·.pc) = [.bFail .compile, .idle] ∧
    (run s [(0, .none), (0, .none)]).fs = { lock := .absent, failed := true } ∧
    (run s [(0, .none), (0, .none), (1, .none)]).procs.map (·.pc) = [.raised (.build .compile), .bGen] := by
  decide

/-- Killed builders (and any other faults): from every reachable state, along every continuation
with arbitrary later requests (by new processes or by processes asking again) and arbitrary further
faults, a request that is scheduled `timeout + 16` times without being re-issued has terminated;
every import happens with a complete `.so`; whatever returned imported a complete `.so` - the one
now on disk; a `TimeoutError` is raised after exactly `timeout` polls; a polling waiter has polled
fewer than `timeout` times; `ModuleNotFoundError` is never raised. -/
theorem kill_safe {s : Sys} (h : Reach s) (sch : List (Nat × Choice)) (j : Nat) (p : Proc)
    (hp : (run s sch).procs[j]? = some p) :
    (noRetry sch j → sched sch j ≥ s.timeout + 16 → p.pc.terminal = true) ∧
    (p.pc.isLoad = true → (run s sch).fs.so = .complete) ∧
    (∀ (b : Bool) (so : So), p.pc = .done b so → so = .complete ∧ p.tok = (run s sch).fs.gen) ∧
    (p.pc = .raised .timeout → p.polls = s.timeout) ∧
    (∀ i : Nat, p.pc = .wPoll i → i < s.timeout) ∧
    p.pc ≠ .raised .notFound := by
  have hr := reach_run h sch
  have hi := inv_reach hr
  have hloc := hi.loc j p hp
  have hto := run_timeout s sch
  refine ⟨fun hn hs => terminal_of_sched s sch j p hn hs hp, ?_, ?_, ?_, ?_, ?_⟩
  · exact hi.load_complete hp
  · exact fun b so => hi.done_tok hp
  · exact fun hpc => hto ▸ (hloc.timedOut hpc).1
  · exact fun i hpc => hto ▸ (hloc.wPoll hpc).1
  · exact hloc.found

/-- non-vacuity: the builder is killed while the linker is writing (partial `.so`, no marker): the
later request polls `timeout` times and raises, it never imports; killed between creating the
marker's temp file and moving it into place: a stray temp file, no marker, the later request times
out as well; killed after the marker has been published: the later request imports the complete
module -/
example :
    let s := run (init 2 2) (List.replicate 6 (0, .none) ++ [(0, .kill)])
    s.fs = { lock := .source, so := .part, obj := true, gen := 1 } ∧
    (run s (List.replicate 3 (1, .none))).procs.map (·.pc) = [.dead, .raised .timeout] := by
  decide

example :
    let s := run (init 2 2) (List.replicate 10 (0, .none) ++ [(0, .kill)])
    s.fs = { lock := .source, so := .complete, obj := true, tmp := true, gen := 1 } ∧
    (run s (List.replicate 3 (1, .none))).procs.map (·.pc) = [.dead, .raised .timeout] := by
  decide

example :
    let s := run (init 2 2) (List.replicate 12 (0, .none) ++ [(0, .kill)])
    s.fs = { lock := .source, so := .complete, obj := true, marker := true, gen := 1 } ∧
    (run s (List.replicate 4 (1, .none))).procs.map (·.pc) = [.dead, .done false .complete] := by
  decide

/-- The marker is written only after the compiler returned: the only step that creates
`.c.cached` is the `os.replace(tmp_name, ready_name)` of a builder standing after a finished
`ffibuilder.compile` (complete `.so`, source, object file) whose `redirect_stdout` block has been
left. -/
theorem marker_after_compile {s : Sys} (h : Reach s) (pid : Nat) (c : Choice)
    (h0 : s.fs.marker = false) (h1 : (step s pid c).fs.marker = true) :
    ∃ p : Proc, s.procs[pid]? = some p ∧ p.pc = .bPublish ∧ obs s pid c = ⟨.publish, .ok⟩ ∧
      s.fs.so = .complete ∧ s.fs.lock = .source ∧ s.fs.obj = true ∧ p.g.stdout = .user := by
  have hi := inv_reach h
  cases hp : s.procs[pid]? with
  | none => rw [step_none c hp, h0] at h1; cases h1
  | some p =>
    rcases e : stepProc s.timeout s.fs p c with ⟨fs', p', o⟩
    have hs := step_procs_self hp e
    rw [hs.2.1] at h1
    have hm := stepProc_marks e h0 h1
    obtain ⟨hg, -, hlock, hobj, hso⟩ := (hi.loc pid p hp).publish hm.1
    refine ⟨p, rfl, hm.1, by rw [hs.2.2]; exact hm.2, hso, hlock, hobj, ?_⟩
    rw [hg]

/-- non-vacuity: the twelfth step of a lone builder publishes the marker -/
example :
    let s := run (init 1 3) (List.replicate 11 (0, .none))
    s.fs.marker = false ∧ (step s 0 .none).fs.marker = true := by
  decide

/-- The request has left `_compile_objects` (normally or by an exception). -/
def Pc.exitedCompileObjects : Pc → Bool
  | .bFind | .bLoad | .done true _ | .bFail _ | .raised (.build _) => true
  | _ => false

/-- The request has returned or raised (the process is alive and may ask again). -/
def Pc.finished : Pc → Bool
  | .done _ _ | .raised _ => true
  | _ => false

/-- Process-global state is left as it was found: in every reachable state (any interleaving, any
fail/kill choices, any re-issued requests), for EVERY exit point of `_compile_objects` — normal,
code generation failed, C compiler failed, creating / writing / publishing the marker failed — the root logger's handlers and
`sys.stdout` equal their entry values; every request that has returned or raised (for whatever
reason, builder or waiter) leaves the process with its initial globals; hence every request,
including one issued by a process whose previous request failed, starts with the user's globals. -/
theorem globals_restored {s : Sys} (h : Reach s) (i : Nat) (p : Proc) (hp : s.procs[i]? = some p) :
    (p.pc.exitedCompileObjects = true → p.g = userG) ∧
    (p.pc.finished = true → p.g = userG) ∧
    (p.pc = .idle → p.g = userG) := by
  have hloc := ((inv_reach h).loc i p hp).pc
  obtain ⟨pc, g, saved, polls, tok⟩ := p
  cases pc <;> simp_all [Pc.exitedCompileObjects, Pc.finished, LocPc, FailG]
  case raised e => cases e <;> simp_all

/-- The former counterexample schedule (one request, `ffibuilder.compile` fails at its first
phase), now with the `finally` step, followed by the same process asking again. -/
def failThenRetry : List (Nat × Choice) :=
  [(0, .none), (0, .none), (0, .none), (0, .fail), (0, .none), (0, .none), (0, .again)]

/-- non-vacuity: the C compiler fails; the request raises with restored globals and a released
lock; the same process asks again, starts with the user's globals and builds successfully; also the
normal exit and the code-generation failure -/
example :
    (run (init 1 3) (failThenRetry.take 6)).procs = [{ pc := .raised (.build .compile), saved := userG }] ∧
    (run (init 1 3) (failThenRetry.take 6)).fs = { lock := .absent, failed := true } ∧
    (run (init 1 3) failThenRetry).procs = [{ pc := .idle, saved := userG }] ∧
    (run (init 1 3) (failThenRetry ++ List.replicate 15 (0, .none))).procs =
      [{ pc := .done true .complete, saved := userG, tok := 1 }] ∧
    (run (init 1 3) (List.replicate 13 (0, .none))).procs = [{ pc := .bFind, saved := userG }] ∧
    (run (init 1 3) [(0, .none), (0, .fail), (0, .none)]).procs = [{ pc := .raised (.build .gen) }] ∧
    (run (init 1 3) failedMarkerWrite).procs = [{ pc := .raised (.build .tmpWrite), saved := userG }] := by
  decide

/-- A failed build never poisons later requests - in every reachable state, whatever failed or was
killed (including a failing write of the marker): no request is ever failed by a `FileExistsError`,
neither at `open(tmp_name,'x')` nor at the `ready_name.exists()` check (a); where there is no lock
there is neither a marker nor a temp file, so whoever acquires the lock builds into a clean
directory (b) - a stray temp file is only ever left by a killed builder, together with its lock;
a builder standing at `open(tmp_name,'x')` creates the file, and one standing at the marker check
finds no marker (c). -/
theorem no_poison {s : Sys} (h : Reach s) :
    (∀ (i : Nat) (p : Proc) (c : Cause), s.procs[i]? = some p →
      (p.pc = .bTmpRemove c ∨ p.pc = .bFailRestore c ∨ p.pc = .bFail c ∨ p.pc = .raised (.build c)) →
      c ≠ .marker ∧ c ≠ .tmpExists) ∧
    (s.fs.lock = .absent → s.fs.marker = false ∧ s.fs.tmp = false) ∧
    (∀ (i : Nat) (p : Proc), s.procs[i]? = some p → ∀ c : Choice, c ≠ .kill → c ≠ .fail →
      (p.pc = .bTmpCreate → obs s i c = ⟨.tmpCreate, .ok⟩) ∧
      (p.pc = .bMarkCheck → obs s i c = ⟨.markCheck, .false_⟩)) := by
  have hi := inv_reach h
  refine ⟨?_, ?_, ?_⟩
  · exact fun i p c hp hpc => (hi.loc i p hp).cause hpc
  · intro hl
    constructor
    · cases hm : s.fs.marker with
      | false => rfl
      | true => have := (hi.ginv.1 hm).2.1; rw [hl] at this; cases this
    · cases hm : s.fs.tmp with
      | false => rfl
      | true => exact absurd hl (hi.ginv.2 hm)
  · intro i p hp c hk hf
    have hl := hi.loc i p hp
    rcases e : stepProc s.timeout s.fs p c with ⟨fs', p', o⟩
    rw [(step_procs_self hp e).2.2]
    constructor
    · intro hpc
      have ht := hl.noTmp (by rw [hpc]; rfl)
      rw [stepProc_live (by rw [hpc]; rfl) hk, hpc] at e
      simp [stepLive, hf, ht] at e
      exact e.2.2.symm
    · intro hpc
      have hm := hl.noMarker (by rw [hpc]; rfl)
      rw [stepProc_live (by rw [hpc]; rfl) hk, hpc] at e
      simp [stepLive, hm] at e
      exact e.2.2.symm

/-- non-vacuity / regression (the former stale-marker and withdrawn-marker schedules): the builder's
`fd.write` on the marker raises; the directory is left without marker, temp file and lock; request 1
rebuilds successfully; request 2 and the process of request 0, asking again, reuse its module. -/
example :
    let builder (i : Nat) : List (Nat × Choice) := List.replicate 15 (i, .none)
    (run (init 3 2) failedMarkerWrite).fs = { so := .complete, obj := true, failed := true, gen := 1 } ∧
    (run (init 3 2) (failedMarkerWrite ++ builder 1)).procs.map (·.pc) =
      [.raised (.build .tmpWrite), .done true .complete, .idle] ∧
    (run (init 3 2) (failedMarkerWrite ++ builder 1 ++ List.replicate 4 (2, .none) ++
        (0, .again) :: List.replicate 4 (0, .none))).procs.map (fun p => (p.pc, p.tok)) =
      [(.done false .complete, 2), (.done true .complete, 2), (.done false .complete, 2)] ∧
    (run (init 3 2) (failedMarkerWrite ++ builder 1 ++ List.replicate 4 (2, .none) ++
        (0, .again) :: List.replicate 4 (0, .none))).nCompile = 2 := by
  decide

end Ffcx.Jit
