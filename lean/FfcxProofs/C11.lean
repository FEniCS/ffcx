/-
C11 — requested quadrature degree/scheme is honoured and exact where it should be.  (Algebra, for all rules, sizes
and exponents.)  The moment of a tensor-product rule on a product monomial is the product of the factor moments
(`wsum_product` of C10 with the points concatenated), so a product of 1-D rules exact to degree q is exact for every
x^a y^b (z^c) with each exponent ≤ q; a rule is linear in the integrand, so exactness on monomials gives exactness
on every polynomial they span.  Beside it the `vertex` scheme and the grouping of integrands by their rule.
`Rule`, `moment`, `tensor2` are the model's (`FfcxModel/Geometry/Quad.lean`, namespace `Ffcx.Quad`).
What is NOT proved: that Basix' Gauss–Jacobi data are exact to the stated degree (data; checked
numerically against rational closed forms for degrees 0..30), and the analytic fact that the closed
forms are the integrals.
-/
import FfcxProofs.C10
import FfcxProofs.Lemmas.QuadSelGroup

namespace Ffcx.Quad
open Lean.Grind

variable {R : Type} [CommRing R]

theorem monomial_append (p q : List R) (a b : List Nat) (h : p.length = a.length) :
    monomial (p ++ q) (a ++ b) = monomial p a * monomial q b := by
  induction p generalizing a with
  | nil =>
    cases a with
    | nil => exact (Semiring.one_mul _).symm
    | cons _ _ => cases h
  | cons x xs ih =>
    cases a with
    | nil => cases h
    | cons e es =>
      show x ^ e * monomial (xs ++ q) (es ++ b) = x ^ e * monomial xs es * monomial q b
      rw [ih es (Nat.succ.inj h), Semiring.mul_assoc]

theorem moment_eq_wsum (r : Rule R) (e : List Nat) : moment r e = wsum r (monomial · e) := rfl

/-- two factors; the points of the first factor all have `ea.length` coordinates.
`moment` is a `wsum` (`moment_eq_wsum`) and `tensor2` is the product rule that concatenates the points. -/
theorem tensor_rule_exact (r1 r2 : Rule R) (ea eb : List Nat)
    (h : ∀ a ∈ r1, a.1.length = ea.length) :
    moment (tensor2 r1 r2) (ea ++ eb) = moment r1 ea * moment r2 eb :=
  wsum_product r1 r2 (· ++ ·) (monomial · (ea ++ eb)) (monomial · ea) (monomial · eb)
    (fun a ha b => monomial_append a.1 b ea eb (h a ha))

theorem tensor2_length (r1 r2 : Rule R) (n m : Nat) (h1 : ∀ a ∈ r1, a.1.length = n)
    (h2 : ∀ b ∈ r2, b.1.length = m) : ∀ c ∈ tensor2 r1 r2, c.1.length = n + m := by
  intro c hc
  simp only [tensor2, List.mem_flatMap, List.mem_map] at hc
  obtain ⟨a, ha, b, hb, rfl⟩ := hc
  rw [List.length_append, h1 a ha, h2 b hb]

/-- three factors (hexahedron) -/
theorem tensor_rule_exact3 (r1 r2 r3 : Rule R) (ea eb ec : List Nat)
    (h1 : ∀ a ∈ r1, a.1.length = ea.length) (h2 : ∀ a ∈ r2, a.1.length = eb.length) :
    moment (tensor3 r1 r2 r3) (ea ++ (eb ++ ec)) = moment r1 ea * (moment r2 eb * moment r3 ec) := by
  rw [tensor3, tensor_rule_exact r1 _ ea (eb ++ ec) h1, tensor_rule_exact r2 r3 eb ec h2]

/-- exactness transfers: 1-D rules exact for x^k (k ≤ q), value `I k`, give a product rule exact for
    x^a y^b with a, b ≤ q, value `I a * I b` (for the unit interval `I k = 1/(k+1)`). -/
theorem tensor_rule_exact_upto (r1 r2 : Rule R) (I : Nat → R) (q : Nat)
    (h1 : ∀ a ∈ r1, a.1.length = 1) (e1 : ∀ k ≤ q, moment r1 [k] = I k)
    (e2 : ∀ k ≤ q, moment r2 [k] = I k) (a b : Nat) (ha : a ≤ q) (hb : b ≤ q) :
    moment (tensor2 r1 r2) [a, b] = I a * I b := by
  rw [← e1 a ha, ← e2 b hb]
  exact tensor_rule_exact r1 r2 [a] [b] h1

/-- a rule is additive and homogeneous in the integrand.  The model has `moment` for monomials only, so the
    left side is the `foldr` of `moment` with the integrand c·m₁ + m₂ written in; for a `wsum` with any integrand
    this is `wsum_linear`. -/
theorem moment_linear (r : Rule R) (c : R) (e1 e2 : List Nat) :
    r.foldr (fun (pw : List R × R) (acc : R) => pw.2 * (c * monomial (R := R) pw.1 e1 + monomial (R := R) pw.1 e2) + acc) (0 : R) =
      c * moment r e1 + moment r e2 :=
  wsum_linear r c (monomial · e1) (monomial · e2)

/-- the `vertex` scheme, with the points and weights the code defines, is exact for polynomials of degree ≤ 1 on
    the reference simplices (reference vertices and volumes as Basix defines them; the right sides are the closed
    forms a!b!c!/(d+a+b+c)!) -/
theorem vertex_rule_exact1 :
    (moment (vertexRule [[0], [1]] 1) [0] = 1 ∧ moment (vertexRule [[0], [1]] 1) [1] = 1 / 2) ∧
    (let r := vertexRule [[0, 0], [1, 0], [0, 1]] (1 / 2)
     moment r [0, 0] = 1 / 2 ∧ moment r [1, 0] = 1 / 6 ∧ moment r [0, 1] = 1 / 6) ∧
    (let r := vertexRule [[0, 0, 0], [1, 0, 0], [0, 1, 0], [0, 0, 1]] (1 / 6)
     moment r [0, 0, 0] = 1 / 6 ∧ moment r [1, 0, 0] = 1 / 24 ∧ moment r [0, 1, 0] = 1 / 24 ∧
       moment r [0, 0, 1] = 1 / 24) := by
  decide +kernel

/-- …and is NOT exact for x² on the triangle: the scheme is of order 1 only (non-vacuity of "≤ 1") -/
example : moment (vertexRule [[0, 0], [1, 0], [0, 1]] (1 / 2)) [2, 0] ≠ (1 / 12 : Rat) := by
  decide +kernel

variable {κ α : Type} [BEq κ] [LawfulBEq κ]

/-- every member of a group carries the group's key, if that held before the insertion -/
theorem groupInsert_sound (key : α → κ) (k : κ) (v : α) (hkv : key v = k) (g : List (κ × List α))
    (hg : ∀ p ∈ g, ∀ u ∈ p.2, key u = p.1) : ∀ p ∈ groupInsert k v g, ∀ u ∈ p.2, key u = p.1 := by
  intro p hp u hu
  have hm : (p.1, u) ∈ ungroup g ++ [(k, v)] :=
    (groupInsert_perm k v g).mem_iff.mp ((mem_ungroup _ _ _).mpr ⟨p.2, hp, hu⟩)
  rcases List.mem_append.mp hm with hm | hm
  · obtain ⟨vs, hvs, huv⟩ := (mem_ungroup _ _ _).mp hm
    exact hg _ hvs u huv
  · cases List.mem_singleton.mp hm
    exact hkv

/-- after grouping a list of (rule, integrand) pairs, every integrand is in the group of its own rule.
    That a group holds nothing but what was filed under its rule is `groupBy_mem_group`, that there is one group per
    rule and nothing is lost or duplicated are `groupBy_keys_nodup` and `groupBy_perm` (`Lemmas/QuadSelGroup.lean`);
    `groupInsert_sound` is the first for a single insertion. -/
theorem group_partition (l : List (κ × α)) :
    (∀ kv ∈ l, ∃ vs, (kv.1, vs) ∈ groupBy l ∧ kv.2 ∈ vs) :=
  fun kv h => (groupBy_mem_iff l kv.1 kv.2).mp h

example : groupBy [(1, "f"), (4, "fg"), (1, "h")] = [(1, ["f", "h"]), (4, ["fg"])] := by decide +kernel

end Ffcx.Quad
