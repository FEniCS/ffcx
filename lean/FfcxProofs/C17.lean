/-
C17 — AST simplifications and optimiser passes preserve the computed values.

The overloaded operators of `LExpr` (`neg_sound` … `float_product_sound`): for ALL operands (every
constructor, every literal value) and every state, in any field `R` with a lawful literal embedding,
the folded tree has the value of the unfolded operation; the `ValueError` branches are exactly
division by a zero literal.  Floating-point caveat (stated, not proved): `0*x = 0` and `x/… ` are
real-number facts; for IEEE NaN/Inf operands `0*x` is NaN, so folding can change non-finite results.

`MultiIndex.global_index` (`global_index_value`).

The rewrites of the optimiser passes, each taken alone, for all operand values and every state.
`licm` removes the loop-invariant factors from a `Product` and appends one temporary holding their
product, i.e. it replaces `Π args` by `Π (kept ++ [Π hoisted])` where `args` is a permutation of
`kept ++ hoisted` (`prod_perm_sound`, `licm_factor_sound`: in Lemmas/Fold, which Lemmas/OptLicm uses).
`fuse_sections` / `fuse_loops` concatenate statement lists (`execL_append`,
`fuse_adjacent_sections_partial`) and let a statement hop over others (`fuse_sections_hop_sound`).
The side conditions that are about *state* (a hoisted factor has the same value in the pre-loop as in
the inner loop; moved statements do not interfere with the statements they hop over) are the
decidable certificates of C17Opt.lean, where the passes themselves are proved sound for every part
list that passes them.
-/
import FfcxProofs.Lemmas.Fold
import FfcxProofs.Lemmas.Index
import FfcxProofs.Lemmas.Interleave
import FfcxModel.LNodes.Scalars

namespace Ffcx.LNodes

section Folding
open Lean.Grind
attribute [local instance] Lean.Grind.Ring.intCast
variable {R : Type} [Field R] {x : Extra R}

theorem neg_sound (h : LawfulExtra x) (σ : St R) (a : Expr) :
    eval x σ (lNeg a) = - eval x σ a := by
  unfold lNeg
  split
  · simp only [eval, h.ofRat_neg]
  · simp only [eval, Ring.intCast_neg]
  · simp only [eval]

theorem add_sound (h : LawfulExtra x) (σ : St R) (a b : Expr) :
    eval x σ (lAdd a b) = eval x σ a + eval x σ b := by
  refine lAdd_elim (P := fun e => eval x σ e = eval x σ a + eval x σ b) a b ?_ ?_ ?_ ?_
  · intro hz; rw [eval_isZero h σ a hz, AddCommMonoid.zero_add]
  · intro hz; rw [eval_isZero h σ b hz, Semiring.add_zero]
  · rintro c rfl; simp only [eval, Ring.sub_eq_add_neg]
  · simp only [eval]

theorem radd_sound (h : LawfulExtra x) (σ : St R) (a b : Expr) :
    eval x σ (lRAdd a b) = eval x σ b + eval x σ a := by
  refine lRAdd_elim (P := fun e => eval x σ e = eval x σ b + eval x σ a) a b ?_ ?_ ?_ ?_
  · intro hz; rw [eval_isZero h σ a hz, Semiring.add_zero]
  · intro hz; rw [eval_isZero h σ b hz, AddCommMonoid.zero_add]
  · rintro c rfl; simp only [eval, Ring.sub_eq_add_neg]
  · simp only [eval]

theorem sub_sound (h : LawfulExtra x) (σ : St R) (a b : Expr) :
    eval x σ (lSub a b) = eval x σ a - eval x σ b := by
  refine lSub_elim (P := fun e => eval x σ e = eval x σ a - eval x σ b) a b ?_ ?_ ?_ ?_ ?_
  · intro hz; rw [eval_isZero h σ a hz, neg_sound h, Ring.sub_eq_add_neg, AddCommMonoid.zero_add]
  · intro hz; rw [eval_isZero h σ b hz, Ring.sub_eq_add_neg, AddCommGroup.neg_zero, Semiring.add_zero]
  · rintro c rfl; simp only [eval, Ring.sub_eq_add_neg, AddCommGroup.neg_neg]
  · rintro u v rfl rfl; simp only [eval, Ring.intCast_sub]
  · simp only [eval]

theorem rsub_sound (h : LawfulExtra x) (σ : St R) (a b : Expr) :
    eval x σ (lRSub a b) = eval x σ b - eval x σ a := by
  refine lRSub_elim (P := fun e => eval x σ e = eval x σ b - eval x σ a) a b ?_ ?_ ?_ ?_
  · intro hz; rw [eval_isZero h σ a hz, Ring.sub_eq_add_neg, AddCommGroup.neg_zero, Semiring.add_zero]
  · intro hz; rw [eval_isZero h σ b hz, neg_sound h, Ring.sub_eq_add_neg, AddCommMonoid.zero_add]
  · rintro c rfl; simp only [eval, Ring.sub_eq_add_neg, AddCommGroup.neg_neg]
  · simp only [eval]

theorem mul_sound (h : LawfulExtra x) (σ : St R) (a b : Expr) :
    eval x σ (lMul a b) = eval x σ a * eval x σ b := by
  refine lMul_elim (P := fun e => eval x σ e = eval x σ a * eval x σ b) a b ?_ ?_ ?_ ?_ ?_ ?_ ?_ ?_
  · intro hz; rw [eval_isZero h σ a hz, Semiring.zero_mul]
  · intro hz; rw [eval_isZero h σ b hz, Semiring.mul_zero]
  · intro hz; rw [eval_isOne h σ a hz, Semiring.one_mul]
  · intro hz; rw [eval_isOne h σ b hz, Semiring.mul_one]
  · intro hz; rw [eval_isNegOne h σ b hz, Ring.mul_neg, Semiring.mul_one]; simp only [eval]
  · intro hz; rw [eval_isNegOne h σ a hz, Ring.neg_mul, Semiring.one_mul]; simp only [eval]
  · rintro u v rfl rfl; simp only [eval, Ring.intCast_mul]
  · simp only [eval]

theorem rmul_sound (h : LawfulExtra x) (σ : St R) (a b : Expr) :
    eval x σ (lRMul a b) = eval x σ b * eval x σ a := by
  refine lRMul_elim (P := fun e => eval x σ e = eval x σ b * eval x σ a) a b ?_ ?_ ?_ ?_ ?_ ?_ ?_
  · intro hz; rw [eval_isZero h σ a hz, Semiring.mul_zero]
  · intro hz; rw [eval_isZero h σ b hz, Semiring.zero_mul]
  · intro hz; rw [eval_isOne h σ a hz, Semiring.mul_one]
  · intro hz; rw [eval_isOne h σ b hz, Semiring.one_mul]
  · intro hz; rw [eval_isNegOne h σ b hz, Ring.neg_mul, Semiring.one_mul]; simp only [eval]
  · intro hz; rw [eval_isNegOne h σ a hz, Ring.mul_neg, Semiring.mul_one]; simp only [eval]
  · simp only [eval]

/-- `__div__` raises exactly when the divisor is a zero literal, and otherwise is sound. -/
theorem div_sound (h : LawfulExtra x) (σ : St R) (a b : Expr) :
    (lDiv a b = none ↔ isZero b = true) ∧
    ∀ e, lDiv a b = some e → eval x σ e = eval x σ a / eval x σ b := by
  unfold lDiv
  cases hb : isZero b
  · cases ha : isZero a
    · exact ⟨by simp, fun e he => by cases he; simp only [eval]⟩
    · refine ⟨by simp, fun e he => ?_⟩
      cases he
      rw [eval_isZero h σ a ha, Field.div_eq_mul_inv, Semiring.zero_mul]
  · exact ⟨by simp, fun e he => by cases he⟩

theorem rdiv_sound (h : LawfulExtra x) (σ : St R) (a b : Expr) :
    (lRDiv a b = none ↔ isZero a = true) ∧
    ∀ e, lRDiv a b = some e → eval x σ e = eval x σ b / eval x σ a :=
  div_sound h σ b a

theorem float_product_sound (h : LawfulExtra x) (σ : St R) (fs : List Expr) :
    eval x σ (floatProduct fs) = prodR (evalL x σ fs) := by
  unfold floatProduct
  rw [← prodR_filter_ones h σ fs]
  split
  · rename_i he; simp [he, eval, evalL, prodR, h.ofRat_one]
  · rename_i f he; simp only [he, evalL, prodR, Semiring.mul_one]
  · rename_i he; rw [eval_prod]

/-- Non-vacuity: the rationals with the driver's literal embedding are lawful. -/
theorem ratExtra_lawful : LawfulExtra (R := Rat) ratExtra :=
  ⟨rfl, rfl, fun _ _ => by simp [ratExtra]⟩

end Folding

/-- `MultiIndex.global_index` evaluates to Σ strideₖ·symₖ, for any rank and any sizes, whatever
    folding the `n * sym` products underwent; and when every symbol is inside its extent this is
    the row-major flat index (`flatIdx`). -/
theorem global_index_value (iv : AList Int) (ia : AList (Array Int)) (syms : List MSym)
    (sizes : List Nat) (vals : List Int)
    (hv : evalIs iv ia (syms.map MSym.toExpr) = some vals) :
    evalI iv ia (miGlobal syms sizes) =
      some (if sizes.isEmpty then 0 else dotStrides (strides sizes) vals) ∧
    ∀ k, flatIdx sizes vals = some k → evalI iv ia (miGlobal syms sizes) = some (k : Int) := by
  have h1 : evalI iv ia (miGlobal syms sizes) =
      some (if sizes.isEmpty then 0 else dotStrides (strides sizes) vals) := by
    unfold miGlobal
    split
    · simp [evalI]
    · simp [evalI, evalISum_miTerms iv ia (strides sizes) syms vals hv]
  refine ⟨h1, ?_⟩
  intro k hk
  rw [h1]
  have := flatIdx_dot sizes vals k hk
  split
  · rename_i he
    have : sizes = [] := by simpa using he
    subst this
    cases vals <;> simp [flatIdx] at hk
    simp [← hk]
  · rw [this]

section Fusion
variable {R : Type} [Add R] [Sub R] [Mul R] [Div R] [Neg R] [IntCast R] (x : Extra R)

/-- concatenating statement lists (what `fuse_sections` does with `statements.extend`, and
    `fuse_loops` with loop bodies) runs the first list, then the second -/
theorem execL_append (l₁ l₂ : List Stmt) (σ : St R) :
    execL x (l₁ ++ l₂) σ = (match execL x l₁ σ with
      | .error e => .error e
      | .ok σ' => execL x l₂ σ') := by
  rw [execL_append']
  cases execL x l₁ σ <;> rfl

/-- a `Section` is its declarations followed by its statements: two adjacent sections of the same
    name, the first without statements of its own, run like the fused one.  (When the first has
    statements, the second one's declarations have to hop over them: `fuse_sections_sound`, C17Opt.) -/
theorem fuse_adjacent_sections_partial (n : String) (d₁ d₂ s₂ : List Stmt)
    (i₁ o₁ a₁ i₂ o₂ a₂ i o a : List String) (σ : St R) :
    execL x [.sect n d₁ [] i₁ o₁ a₁, .sect n d₂ s₂ i₂ o₂ a₂] σ =
    exec x (.sect n (d₁ ++ d₂) ([] ++ s₂) i o a) σ := by
  simp only [execL, exec, List.nil_append]
  rw [execL_append]
  cases execL x d₁ σ with
  | error e => rfl
  | ok σ₁ =>
    dsimp only
    cases execL x d₂ σ₁ with
    | error e => rfl
    | ok σ₂ => simp only []; cases execL x s₂ σ₂ <;> rfl

/-- `fuse_sections` moves the declarations and statements of later same-named sections up to the
    first one, i.e. it lets a statement `t` hop over the list `p` of statements in between.  If `t`
    writes no name mentioned in `p` and `p` writes no name `t` mentions (decidable,
    `disjointB [t] p`), then `t; p` and `p; t` fail together or end in extensionally equal states, for
    every initial state.  (`fuse_sections_sound`, C17Opt, is about the pass itself, under the finer
    certificate `fsCert`.) -/
theorem fuse_sections_hop_sound (t : Stmt) (p : List Stmt) (hd : disjointB [t] p = true) (σ : St R) :
    ResEq ((exec x t σ).bind (execL x p)) ((execL x p σ).bind (exec x t)) := by
  have d := disjoint_of_disjointB [t] p hd
  refine hop_over_list x t p (fun n hn => ?_) (fun n hn => ?_) σ
  · have := d.2 n hn; simpa [neverWrittenL] using this
  · exact d.1 n (by simp [mentionsSL, hn])

end Fusion

end Ffcx.LNodes
