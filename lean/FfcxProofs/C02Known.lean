/-
C02 — statements that are EXPECTED TO FLIP when a known finding is repaired upstream.

Audited as its own obligation by `harness/props/c02.py`: if this module stops building while
`FfcxProofs.C02` still builds, the known finding
`refgeom:reference_facet_edge_vectors:ignores-facet` no longer reproduces in the model (the
regenerated `Generated/RefCells.lean` shows a table/access that takes the facet into account):
update `known_findings.jsonl` and retire the theorem below — nothing else is affected.
-/
import FfcxProofs.C02

namespace Ffcx.C02
open Ffcx.Generated

/-- **Counterexample (real defect of the pinned tree, known finding
`refgeom:reference_facet_edge_vectors:ignores-facet`).** `access.reference_facet_edge_vectors`
accepts the tetrahedron and the hexahedron, returns `table[component[0]][component[1]]` *without*
the facet index, while `geometry.reference_facet_edge_vectors` emits the vectors of all facets
flattened facet by facet: for facet 1, edge 1 of the tetrahedron the row read (`1`) is not the row
holding that edge (`rfevRow = 4`) and the two rows differ — UFL's `ReferenceFacetEdgeVectors`
("for each edge in current facet") evaluates to facet 0's edges on every facet. -/
theorem refgeom_access_counterexample :
    (accessOf tetrahedronCell "reference_facet_edge_vectors").map (fun a => (a.accepted, a.usesEntity, a.rank))
      = some (true, false, 2) ∧
    rfevRow tetrahedronCell 1 1 = 4 ∧
    getRow tetrahedronCell.referenceFacetEdgeVectors 1 ≠
      getRow tetrahedronCell.referenceFacetEdgeVectors (rfevRow tetrahedronCell 1 1) ∧
    (accessOf hexahedronCell "reference_facet_edge_vectors").map (fun a => (a.accepted, a.usesEntity))
      = some (true, false) := by
  decide +kernel

end Ffcx.C02
