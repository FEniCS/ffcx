/-
C02 — facet and vertex kernels integrate over the indicated entity.
Property theorems (DESIGN.md §6 C02).  Models: `FfcxModel/Geometry/RefCell.lean` (entity maps,
entity selection, macro layout), data `FfcxModel/Generated/RefCells.lean` (regenerated from /repo
on every run by `harness/extract_geom.py`); for `entity_table_read` also `FfcxModel/Geometry/TableRead.lean`
(`tableRead`) and `FfcxModel/IR/Perm.lean` (`buildTable`, `tableAccess`).  Helper lemmas:
`FfcxProofs/Lemmas/Geom.lean`.

`table_access_spec` (value read = basis function at the entity map of the permuted point) is in
`FfcxProofs/C03.lean`, with the other theorems about the permuted tables.

Everything that is *expected to become false* when the known finding
`refgeom:reference_facet_edge_vectors:ignores-facet` is repaired upstream
(`refgeom_access_counterexample`) lives in `FfcxProofs/C02Known.lean`, so that a repair breaks that
one obligation and not this module.
-/
import FfcxModel.Generated.RefCells
import FfcxModel.Geometry.TableRead
import FfcxProofs.Lemmas.Geom
import FfcxProofs.C03

namespace Ffcx.C02
open Ffcx.Geometry Ffcx.Generated Ffcx.Lemmas.Geom Ffcx.Perm

def vsub (a b : List Rat) : List Rat := List.zipWith (· - ·) a b
def vdot (a b : List Rat) : Rat := (List.zipWith (· * ·) a b).foldl (· + ·) 0
def absQ (x : Rat) : Rat := if x < 0 then -x else x

def cellByName (n : String) : RefCellData := (refCells.find? (fun c => c.name == n)).getD pointCell

def facetCell (c : RefCellData) (f : Nat) : RefCellData := cellByName (c.facetTypes.getD f "point")

/-- the parent cells on which facet integrals make sense (everything but the point) -/
def cells : List RefCellData := refCells.filter (fun c => c.tdim ≥ 1)
def cells3 : List RefCellData := refCells.filter (fun c => c.tdim = 3)

def centroid (c : RefCellData) : List Rat :=
  (List.range c.tdim).map (fun k => (c.geometry.map (fun v => comp v k)).foldl (· + ·) 0 / c.geometry.length)

def det2 (a b : List Rat) : Rat := comp a 0 * comp b 1 - comp a 1 * comp b 0
def cross (a b : List Rat) : List Rat :=
  [comp a 1 * comp b 2 - comp a 2 * comp b 1, comp a 2 * comp b 0 - comp a 0 * comp b 2,
   comp a 0 * comp b 1 - comp a 1 * comp b 0]
def det3 (a b c : List Rat) : Rat := vdot a (cross b c)

/-- triangles of a facet given by its vertex list (basix order; a quadrilateral `0,1,2,3` has
diagonal `0–3`) -/
def facetTriangles (fv : List Nat) : List (List Nat) :=
  match fv with
  | [a, b, c] => [[a, b, c]]
  | [a, b, c, d] => [[a, b, d], [a, d, c]]
  | _ => []

/-- Volume of the (convex) reference cell from its vertices: sum over the facets of the volumes of
the simplices spanned by the centroid and the (triangulated) facet. -/
def geomVolume (c : RefCellData) : Rat :=
  let g := centroid c
  match c.tdim with
  | 0 => 0   -- basix convention for the point
  | 1 => absQ (comp (c.vertex 1) 0 - comp (c.vertex 0) 0)
  | 2 => (c.facets.map (fun fv =>
      absQ (det2 (vsub (c.vertex (fv.getD 0 0)) g) (vsub (c.vertex (fv.getD 1 0)) g)) / 2)).foldl (· + ·) 0
  | _ => (c.facets.map (fun fv => ((facetTriangles fv).map (fun t =>
      absQ (det3 (vsub (c.vertex (t.getD 0 0)) g) (vsub (c.vertex (t.getD 1 0)) g)
        (vsub (c.vertex (t.getD 2 0)) g)) / 6)).foldl (· + ·) 0)).foldl (· + ·) 0

/-- normal of facet `fv` from its vertex order: 1D `(1)`, 2D the tangent rotated clockwise,
3D `(v₁-v₀)×(v₂-v₀)` -/
def vertexOrderNormal (c : RefCellData) (fv : List Nat) : List Rat :=
  let v := fun i => c.vertex (fv.getD i 0)
  match c.tdim with
  | 1 => [1]
  | 2 => let t := vsub (v 1) (v 0); [comp t 1, - comp t 0]
  | _ => cross (vsub (v 1) (v 0)) (vsub (v 2) (v 0))

/-- binary64 quantities are accepted within this absolute/relative tolerance (`1e-15`, about 4.5 units in the last
place at 1.0) -/
def tol : Rat := 1 / 1000000000000000

def refFacetVertex (c : RefCellData) (f i : Nat) : List Rat := (facetCell c f).vertex i

/-- For every cell type, every facet `f` and every vertex `i` of the
reference facet cell, `map_facet_points` sends that reference vertex to the cell vertex
`topology[tdim-1][f][i]` (for quadrilateral facets this includes the 4th vertex, which the map
itself never reads); every edge of the 3D cells likewise under `map_edge_points` (and the
"edges" of 2D cells, i.e. their vertices, with the substituted point `[0]`); and the vertex map
returns the vertex. -/
theorem facet_map_vertices :
    (∀ c ∈ cells, ∀ f ∈ List.range c.facets.length,
      ∀ i ∈ List.range (c.facets.getD f []).length,
        mapFacetPoints c f [refFacetVertex c f i] = [c.vertex ((c.facets.getD f []).getD i 0)]) ∧
    (∀ c ∈ cells, c.tdim ≥ 2 → ∀ e ∈ List.range c.ridges.length,
      ∀ i ∈ List.range (c.ridges.getD e []).length,
        mapEdgePoints c e [(cellByName (if c.tdim = 3 then "interval" else "point")).vertex i]
          = [c.vertex ((c.ridges.getD e []).getD i 0)]) ∧
    (∀ c ∈ cells, c.tdim ≥ 2 → ∀ v ∈ List.range c.geometry.length,
        mapIntegralPoints c .vertex v [[]] = [c.vertex v]) ∧
    (∀ c ∈ cells, c.tdim = 2 → ∀ v ∈ List.range c.geometry.length,
        mapIntegralPoints c .ridge v [[]] = [c.vertex v]) ∧
    (∀ c ∈ cells, c.tdim = 1 → ∀ v ∈ List.range c.geometry.length,
        mapIntegralPoints c .vertex v [[]] = [c.vertex v]) := by
  decide +kernel

/-- For every cell, every facet (edge) and all points `p`, `q` of equal dimension and every `t`:
`F(t·p + (1−t)·q) = t·F(p) + (1−t)·F(q)` — the reference-entity maps are affine, whatever the vertex
coordinates of `c` (over `Rat`; `Lemmas.Geom.mapEntityPoint_mix` is the same fact in any commutative ring),
hence with `facet_map_vertices` map the reference facet onto the facet `f` of the cell (prism: triangle and
quadrilateral facets alike). -/
theorem facet_map_affine (c : RefCellData) (f : Nat) (t : Rat) (p q : List Rat)
    (h : p.length = q.length) :
    mapFacetPoints c f [mix t p q] =
      [mix t ((mapFacetPoints c f [p]).getD 0 []) ((mapFacetPoints c f [q]).getD 0 [])] ∧
    mapEdgePoints c f [mix t p q] =
      [mix t ((mapEdgePoints c f [p]).getD 0 []) ((mapEdgePoints c f [q]).getD 0 [])] := by
  simp [mapFacetPoints, mapEdgePoints, mapEntityPoint_mix _ _ t p q h]

/-- Non-vacuity: the quadrilateral facet 3 = `[1,2,4,5]` of the prism at the point `(1/4, 1/2)`. -/
example : mapFacetPoints prismCell 3 [[1/4, 1/2]] = [[3/4, 1/4, 1/2]] := by decide +kernel

def getRow (t : Option (List (List Rat))) (i : Nat) : List Rat := (t.getD []).getD i []

/-- flat row of `reference_facet_edge_vectors` holding edge `k` of facet `f` -/
def rfevRow (c : RefCellData) (f k : Nat) : Nat :=
  ((List.range f).map (fun g => (facetCell c g).edges.length)).foldl (· + ·) 0 + k

/-- For every cell type, the tables *emitted* by
`ffcx/codegeneration/geometry.py` agree with the reference geometry/topology:
1. `reference_normals[f]` is orthogonal to the facet's edge vectors `vₖ−v₀`, outward
   (`n·(v₀−centroid) > 0`) and of unit length, to relative tolerance `1e-15` (exact binary64 data);
2. `cell_facet_jacobian[f][·][j] = v_{j+1} − v₀`;  3. `cell_ridge_jacobian[e][·][0] = v₁ − v₀`;
4. `reference_cell_volume` is within `1e-15` (relative) of the volume computed from the vertices,
   and so is `basix.cell.volume`; `reference_facet_volume` is the volume of the (common) facet cell;
5. `reference_cell_edge_vectors[e] = v_{e₁} − v_{e₀}`;
6. `reference_facet_edge_vectors` holds, flattened facet by facet, the vectors
   `v_{f[j]} − v_{f[i]}` for the edges `(i,j)` of the facet cell;
7. `facet_edge_vertices[f][k] = [f[i], f[j]]`;
8. `facet_orientation[f] = 1` iff the vertex-order normal of the facet points inward. -/
theorem refgeom_tables :
    -- 1. normals
    (∀ c ∈ cells, c.referenceNormals.isSome ∧ ∀ f ∈ List.range c.facets.length,
      let n := getRow c.referenceNormals f
      let fv := c.facets.getD f []
      n.length = c.tdim ∧
      (∀ k ∈ List.range fv.length,
        let e := vsub (c.vertex (fv.getD k 0)) (c.vertex (fv.getD 0 0))
        vdot n e * vdot n e ≤ tol * tol * vdot e e) ∧
      vdot n (vsub (c.vertex (fv.getD 0 0)) (centroid c)) > 0 ∧
      absQ (vdot n n - 1) ≤ tol) ∧
    -- 2. cell_facet_jacobian
    (∀ c ∈ cells, c.tdim ≥ 2 → c.cellFacetJacobian.isSome ∧ ∀ f ∈ List.range c.facets.length,
      ∀ k ∈ List.range c.tdim, ∀ j ∈ List.range (c.tdim - 1),
        let fv := c.facets.getD f []
        ((((c.cellFacetJacobian.getD []).getD f []).getD k []).getD j 0) =
          comp (c.vertex (fv.getD (j + 1) 0)) k - comp (c.vertex (fv.getD 0 0)) k) ∧
    -- 3. cell_ridge_jacobian
    (∀ c ∈ cells3, c.cellRidgeJacobian.isSome ∧ ∀ e ∈ List.range c.ridges.length,
      ∀ k ∈ List.range 3,
        let ev := c.ridges.getD e []
        ((((c.cellRidgeJacobian.getD []).getD e []).getD k []).getD 0 0) =
          comp (c.vertex (ev.getD 1 0)) k - comp (c.vertex (ev.getD 0 0)) k) ∧
    -- 4. volumes
    (∀ c ∈ cells, absQ (c.volume - geomVolume c) ≤ tol * geomVolume c ∧
      c.referenceCellVolume = some c.volume ∧
      (∀ v, c.referenceFacetVolume = some v →
        (∀ f ∈ List.range c.facets.length, c.facetTypes.getD f "" = c.facetTypes.getD 0 "") ∧
        v = (facetCell c 0).volume)) ∧
    -- 5. reference_cell_edge_vectors
    (∀ c ∈ cells, c.referenceCellEdgeVectors.isSome ∧ ∀ e ∈ List.range c.edges.length,
      let ev := c.edges.getD e []
      getRow c.referenceCellEdgeVectors e = vsub (c.vertex (ev.getD 1 0)) (c.vertex (ev.getD 0 0))) ∧
    -- 6. reference_facet_edge_vectors (flattened)
    (∀ c ∈ cells3, c.referenceFacetEdgeVectors.isSome ∧ ∀ f ∈ List.range c.facets.length,
      ∀ k ∈ List.range (facetCell c f).edges.length,
        let fv := c.facets.getD f []
        let ed := (facetCell c f).edges.getD k []
        getRow c.referenceFacetEdgeVectors (rfevRow c f k) =
          vsub (c.vertex (fv.getD (ed.getD 1 0) 0)) (c.vertex (fv.getD (ed.getD 0 0) 0))) ∧
    -- 7. facet_edge_vertices
    (∀ c ∈ cells3, ∀ t, c.facetEdgeVertices = some t → ∀ f ∈ List.range c.facets.length,
      ∀ k ∈ List.range (facetCell c f).edges.length,
        let fv := c.facets.getD f []
        let ed := (facetCell c f).edges.getD k []
        (t.getD f []).getD k [] = [fv.getD (ed.getD 0 0) 0, fv.getD (ed.getD 1 0) 0]) ∧
    -- 8. facet_orientation
    (∀ c ∈ cells, c.facetOrientation.isSome ∧ ∀ f ∈ List.range c.facets.length,
      let fv := c.facets.getD f []
      ((c.facetOrientation.getD []).getD f 2 = 1 ↔
        vdot (vertexOrderNormal c fv) (vsub (c.vertex (fv.getD 0 0)) (centroid c)) < 0) ∧
      ((c.facetOrientation.getD []).getD f 2 = 0 ∨ (c.facetOrientation.getD []).getD f 2 = 1)) := by
  decide +kernel

def accessOf (c : RefCellData) (table : String) : Option AccessInfo :=
  c.access.find? (fun a => a.table == table)

/-- tables whose rows are per facet / per ridge -/
def perEntityTables : List String :=
  ["reference_normals", "cell_facet_jacobian", "cell_ridge_jacobian", "facet_orientation",
   "reference_facet_edge_vectors"]

/-- The full statement `refgeom_access` — *every* per-entity
geometry table that `access.py` accepts for a cell type is subscripted by `entity_local_index[r]` —
fails for `reference_facet_edge_vectors`, see `refgeom_access_counterexample` in
`FfcxProofs/C02Known.lean`; it is proved for the other per-entity tables: normals, facet/ridge
Jacobians, orientations. -/
theorem refgeom_access_partial :
    ∀ c ∈ cells, ∀ a ∈ c.access, a.accepted = true → a.table ∈ perEntityTables →
      a.table ≠ "reference_facet_edge_vectors" → a.usesEntity = true := by
  decide +kernel

/-- The regenerated data the `decide` theorems of this file range over is
what it is supposed to be (an empty or truncated `refCells`, a facet cell that does not resolve, or
a table that silently became `none` would make them vacuous):
* `refCells` holds exactly the 8 cell types, `cells` the 7 of dimension ≥ 1 with their numbers of
  vertices, facets and edges, `cells3` the four 3D cells;
* every facet's cell type resolves to a reference cell with as many vertices as the facet;
* the two tables `refgeom_tables` treats under a `= some v →` guard are present where FFCx emits
  them: `reference_facet_volume` for interval, triangle, quadrilateral, tetrahedron, hexahedron
  (prism/pyramid have facets of two types: the writer raises), `facet_edge_vertices` for
  tetrahedron and hexahedron (prism/pyramid: the writer raises on the ragged array); all other
  tables are asserted `isSome` by `refgeom_tables` itself;
* every cell has one `access` record per geometry table, and the 17 (cell, per-entity table) pairs
  that `access.py` accepts on the pinned tree are accepted — the premises of
  `refgeom_access_partial` are satisfied 17 times.
(`harness/extract_geom.py` records why a table/handler is absent; `harness/props/c02.py` reports an
absence that is not on its expected list.) -/
theorem refgeom_nonvacuous :
    refCells.map (·.name) = ["point", "interval", "triangle", "quadrilateral", "tetrahedron",
      "hexahedron", "prism", "pyramid"] ∧
    cells.map (fun c => (c.name, c.tdim, c.geometry.length, c.facets.length, c.edges.length)) =
      [("interval", 1, 2, 2, 1), ("triangle", 2, 3, 3, 3), ("quadrilateral", 2, 4, 4, 4),
       ("tetrahedron", 3, 4, 4, 6), ("hexahedron", 3, 8, 6, 12), ("prism", 3, 6, 5, 9),
       ("pyramid", 3, 5, 5, 8)] ∧
    cells3.map (·.name) = ["tetrahedron", "hexahedron", "prism", "pyramid"] ∧
    (∀ c ∈ cells, (cellByName c.name).name = c.name ∧ c.facetTypes.length = c.facets.length ∧
      ∀ f ∈ List.range c.facets.length, (facetCell c f).name = c.facetTypes.getD f "" ∧
        (facetCell c f).geometry.length = (c.facets.getD f []).length) ∧
    (∀ n ∈ ["interval", "triangle", "quadrilateral", "tetrahedron", "hexahedron"],
      (cellByName n).referenceFacetVolume.isSome) ∧
    (∀ n ∈ ["tetrahedron", "hexahedron"], (cellByName n).facetEdgeVertices.isSome) ∧
    (∀ c ∈ cells, (c.access.map (·.table)) = ["reference_normals", "cell_facet_jacobian",
      "cell_ridge_jacobian", "reference_cell_volume", "reference_facet_volume",
      "reference_cell_edge_vectors", "reference_facet_edge_vectors", "facet_orientation"]) ∧
    (∀ nt ∈ [("interval", "reference_normals"), ("interval", "facet_orientation"),
        ("triangle", "reference_normals"), ("triangle", "cell_facet_jacobian"),
        ("triangle", "facet_orientation"), ("quadrilateral", "reference_normals"),
        ("quadrilateral", "cell_facet_jacobian"), ("tetrahedron", "reference_normals"),
        ("tetrahedron", "cell_facet_jacobian"), ("tetrahedron", "cell_ridge_jacobian"),
        ("tetrahedron", "facet_orientation"), ("hexahedron", "reference_normals"),
        ("hexahedron", "cell_facet_jacobian"), ("hexahedron", "cell_ridge_jacobian"),
        ("prism", "cell_facet_jacobian"), ("prism", "cell_ridge_jacobian"),
        ("pyramid", "cell_facet_jacobian")],
      (accessOf (cellByName nt.1) nt.2).map (·.accepted) = some true) := by
  decide +kernel

/-- The table row used is `entity_local_index[0]` for '+' and for
unrestricted terminals and `entity_local_index[1]` for '-'; cell tables use row 0 whatever the
restriction; vertex and ridge integrals use `entity_local_index[0]`. -/
theorem entity_by_restriction (eli : List Nat) :
    entityRow .facet .plus eli = eli.getD 0 0 ∧
    entityRow .facet .none eli = eli.getD 0 0 ∧
    entityRow .facet .minus eli = eli.getD 1 0 ∧
    (∀ r, entityRow .cell r eli = 0) ∧
    (∀ r, entityRow .vertex r eli = eli.getD 0 0) ∧
    (∀ r, entityRow .ridge r eli = eli.getD 0 0) := by
  refine ⟨rfl, rfl, rfl, ?_, ?_, ?_⟩ <;> intro r <;> cases r <;> rfl

/-- Non-vacuity: on the interior facet with local indices `[2, 0]` the '+' side reads row 2 and the
'-' side row 0 — distinct rows, so exchanging the two sides is observable. -/
example : entityRow .facet .plus [2, 0] = 2 ∧ entityRow .facet .minus [2, 0] = 0 := by decide

/-- Entity selection composed with the table layout, over the model's
`buildTable`: what a kernel reads through `table_access` (model `tableRead` = `tableAccess` at the
row `symbols.entity(entity_type, restriction)`) is the basis function `d` at the reference-entity map
**of the entity `entity_local_index[r]`** (`r = 1` for '-', else 0):
1. interior facets with reflections (triangle/quadrilateral/tetrahedron/hexahedron cells), permuted
   table: at the point permuted by the code `quadrature_permutation[r]`;
2. one-row tables (exterior facets, vertices, ridges, interval cells): at the rule's point, entity
   `entity_local_index[0]`. -/
theorem entity_table_read {P C V : Type} [Inhabited V] (perm : Nat → Nat → P → P)
    (F : Nat → P → C) (phi : Nat → C → V) (nent ndof : Nat) (X : List P) (dP : P)
    (qperm eli : List Nat) (q d : Nat) (hq : q < X.length) (hd : d < ndof) :
    (∀ (t : FacetType) (r : Restriction), t.numRef = 2 → qperm.getD r.idx 0 < t.numCodes →
      eli.getD r.idx 0 < nent →
      tableRead (buildTable t perm F phi nent ndof X) ⟨true, false, false⟩ .facet r qperm eli q d
        = phi d (F (eli.getD r.idx 0) (perm (codeRef (qperm.getD r.idx 0)) (codeRot (qperm.getD r.idx 0))
            (X.getD q dP)))) ∧
    (∀ (et : EntityType) (r : Restriction), (∀ p, perm 0 0 p = p) → et ≠ .cell →
      (et = .facet → r ≠ .minus) → eli.getD 0 0 < nent →
      tableRead (buildTable .point perm F phi nent ndof X) ⟨false, false, false⟩ et r qperm eli q d
        = phi d (F (eli.getD 0 0) (X.getD q dP))) := by
  refine ⟨?_, ?_⟩
  · intro t r ht hN he
    -- the statement says `r.idx`, `tableRead` passes `r.isMinus`, `table_access_spec` has `if minus then 1 else 0`:
    -- for each `r` the three reduce to the same numeral
    cases r <;>
      exact Ffcx.C03.table_access_spec t ht perm F phi nent ndof X dP _ qperm _ q d hN he hq hd
  · intro et r hperm hcell hfac he
    obtain ⟨hp, hn, _, _, hv, hr⟩ := entity_by_restriction eli
    have hrow : entityRow et r eli = eli.getD 0 0 := by
      cases et
      · exact absurd rfl hcell
      · cases r
        · exact hp
        · exact absurd rfl (hfac rfl)
        · exact hn
      · exact hv r
      · exact hr r
    simp only [tableRead, hrow]
    exact Ffcx.C03.table_access_spec_noperm perm hperm F phi nent ndof X dP _ qperm _ q d he hq hd

/-- Non-vacuity: hexahedron-like sizes (6 entities), quadrilateral facet, codes `[5, 2]`, local
facets `[4, 1]`: the '-' side reads entity 1 at the point rotated once (code 2 = 1 rotation). -/
example :
    tableRead (buildTable .quadrilateral (fun ref rot => permuteQuad (R := Rat) ref rot)
        (fun e p => (p.1 + e, p.2)) (fun d p => if d = 0 then p.1 else p.2) 6 2
        [(1/4, 1/2), (1/8, 1/8)]) ⟨true, false, false⟩ .facet .minus [5, 2] [4, 1] 0 0 = 3/2 := by
  decide +kernel

/-- For an interior-facet integral with argument dimensions `(n, m)`:
* the four `(±,±)` blocks `(ri, rj)` of `A` are disjoint and tile `[0, 4nm)`: `aIndex` is a
  bijection from `{0,1}×{0,1}×[0,n)×[0,m)` onto `[0, 4nm)` (and `aIndex1` from `{0,1}×[0,n)` onto
  `[0, 2n)` for linear forms);
* `w[k][r][i] ↦ off_k + r·dim_k + i` is a bijection from the valid `(k, r, i)` onto `[0, 2·Σdim)`,
  for any number of coefficients with any dimensions;
* `coordinate_dofs[r][node][c] ↦ 3·nodes·r + 3·node + c` is a bijection from
  `{0,1}×[0,nodes)×[0,3)` onto `[0, 6·nodes)`. -/
theorem macro_layout :
    -- A, bilinear
    (∀ n m : Nat,
      (∀ ri rj i j, ri < 2 → rj < 2 → i < n → j < m → aIndex n m ri rj i j < 4 * n * m) ∧
      (∀ ri rj i j ri' rj' i' j', ri < 2 → rj < 2 → i < n → j < m → ri' < 2 → rj' < 2 → i' < n →
        j' < m → aIndex n m ri rj i j = aIndex n m ri' rj' i' j' →
        ri = ri' ∧ rj = rj' ∧ i = i' ∧ j = j') ∧
      (∀ k, k < 4 * n * m → ∃ ri rj i j, ri < 2 ∧ rj < 2 ∧ i < n ∧ j < m ∧ k = aIndex n m ri rj i j)) ∧
    -- A, linear
    (∀ n : Nat,
      (∀ r i, r < 2 → i < n → aIndex1 n r i < 2 * n) ∧
      (∀ r i r' i', i < n → i' < n → aIndex1 n r i = aIndex1 n r' i' → r = r' ∧ i = i') ∧
      (∀ k, k < 2 * n → ∃ r i, r < 2 ∧ i < n ∧ k = aIndex1 n r i)) ∧
    -- w
    (∀ dims : List Nat,
      (∀ k r i, k < dims.length → r < 2 → i < dims.getD k 0 → wIndex dims k r i < 2 * sumDims dims) ∧
      (∀ k r i k' r' i', k < dims.length → k' < dims.length → r < 2 → r' < 2 →
        i < dims.getD k 0 → i' < dims.getD k' 0 → wIndex dims k r i = wIndex dims k' r' i' →
        k = k' ∧ r = r' ∧ i = i') ∧
      (∀ x, x < 2 * sumDims dims →
        ∃ k r i, k < dims.length ∧ r < 2 ∧ i < dims.getD k 0 ∧ x = wIndex dims k r i)) ∧
    -- coordinate_dofs
    (∀ nodes : Nat,
      (∀ r node c, r < 2 → node < nodes → c < 3 → xIndex nodes r node c < 6 * nodes) ∧
      (∀ r node c r' node' c', r < 2 → r' < 2 → node < nodes → node' < nodes → c < 3 → c' < 3 →
        xIndex nodes r node c = xIndex nodes r' node' c' → r = r' ∧ node = node' ∧ c = c') ∧
      (∀ x, x < 6 * nodes → ∃ r node c, r < 2 ∧ node < nodes ∧ c < 3 ∧ x = xIndex nodes r node c)) := by
  refine ⟨fun n m => ?_,
    fun n => ⟨fun r i hr hi => pair_lt hr hi, fun r i r' i' hi hi' h => pair_inj hi hi' h,
      fun k hk => pair_surj hk⟩,
    fun dims => ?_, fun nodes => ?_⟩
  -- `A[(ri, i)][(rj, j)]`: a pair of pairs, row-major over `2n × 2m`
  · have e : 2 * n * (2 * m) = 4 * n * m := by rw [Nat.mul_mul_mul_comm, Nat.mul_assoc 4]
    refine ⟨fun ri rj i j hri hrj hi hj => e ▸ pair_lt (pair_lt hri hi) (pair_lt hrj hj), ?_, ?_⟩
    · intro ri rj i j ri' rj' i' j' _ hrj hi hj _ hrj' hi' hj' h
      obtain ⟨h1, h2⟩ := pair_inj (pair_lt hrj hj) (pair_lt hrj' hj') h
      obtain ⟨h3, h4⟩ := pair_inj hi hi' h1
      obtain ⟨h5, h6⟩ := pair_inj hj hj' h2
      exact ⟨h3, h5, h4, h6⟩
    · intro k hk
      obtain ⟨a, b, ha, hb, hk'⟩ := pair_surj (K := 2 * n) (M := 2 * m) (e ▸ hk)
      obtain ⟨ri, i, hri, hi, rfl⟩ := pair_surj ha
      obtain ⟨rj, j, hrj, hj, rfl⟩ := pair_surj hb
      exact ⟨ri, rj, i, j, hri, hrj, hi, hj, hk'⟩
  -- `w`: position `r·dim_k + i` (a pair layout of `2 × dim_k`) of block `k` of the tiling `coeff_blocks_tile 2 dims`
  · obtain ⟨T, hl, hs, -⟩ := Layout.coeff_blocks_tile 2 dims
    have hw : ∀ k r i, k < dims.length →
        wIndex dims k r i = (Layout.coeffOffsets 2 dims).getD k 0 + (r * dims.getD k 0 + i) := fun k r i hk => by
      rw [wIndex, wOffset_eq 2 dims k hk, Nat.add_assoc]
    have hin : ∀ {k r i}, r < 2 → i < dims.getD k 0 →
        r * dims.getD k 0 + i < (Layout.blockSizes 2 dims).getD k 0 := fun hr hi => hs _ ▸ pair_lt hr hi
    rw [sumDims_eq]
    refine ⟨fun k r i hk hr hi => hw k r i hk ▸ T.index_lt (hl ▸ hk) (hin hr hi),
      fun k r i k' r' i' hk hk' hr hr' hi hi' h => ?_, fun x hx => ?_⟩
    · rw [hw k r i hk, hw k' r' i' hk'] at h
      obtain ⟨rfl, h⟩ := T.index_inj (hl ▸ hk) (hl ▸ hk') (hin hr hi) (hin hr' hi') h
      exact ⟨rfl, pair_inj hi hi' h⟩
    · obtain ⟨k, j, hk, hj, rfl⟩ := T.index_surj hx
      obtain ⟨r, i, hr, hi, rfl⟩ := pair_surj (hs k ▸ hj)
      exact ⟨k, r, i, hl ▸ hk, hr, hi, (hw k r i (hl ▸ hk)).symm⟩
  -- `coordinate_dofs`: `(r, node)` paired, then paired with the component
  · refine ⟨fun r node c hr hn hc => ?_, ?_, fun x hx => ?_⟩
    · have := pair_lt (pair_lt hr hn) hc
      rw [xIndex_eq]; omega
    · intro r node c r' node' c' _ _ hn hn' hc hc' h
      rw [xIndex_eq, xIndex_eq] at h
      obtain ⟨h1, h3⟩ := pair_inj hc hc' h
      exact ⟨(pair_inj hn hn' h1).1, (pair_inj hn hn' h1).2, h3⟩
    · obtain ⟨a, c, ha, hc, rfl⟩ := pair_surj (K := 2 * nodes) (M := 3) (k := x) (by omega)
      obtain ⟨r, node, hr, hn, rfl⟩ := pair_surj ha
      exact ⟨r, node, c, hr, hn, hc, (xIndex_eq ..).symm⟩

/-- Non-vacuity: P2 test × P1 trial functions on triangles (n = 6, m = 3), two coefficients of
dimensions 6 and 3: the '-','+' block starts at `6·6 = 36`, the '-' part of the second coefficient
at `2·6 + 3 = 15`, the '-' cell's node 2, component 1 at `3·3 + 7 = 16`. -/
example : aIndex 6 3 1 0 0 0 = 36 ∧ wIndex [6, 3] 1 1 0 = 15 ∧ xIndex 3 1 2 1 = 16 := by decide

end Ffcx.C02
