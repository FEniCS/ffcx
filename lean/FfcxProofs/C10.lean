/-
C10 — optimisation options never change the computed tensor.  (Algebraic cores.)
Sum factorisation rests on `wsum_product`: the weighted sum over a product rule of a function that splits into
per-direction factors (tables × coefficient sums) is the product of the per-direction sums, for any rules and sizes;
C11's `tensor_rule_exact` is the same lemma with the points concatenated instead of paired.  Beside it the
re-indexing between the flat and the factorised loop nest, the diagonal kernel and the clamping of table values.
The hypothesis that the real full table IS the outer product of the real factor tables is data
(Basix): it is checked numerically per table by the harness, as are the option-pair comparisons.
-/
import FfcxProofs.Lemmas.Tiling

namespace Ffcx.Quad
open Lean.Grind

variable {R : Type} [CommRing R]

/-- Σ_{a∈r} w_a·f a -/
def wsum {α : Type} (r : List (α × R)) (f : α → R) : R :=
  r.foldr (fun (pw : α × R) (acc : R) => pw.2 * f pw.1 + acc) (0 : R)

/-- the product rule on pairs of points; `tensor2` of the model is the same with the two points
    concatenated (`++`) instead of paired -/
def tensorPts {α β : Type} (r1 : List (α × R)) (r2 : List (β × R)) : List ((α × β) × R) :=
  r1.flatMap (fun a => r2.map (fun b => ((a.1, b.1), a.2 * b.2)))

theorem wsum_cons {α : Type} (a : α × R) (r : List (α × R)) (f : α → R) :
    wsum (a :: r) f = a.2 * f a.1 + wsum r f := rfl

theorem wsum_append {α : Type} (r1 r2 : List (α × R)) (f : α → R) :
    wsum (r1 ++ r2) f = wsum r1 f + wsum r2 f := by
  induction r1 with
  | nil => exact (AddCommMonoid.zero_add _).symm
  | cons a as ih => rw [List.cons_append, wsum_cons, wsum_cons, ih, Semiring.add_assoc]

theorem wsum_linear {α : Type} (r : List (α × R)) (c : R) (f g : α → R) :
    wsum r (fun p => c * f p + g p) = c * wsum r f + wsum r g := by
  induction r with
  | nil => simp only [wsum, List.foldr]; grind
  | cons a as ih => rw [wsum_cons, wsum_cons, wsum_cons, ih]; grind

/-- one row of a product rule: the points `φ b` with weights `w·w_b`, for `F (φ b) = c · g b` -/
theorem wsum_map_mul {β γ : Type} (w c : R) (r : List (β × R)) (φ : β → γ) (F : γ → R) (g : β → R)
    (h : ∀ b, F (φ b) = c * g b) :
    wsum (r.map (fun b => (φ b.1, w * b.2))) F = w * c * wsum r g := by
  induction r with
  | nil => exact (Semiring.mul_zero _).symm
  | cons b bs ih => rw [List.map_cons, wsum_cons, wsum_cons, ih, h]; grind

/-- the weighted sum over the product rule `{(φ a b, w_a·w_b)}` of a function that splits as
`F (φ a b) = f a · g b` is the product of the two weighted sums; `φ` is pairing for `tensorPts` and
concatenation of coordinates for `tensor2` -/
theorem wsum_product {α β γ : Type} (r1 : List (α × R)) (r2 : List (β × R)) (φ : α → β → γ) (F : γ → R)
    (f : α → R) (g : β → R) (h : ∀ a ∈ r1, ∀ b, F (φ a.1 b) = f a.1 * g b) :
    wsum (r1.flatMap (fun a => r2.map (fun b => (φ a.1 b.1, a.2 * b.2)))) F = wsum r1 f * wsum r2 g := by
  induction r1 with
  | nil => exact (Semiring.zero_mul _).symm
  | cons a as ih =>
    rw [List.flatMap_cons, wsum_append, wsum_map_mul a.2 (f a.1) r2 (φ a.1) F g (h a (by simp)),
      ih (fun a' ha' => h a' (by simp [ha'])), wsum_cons, Semiring.right_distrib]

/-- two directions (quadrilateral): `wsum_product` with pairing as `φ` -/
theorem sum_factorization_identity {α β : Type} (r1 : List (α × R)) (r2 : List (β × R))
    (f : α → R) (g : β → R) :
    wsum (tensorPts r1 r2) (fun p => f p.1 * g p.2) = wsum r1 f * wsum r2 g :=
  wsum_product r1 r2 Prod.mk _ f g (fun _ _ _ => rfl)

/-- three directions (hexahedron) -/
theorem sum_factorization_identity3 {α β γ : Type} (r1 : List (α × R)) (r2 : List (β × R))
    (r3 : List (γ × R)) (f : α → R) (g : β → R) (h : γ → R) :
    wsum (tensorPts r1 (tensorPts r2 r3)) (fun p => f p.1 * (g p.2.1 * h p.2.2)) =
      wsum r1 f * (wsum r2 g * wsum r3 h) := by
  rw [sum_factorization_identity r1 (tensorPts r2 r3) f (fun q => g q.1 * h q.2),
    sum_factorization_identity r2 r3 g h]

/-- the flat quadrature / dof index `i0·n1 + i1` determines the pair `(i0, i1)`, for any extents.  This is the
    injective half; that the flat index stays below `n0·n1` and reaches every such number are `pair_lt`, `pair_surj`
    of `Lemmas/Tiling.lean`. -/
theorem flat_pair_bijective (n1 : Nat) (i0 i1 j0 j1 : Nat) (hi : i1 < n1) (hj : j1 < n1)
    (h : i0 * n1 + i1 = j0 * n1 + j1) : i0 = j0 ∧ i1 = j1 :=
  Lemmas.Geom.pair_inj hi hj h

/-- over a duplicate-free index list, Σ_k δ_{ki}·g k is the term of `i` -/
theorem foldr_ite_eq (g : Nat → R) (i : Nat) (l : List Nat) (hn : l.Nodup) :
    l.foldr (fun k acc => (if k = i then g k else 0) + acc) (0 : R) = if i ∈ l then g i else 0 := by
  induction l with
  | nil => rfl
  | cons a as ih =>
    rw [List.nodup_cons] at hn
    rw [List.foldr_cons, ih hn.2]
    by_cases h : a = i
    · subst h
      rw [if_pos rfl, if_neg hn.1, if_pos List.mem_cons_self, Semiring.add_zero]
    · rw [if_neg h, AddCommMonoid.zero_add]
      simp only [List.mem_cons, Ne.symm h, false_or]

/-- the diagonal kernel: with both argument loops sharing one index the accumulated entry `i` is
    what the full kernel accumulates in entry `(i, i)` -/
theorem diagonal_of_outer (n : Nat) (f : Nat → Nat → R) (i : Nat) (hi : i < n) :
    (List.range n).foldr (fun k acc => (if k = i then f k k else 0) + acc) (0 : R) = f i i := by
  rw [foldr_ite_eq (fun k => f k k) i _ List.nodup_range, if_pos (List.mem_range.mpr hi)]

def absR (x : Rat) : Rat := if x < 0 then -x else x

/-- `clamp_table_small_numbers` on one value, for one target number `n`
    (`np.isclose(x, n)`: |x − n| ≤ atol + rtol·|n|) -/
def clampTo (rtol atol n x : Rat) : Rat :=
  if absR (x - n) ≤ atol + rtol * absR n then n else x

theorem absR_sub_comm (a b : Rat) : absR (a - b) = absR (b - a) := by
  grind [absR]

/-- clamping moves a table value by at most the tolerance of `np.isclose` (FFCx clamps to n ∈ {−1, 0, 1}) -/
theorem clamp_bound_real (rtol atol n x : Rat) :
    absR (clampTo rtol atol n x - x) ≤ atol + rtol * absR n ∨ clampTo rtol atol n x = x := by
  unfold clampTo
  split
  · rename_i h
    exact .inl (absR_sub_comm x n ▸ h)
  · exact .inr rfl

example : clampTo (1/1000000) (1/1000000000) 1 (9999999/10000000) = 1 := by
  decide +kernel

end Ffcx.Quad
