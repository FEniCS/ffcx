/-
C17, optimiser half — the passes of `ffcx/codegeneration/optimizer.py` (transcribed in
`FfcxModel/LNodes/Optimizer.lean`, namespace `Ffcx.LNodes.Opt`) preserve what a kernel computes.

Semantics: `exec` / `execL` of `FfcxModel/LNodes/Sem.lean`.  Scalars: for section and loop fusion any
carrier with the arithmetic operations (no laws are used: statements are only reordered); for `licm`
and the composition any field (`Lean.Grind.Field`): a product is reassociated and commuted.  IEEE
floating point is OUT OF SCOPE of the `licm` theorems: reassociation changes rounding (the harness
measures that separately, by compiled runs with `optimize` disabled).

What "the same" means.  `ObsRes D r₁ r₂`: both runs fail, or both succeed in states that agree on
every scalar variable and every array (in particular `A`) and on every integer variable outside `D`;
`D` are loop indices (`optDead`), dead at the end of a section: a loop re-binds its index, and the
certificates check that nothing reads one free.  `ObsRes2 D T` additionally ignores the names
`T = temp_0 … temp_{k-1}` of the arrays created by `licm`, in all four stores (a scalar variable or an
integer array of such a name is not compared either).  `Refines D T old new`: if the optimised run
succeeds then so does the original one, in an `Obs2 D T`-related state.  All statements are for EVERY
initial state, i.e. for all inputs of the kernel.

Side conditions are DECIDABLE certificates on the input code (`FfcxModel/LNodes/OptCert.lean`:
`fsCert`, `flCert`, `licmCert`, `licmTripCert`, `optimizeCert`), evaluated by `driver_opt` on every
part list the generators pass to `optimize` (`harness/opt_checks.py`); a real kernel that fails one
is reported.  The theorems are about the transcription; its agreement with the Python code is
decided by structural comparison on every real part list and on seeded synthetic ones.

`check_dependency_sound_partial` covers the subscripts `check_dependency` inspects completely; what
it misses is exhibited (`check_dependency_counterexample*`, `licm_counterexample`: a different `A`),
excluded by `licmCert` and searched for in real kernels.  Two loops over the SAME index commute
without any renaming of indices: a loop does not depend on the incoming value of its index
(`exec_depends_on_free_names`).
-/
import FfcxProofs.Lemmas.OptCompose
import FfcxModel.LNodes.Scalars

namespace Ffcx.LNodes
open Ffcx.LNodes.Opt

section AnyCarrier
variable {R : Type} [Add R] [Sub R] [Mul R] [Div R] [Neg R] [IntCast R] (x : Extra R)

/-- The free-name frame lemma (also the content of the α-renaming question): a statement depends only
    on the integer variables that occur FREE in it — a loop does not depend on the incoming value of
    its own index — and on the scalar variables / arrays it mentions. -/
theorem exec_depends_on_free_names (s : Stmt) (P Q : String → Prop) (σ τ : St R)
    (hp : ∀ n, freeS n s = true → P n) (hq : ∀ n, mentionsS n s = true → Q n)
    (h : AgreeOnQ P Q σ τ) : RelResP (AgreeOnQ P Q) (exec x s σ) (exec x s τ) :=
  relResP_iff.2 (exec_agreeOnQ x s P σ τ hp hq h)

/-- The swap the fusion passes are made of: two statements that pass the footprint test `commB` may
    change places, up to the dead loop indices `D`. -/
theorem commute_sound (D : List String) (s₁ s₂ : Stmt) (h : commB D s₁ s₂ = true) (σ : St R) :
    ObsRes (fun n => n ∈ D) ((exec x s₁ σ).bind (exec x s₂)) ((exec x s₂ σ).bind (exec x s₁)) :=
  commB_sound x D s₁ s₂ h σ

/-- Whenever the transcription of `fuse_sections code name` returns, and the
    declarations / statements of every later same-named section may hop over what lies in between
    (`fsCert`), the fused part list is observationally equivalent to the original one, for every
    initial state. -/
theorem fuse_sections_sound (D : List String) (code code' : List Stmt) (name : String)
    (h : fuseSections code name = .ok code') (hc : fsCert D code name = true) (σ : St R) :
    ObsRes (fun n => n ∈ D) (execL x code σ) (execL x code' σ) := by
  rw [fuseSections] at h
  obtain ⟨fused, h1, h⟩ := bind_eq_ok.mp h
  cases h
  simp only [fsCert, Bool.and_eq_true] at hc
  exact (fs_top (x := x) name fused code (Rw.fused h1) hc.2).obsRes hc.1 σ

/-- Fusion of loops whose bodies touch disjoint names up to dead indices, any trip count `n`, any start
    `lo`: `for i {B}; for i {C}` ≈ `for i {B; C}` when `B` does not write `i` and the two LOOPS pass
    `commB`.  That is a condition on names, not on array entries, and less than the classical legality
    condition: `for i {x[i] = 1}; for i {y[i] += x[i]}` fails it (`C` reads the array `B` writes). -/
theorem loop_fusion_sound (D : List String) (i : String) (B C : List Stmt)
    (hBi : neverWrittenL i B = true) (hcomm : commB D (loop0 i B) (loop0 i C) = true)
    (hdC : deadOK D [loop0 i C] = true) (n : Nat) (lo : Int) (σ : St R) :
    ObsRes (fun m => m ∈ D)
      ((loopN (execL x B) i lo n σ).bind (loopN (execL x C) i lo n))
      (loopN (execL x (B ++ C)) i lo n σ) :=
  loopN_fuse x D i B C hBi hcomm ((deadOK_iff D _).mp hdC) n lo σ

/-- Whenever the transcription of `fuse_loops section` returns and `flCert`
    holds, the section with its non-loop statements first and its equal-range loops merged is
    observationally equivalent to the original one. -/
theorem fuse_loops_sound (D : List String) (s s' : Stmt) (h : fuseLoops s = .ok s')
    (hc : flCert D s = true) (σ : St R) : ObsRes (fun n => n ∈ D) (exec x s σ) (exec x s' σ) :=
  fuse_loops_model_sound x D s s' h hc σ

end AnyCarrier

section Field
open Lean.Grind
attribute [local instance] Lean.Grind.Ring.intCast
variable {R : Type} [Field R] (x : Extra R)

/-- Whenever the transcription of `licm section` returns, `licmCert` holds (every
    factor that `check_dependency` declares independent of the inner index really is invariant in the
    loop nest, the `temp_k` names are fresh, …) and the inner loop has at least one iteration
    (`licmTripCert`), the optimised section and the original one fail together or end in states that
    agree on everything except the temporaries and the integer variable of the outer loop — in
    particular on `A`. -/
theorem licm_sound (s s' : Stmt) (h : licm s = .ok s') (hc : licmCert s = true)
    (ht : licmTripCert s = true) (σ : St R) :
    ObsRes2 (licmDead s) (tempNames (licmTemps s)) (exec x s σ) (exec x s' σ) :=
  (licm_model_sound x s s' h hc).of_trip ht σ

/-- without the trip-count condition one direction remains (and the other is false, see
    `licm_empty_inner_counterexample`): if the optimised section runs without error then so does the
    original one, with the same result; and both directions hold as soon as the pre-loops succeed. -/
theorem licm_refines (s s' : Stmt) (h : licm s = .ok s') (hc : licmCert s = true) :
    (∀ σ : St R, Refines (licmDead s) (tempNames (licmTemps s)) (exec x s σ) (exec x s' σ)) ∧
    (∀ σ σd : St R, execL x (sDecls s) σ = .ok σd → (∃ τ, execL x (licmPre s) σd = .ok τ) →
      ObsRes2 (licmDead s) (tempNames (licmTemps s)) (exec x s σ) (exec x s' σ)) :=
  ⟨(licm_model_sound x s s' h hc).refines, (licm_model_sound x s s' h hc).of_pre⟩

/-- the pre-loops of `licm` cannot fail where the original loop nest succeeds: in a successful run
    of `for o<N { for n∈[a,b) { body } }` with `a < b`, every factor of every statement of the body
    that mentions neither `n` nor a name the body writes is safe to evaluate before the nest, for every
    value of `o` -/
theorem hoisted_factors_safe (o n : String) (N : Nat) (a b : Int) (hab : a < b) (body : List Stmt)
    (σ σ' : St R)
    (hrun : exec x (.forRange o (.litI 0) (.litI (N : Int)) [.forRange n (.litI a) (.litI b) body]) σ = .ok σ')
    (arr : String) (dt : DType) (ix args : List Expr)
    (hL : Stmt.addAssign (.idx arr dt ix) (.prod args) ∈ leaves body) (h : Expr) (hh : h ∈ args)
    (hn : mentionsE n h = false) (hw : ∀ m, mentionsE m h = true → neverWrittenL m body = true)
    (v : Nat) (hv : v < N) : safeE (σ.setIV o v) h = true :=
  nest_reach x o n N a b hab body σ σ' hrun arr dt ix args hL h hh hn hw v hv

/-- the algebraic heart of `licm`: `Π (rem ++ [t]) = Π args` when `args ~ rem ++ hoisted` and `t`
    holds `Π hoisted` (any field, any number of factors) -/
theorem licm_product_sound (σ : St R) (args rem hoisted : List Expr) (t : Expr)
    (hperm : args.Perm (rem ++ hoisted)) (ht : eval x σ t = eval x σ (.prod hoisted)) :
    eval x σ (.prod (rem ++ [t])) = eval x σ (.prod args) :=
  licm_factor_sound σ args rem hoisted t hperm ht

/-- what is hoisted, and what `args.remove(h)` for every candidate `h` leaves: exactly the factors with
    `check_dependency = False`, resp. the others — although `remove` compares with `==`, which
    identifies `Symbol("x", REAL)` and `Symbol("x", INT)` -/
theorem licm_split (n : String) (args cands : List Expr) (h : hoistCandidates n args = .ok cands) :
    cands = args.filter (isCand n) ∧ removeAll args cands = args.filter (fun a => !isCand n a) := by
  have hc := hoistCandidates_filter n args cands h
  exact ⟨hc, by rw [hc]; exact removeAll_filter (isCand n) (fun _ _ => isCand_of_pyEq n) args⟩

/-- The composition.  Whenever the transcription of `optimize code` returns and
    `optimizeCert code` holds, the optimised part list and the original one fail together or end in
    states that agree, at every name that is no `temp_k`, on the scalar variables and on the arrays
    (so on `A`), and on the integer variables that moreover are no loop indices — for every initial
    state, i.e. for all inputs.
    The steps of `optimize` chained by `ObsRes2.trans`: `fuse_sections` twice (each `ObsRes`, lifted by
    `toObsRes2`), then the per-section passes, where `contextCert` makes what follows a section blind
    to the dead indices and to the temporaries (`optimizeSections_sound`). -/
theorem optimize_sound (code code' : List Stmt) (h : optimize code = .ok code')
    (hc : optimizeCert code = true) (σ : St R) :
    ObsRes2 (optDead code) (optTemps code) (execL x code σ) (execL x code' σ) := by
  rw [optimize] at h
  obtain ⟨c1, h1, h⟩ := bind_eq_ok.mp h
  obtain ⟨c2, h2, h⟩ := bind_eq_ok.mp h
  simp only [optimizeCert, h1, h2, contextCert, Bool.and_eq_true] at hc
  have hT : optTemps code = tempNames (maxTemps c2) := by simp [optTemps, h1, h2]
  rw [hT]
  have r1 := (fuse_sections_sound x (optDead code) code c1 _ h1 hc.1 σ).toObsRes2
    (tempNames (maxTemps c2))
  have r2 := (fuse_sections_sound x (optDead code) c1 c2 _ h2 hc.2.1 σ).toObsRes2
    (tempNames (maxTemps c2))
  have r3 := optimizeSections_sound x (optDead code) (tempNames (maxTemps c2)) c2 code' h
    hc.2.2.2 (fun s hs => tempNames_mono (licmTemps_le_max hs))
    ((deadOK_iff _ _).mp hc.2.2.1.1)
    (fun t ht => by
      have := List.all_eq_true.mp hc.2.2.1.2 t ht
      simpa using this) σ
  exact (r1.trans r2).trans r3

/-- in particular the tensor: if `"A"` is not one of the `temp_k` names (`hA`), both runs leave the
    same array `A` (arrays are compared everywhere except at the `temp_k` names) -/
theorem optimize_preserves_A (code code' : List Stmt) (h : optimize code = .ok code')
    (hc : optimizeCert code = true) (hA : "A" ∉ optTemps code) (σ a b : St R)
    (ha : execL x code σ = .ok a) (hb : execL x code' σ = .ok b) : a.sa.get "A" = b.sa.get "A" := by
  have := optimize_sound x code code' h hc σ
  rw [ha, hb] at this
  exact this.sa "A" hA

end Field

/-! ## `check_dependency`: the subscripts it inspects completely, and what it misses -/

def shallowArg : Expr → Bool
  | .sym .. | .litI _ => true
  | _ => false

/-- index expressions `check_dependency` inspects completely: a symbol, an integer literal, or a
    `Sum` / `Product` of symbols and integer literals -/
def shallowIndex : Expr → Bool
  | .sym .. | .litI _ => true
  | .sum as | .prod as => as.all shallowArg
  | _ => false

/-- factors for which `check_dependency(e, n) = False` is sound -/
def shallowFactor (n : String) : Expr → Bool
  | .idx arr _ ix => arr != n && ix.all shallowIndex
  | .sym m _ => m != n
  | .litF .. | .litI _ => true
  | _ => false

theorem mentions_shallowArg (n : String) (a : Expr) (hs : shallowArg a = true)
    (h : isSymNamed n a = false) : mentionsE n a = false := by
  cases a with
  | sym m dt => simpa [mentionsE, isSymNamed] using h
  | litI v => simp [mentionsE]
  | _ => simp [shallowArg] at hs

theorem mentionsL_shallowArgs (n : String) (as : List Expr) (hs : as.all shallowArg = true)
    (h : as.any (isSymNamed n) = false) : mentionsL n as = false :=
  mentionsL_eq_false_iff.2 fun a ha =>
    mentions_shallowArg n a (List.all_eq_true.mp hs a ha) (by simpa using List.any_eq_false.mp h a ha)

theorem mentions_shallowIndex (n : String) (i : Expr) (hs : shallowIndex i = true)
    (h1 : isSymNamed n i = false) (h2 : naryHas n i = false) : mentionsE n i = false := by
  cases i with
  | sym m dt => exact mentions_shallowArg n _ rfl h1
  | litI v => simp [mentionsE]
  | sum as =>
    simp only [shallowIndex] at hs
    simp only [mentionsE]; exact mentionsL_shallowArgs n _ hs (by simpa [naryHas] using h2)
  | prod as =>
    simp only [shallowIndex] at hs
    simp only [mentionsE]; exact mentionsL_shallowArgs n _ hs (by simpa [naryHas] using h2)
  | _ => simp [shallowIndex] at hs

/-- For the factors whose subscripts `check_dependency` inspects
    completely (`shallowFactor`), the answer False implies that the factor does not mention the
    index at all, hence has the same value whatever the value of the index.  (What the side condition
    excludes is exactly what `check_dependency` misses: see the counterexamples.) -/
theorem check_dependency_sound_partial {R : Type} [Add R] [Sub R] [Mul R] [Div R] [Neg R] [IntCast R]
    (x : Extra R) (n : String) (e : Expr) (hs : shallowFactor n e = true)
    (hc : checkDependency e n = .ok false) :
    mentionsE n e = false ∧ ∀ (σ : St R) (v : Int), eval x (σ.setIV n v) e = eval x σ e := by
  have hm : mentionsE n e = false := by
    cases e <;> simp [shallowFactor] at hs
    · simp [mentionsE]
    · simp [mentionsE]
    · simpa [mentionsE] using hs
    · rename_i arr dt ix
      simp only [checkDependency, Except.ok.injEq, Bool.or_eq_false_iff, List.any_eq_false] at hc
      simp only [mentionsE, Bool.or_eq_false_iff]
      refine ⟨by simpa using hs.1, ?_⟩
      exact mentionsL_eq_false_iff.2 fun i hi =>
        mentions_shallowIndex n i (hs.2 i hi) (by simpa using hc.1 i hi) (by simpa using hc.2 i hi)
  refine ⟨hm, fun σ v => ?_⟩
  refine eval_agreeOn x (P := fun m => mentionsE m e = true) ?_ e (fun m h => h)
  refine ⟨?_, fun _ _ => rfl, fun _ _ => rfl, fun _ _ => rfl⟩
  intro m hmm
  simp only [St.setIV]
  rw [AList.get_set_ne]
  intro e'; subst e'; rw [hm] at hmm; cases hmm

/-- A nested subscript: `T[2*j]` — the subscript is a `Mul`, which `check_dependency` does not
    open — is declared independent of `j`, yet its value depends on `j`. -/
theorem check_dependency_counterexample :
    let e : Expr := .idx "T" .real [.bin .mul (.litI 2) (.sym "j" .int)]
    let σ : St Rat := { sa := [("T", { dims := [3], data := #[0, 0, 1] })] }
    checkDependency e "j" = .ok false ∧
    eval ratExtra (σ.setIV "j" 0) e ≠ eval ratExtra (σ.setIV "j" 1) e := by
  refine ⟨rfl, ?_⟩
  decide +kernel

/-- … and so is a `Sum` whose argument is a product `3*j + i` (the flattened subscripts FFCx builds
    for blocked elements have this shape), and the bare index symbol `j` used as a factor. -/
theorem check_dependency_counterexample_sum :
    checkDependency (.idx "T" .real [.sum [.bin .mul (.litI 3) (.sym "j" .int), .sym "i" .int]]) "j" = .ok false ∧
    mentionsE "j" (.idx "T" .real [.sum [.bin .mul (.litI 3) (.sym "j" .int), .sym "i" .int]]) = true ∧
    checkDependency (.sym "j" .int) "j" = .ok false :=
  ⟨rfl, rfl, rfl⟩

/-! ## a part list on which `licm` changes the result (counterexample on the transcription; the
same input is run through the REAL optimiser by `harness/opt_checks.py: check_latent_defects`) -/

/-- `for i<1 { for j<2 { A[i] += T[2*j] * fw } }` -/
def cexSection : Stmt :=
  .sect "Tensor Computation" []
    [.forRange "i" (.litI 0) (.litI 1) [.forRange "j" (.litI 0) (.litI 2)
      [.addAssign (.idx "A" .scalar [.sym "i" .int])
        (.prod [.idx "T" .real [.bin .mul (.litI 2) (.sym "j" .int)], .sym "fw" .scalar])]]]
    ["fw"] ["A"] ["licm"]

def cexState : St Rat :=
  { iv := [("j", 0)], sv := [("fw", 1)],
    sa := [("A", { dims := [1], data := #[0] }), ("T", { dims := [3], data := #[1, 0, 5] })] }

def finalA (r : Except Err (St Rat)) : Option (List Rat) :=
  match r with
  | .ok σ => (σ.sa.get "A").map (fun a => a.data.toList)
  | .error _ => none

/-- `check_dependency` declares `T[2*j]` independent of `j`; `licm` hoists it;
    the original section computes `A[0] = T[0] + T[2] = 6`, the optimised one `2·T[0] = 2`. -/
theorem licm_counterexample :
    ∃ s', licm cexSection = .ok s' ∧
      finalA (exec ratExtra cexSection cexState) = some [6] ∧
      finalA (exec ratExtra s' cexState) = some [2] :=
  ⟨_, rfl, by decide +kernel, by decide +kernel⟩

example : licmCert cexSection = false := by decide

/-- `for i<1 { for j<0 { A[i] += T[7] * fw } }`: the inner loop is empty -/
def cexEmptyInner : Stmt :=
  .sect "Tensor Computation" []
    [.forRange "i" (.litI 0) (.litI 1) [.forRange "j" (.litI 0) (.litI 0)
      [.addAssign (.idx "A" .scalar [.sym "i" .int])
        (.prod [.idx "T" .real [.litI 7], .sym "fw" .scalar])]]]
    ["fw"] ["A"] ["licm"]

/-- The certificate `licmCert` holds, the original section runs
    (it never evaluates `T[7]`, which is out of bounds), the optimised one fails in its pre-loop: the
    trip-count condition of `licm_sound` cannot be dropped. -/
theorem licm_empty_inner_counterexample :
    licmCert cexEmptyInner = true ∧ licmTripCert cexEmptyInner = false ∧
    ∃ s', licm cexEmptyInner = .ok s' ∧
      finalA (exec ratExtra cexEmptyInner cexState) = some [0] ∧
      finalA (exec ratExtra s' cexState) = none :=
  ⟨by decide, by decide, _, rfl, by decide +kernel, by decide +kernel⟩

/-! ## non-vacuity: a part list with two `Jacobian` sections around a `Coefficient` section and a
tensor section satisfies every certificate, and every pass changes it -/

def exJac (k : String) (off : Int) : Stmt :=
  .sect "Jacobian" [.vdecl k .real (.litF 0 0 false)]
    [.forRange "ic" (.litI 0) (.litI 3) [.addAssign (.sym k .real)
       (.bin .mul (.idx "coordinate_dofs" .real
          [.bin .add (.bin .mul (.sum [.sym "ic" .int]) (.litI 3)) (.litI off)])
        (.idx "FE1" .real [.sum [.sym "ic" .int]]))]]
    ["FE1", "coordinate_dofs"] [k] ["fuse"]

def exCoef : Stmt :=
  .sect "Coefficient" [.vdecl "w0" .scalar (.litF 0 0 false)]
    [.forRange "ic" (.litI 0) (.litI 3) [.addAssign (.sym "w0" .scalar)
       (.bin .mul (.idx "w" .scalar [.sum [.sym "ic" .int]]) (.idx "FE0" .real [.sum [.sym "ic" .int]]))]]
    ["w", "FE0"] ["w0"] ["fuse"]

def exTensor : Stmt :=
  .sect "Tensor Computation" []
    [.forRange "i" (.litI 0) (.litI 3) [.forRange "j" (.litI 0) (.litI 3)
      [.block [
        .addAssign (.idx "A" .scalar [.sum [.bin .mul (.litI 3) (.sum [.sym "i" .int]), .sum [.sym "j" .int]]])
          (.prod [.sym "w0" .scalar, .idx "FE0" .real [.sum [.sym "i" .int]], .sym "J0" .real,
                  .idx "FE0" .real [.sum [.sym "j" .int]]]),
        .addAssign (.idx "A" .scalar [.sum [.bin .mul (.litI 3) (.sum [.sym "i" .int]), .sum [.sym "j" .int]]])
          (.prod [.sym "J1" .real, .idx "FE1" .real [.sum [.sym "i" .int]],
                  .idx "FE1" .real [.sum [.sym "j" .int]]])]]]]
    ["w0"] ["A"] ["licm"]

/-- both `Jacobian` loops in one section, annotated `fuse` -/
def exFused : Stmt :=
  .sect "Jacobian" [.vdecl "J0" .real (.litF 0 0 false), .vdecl "J1" .real (.litF 0 0 false)]
    (match exJac "J0" 0, exJac "J1" 1 with
     | .sect _ _ a _ _ _, .sect _ _ b _ _ _ => a ++ b
     | _, _ => [])
    ["FE1", "coordinate_dofs"] ["J0", "J1"] ["fuse"]

def exCode : List Stmt := [exJac "J0" 0, exCoef, exJac "J1" 1, exTensor]

example : fsCert ["ic", "i", "j"] exCode "Jacobian" = true := by decide +kernel
example : ∃ c, fuseSections exCode "Jacobian" = .ok c ∧ c.length = 3 := ⟨_, rfl, rfl⟩
example : flCert ["ic"] exFused = true := by decide +kernel
example : ∃ s', fuseLoops exFused = .ok s' ∧ (sStmts s').length = 1 := ⟨_, rfl, rfl⟩
example : licmCert exTensor = true ∧ licmTripCert exTensor = true ∧ licmTemps exTensor = 2 := by decide +kernel
example : ∃ s', licm exTensor = .ok s' ∧ (sStmts s').length = 5 := ⟨_, rfl, rfl⟩
example : optimizeCert exCode = true := by decide +kernel
example : ∃ c, optimize exCode = .ok c ∧ c.length = 3 ∧ optDead exCode = ["ic", "i", "j"] ∧
    optTemps exCode = ["temp_0", "temp_1"] := ⟨_, rfl, rfl, by decide +kernel, by decide +kernel⟩
example : commB ["ic"] (loop0 "ic" (sStmts exCoef)) (loop0 "ic" (sStmts (exJac "J0" 0))) = true := by decide +kernel
example : shallowFactor "j" (.idx "FE0" .real [.sum [.sym "i" .int]]) = true ∧
    checkDependency (.idx "FE0" .real [.sum [.sym "i" .int]]) "j" = .ok false := ⟨by decide, rfl⟩

end Ffcx.LNodes
