/-
C09 — soundness of the dtype discipline ("geometry always taken in the matching real type";
"on complex data the complex kernels equal the form evaluated in complex arithmetic").

In a complex kernel FFCx declares some names `double` (REAL) and others `double _Complex` (SCALAR)
and chooses `pow` iff no argument of the call is SCALAR, `cpow` otherwise (functions without a complex
version are refused for SCALAR arguments).  C converts complex → double silently.
`dtypeCert` (FfcxModel/LNodes/DtypeCert.lean) is evaluated on every generated kernel by
`harness/dtype_checks.py`; the theorems here say what a passed certificate means: the conversions change
nothing, so C's truncating semantics `execT` is the exact semantics `exec` (`dtype_sound`), with
counterexamples on kernels that violate the certificate and a Gaussian-rational instance of the hypotheses.

Carrier: any `ComplexLike R` (conjugation commuting with the operations; no ring axioms needed).
Floating-point rounding and NaN are outside the statement (DESIGN.md §5): `fn_real_closed` is the
assumption "a `double → double` function returns a `double`".
-/
import FfcxProofs.Lemmas.DtypeExec
import FfcxProofs.Lemmas.DtypeGauss
import FfcxProofs.C09

namespace Ffcx.LNodes

section
variable {R : Type} [Add R] [Sub R] [Mul R] [Div R] [Neg R] [IntCast R]

/-- **C's truncating semantics**: `exec` with `re` applied wherever C converts to `double`. -/
def execT (C : ComplexLike R) (x : Extra R) : Stmt → St R → Except Err (St R) := execG C.re x

/-- C09.  For a kernel that passes the strict certificate under `Γ`, run from a store in which the
    REAL/INT/BOOL-declared names hold real values (of the inputs `coordinate_dofs` is real; tables are
    declared inside the kernel), conversions to `double` change nothing: for every conversion `ρ` that
    fixes the real values the run with conversions `execG ρ` has the outcome of the exact run `exec` (same
    error or same final store), and the final store satisfies the invariant again. -/
theorem dtype_sound (C : ComplexLike R) (x : Extra R) (hx : LawfulComplexExtra C x)
    {Γ : DEnv} (k : Stmt) (σ : St R) (hc : certS true Γ k = true) (hσ : RealStore C Γ σ)
    (ρ : R → R) (hρ : FixesReals C ρ) :
    execG ρ x k σ = exec x k σ ∧ ∀ σ', exec x k σ = .ok σ' → RealStore C Γ σ' :=
  have h := dtype_sound_stmt C x hx hρ k σ hc hσ
  ⟨h.eq, h.inv⟩

/-- `dtype_sound` in the form "certificate ⇒ execT = exec", for the kernel's own environment. -/
theorem dtype_sound_execT (C : ComplexLike R) (x : Extra R) (hx : LawfulComplexExtra C x)
    (k : Stmt) (σ : St R) (hc : dtypeCert true k = true) (hσ : RealStore C (kernelEnv k) σ) :
    execT C x k σ = exec x k σ :=
  (dtype_sound C x hx k σ hc hσ C.re C.fixesReals_re).1

/-- If the truncating run of a certified kernel ends in `σ'`, the exact run ends in
    the same `σ'` — so every `double`-typed temporary and every cell of a `double` array carries exactly
    the value the exact (complex) evaluation assigns — and applying the conversion once more changes
    none of them. -/
theorem truncation_free (C : ComplexLike R) (x : Extra R) (hx : LawfulComplexExtra C x)
    (k : Stmt) (σ σ' : St R) (hc : dtypeCert true k = true) (hσ : RealStore C (kernelEnv k) σ)
    (hrun : execT C x k σ = .ok σ') :
    exec x k σ = .ok σ' ∧
    (∀ n d v, (kernelEnv k).get n = some d → d.isRealTy = true → σ'.sv.get n = some v →
      C.re v = v) ∧
    (∀ n d a, (kernelEnv k).get n = some d → d.isRealTy = true → σ'.sa.get n = some a →
      ∀ j, C.re (a.data.getD j (IntCast.intCast 0)) = a.data.getD j (IntCast.intCast 0)) := by
  obtain ⟨h1, h2⟩ := dtype_sound C x hx k σ hc hσ C.re C.fixesReals_re
  have hex : exec x k σ = .ok σ' := by rw [← h1]; exact hrun
  have hσ' := h2 σ' hex
  exact ⟨hex, fun n d v hn hd hv => C.re_of_real v (hσ'.sv n d v hn hd hv),
    fun n d a hn hd ha j => C.re_of_real _ (hσ'.sa n d a hn hd ha j)⟩

mutual
/-- the semantics with the identity conversion is the exact semantics (so `execG` really is `exec`
    plus conversions) — no certificate needed -/
theorem evalG_id (x : Extra R) (σ : St R) : ∀ (e : Expr),
    evalG id x σ e = eval x σ e ∧ evalBG id x σ e = evalB x σ e
  | .litF .. | .litI .. | .sym .. | .mi .. | .idx .. => ⟨rfl, rfl⟩
  | .neg a => ⟨congrArg (- ·) (evalG_id x σ a).1, rfl⟩
  | .not a =>
    have h := (evalG_id x σ a).2
    ⟨congrArg (fun b => b2r !b) h, congrArg (!·) h⟩
  | .bin op a b => evalG_bin (evalG_id x σ a) (evalG_id x σ b)
  | .sum args => ⟨congrArg (foldOp _ _) (evalLG_id x σ args), rfl⟩
  | .prod args => ⟨congrArg (foldOp _ _) (evalLG_id x σ args), rfl⟩
  | .call f dt args => by
    refine ⟨congrArg (x.fn f) ?_, rfl⟩
    rw [evalLG_id x σ args]
    unfold convArgs
    split
    · exact List.map_id _
    · rfl
  | .cond c t f => by
    refine ⟨?_, rfl⟩
    show (if _ then _ else _) = (if _ then _ else _)
    rw [(evalG_id x σ c).2, (evalG_id x σ t).1, (evalG_id x σ f).1]
theorem evalLG_id (x : Extra R) (σ : St R) : ∀ (es : List Expr), evalLG id x σ es = evalL x σ es
  | [] => rfl
  | e :: es => by
    show _ :: _ = _ :: _
    rw [(evalG_id x σ e).1, evalLG_id x σ es]
end

omit [Add R] [Sub R] [Mul R] [Div R] [Neg R] [IntCast R] in
theorem cv_id (dt : DType) (v : R) : cv id dt v = v := by
  unfold cv
  split <;> rfl

theorem leaf_id (x : Extra R) {s : Stmt} (hl : Leaf s) (σ : St R) : execG id x s σ = exec x s σ := by
  cases hl with
  | assign lhs rhs | addAssign lhs rhs => simp only [execG, exec, cv_id, (evalG_id x σ rhs).1]
  | vdecl n dt v => simp only [execG, exec, cv_id, (evalG_id x σ v).1, (evalG_id x σ v).2]; rfl
  | adecl n dt sizes c vals =>
    have : ∀ k, initDataG id x σ dt k (vals.getD []) = initData x σ k (vals.getD []) := fun k => by
      unfold initDataG
      rw [evalLG_id, map_fixes fun v _ => cv_id dt v]
      rfl
    simp only [execG, exec, this]

theorem execG_id (x : Extra R) (s : Stmt) (σ : St R) : execG id x s σ = exec x s σ :=
  (exec_same (I := fun _ => True) (interp_execG x) (interp_exec x) subClosed_true
    (fun hl _ σ _ => ⟨leaf_id x hl σ, fun _ _ => trivial⟩) (fun _ _ _ _ => trivial) s σ trivial trivial).eq

theorem execLG_id (x : Extra R) : ∀ (ss : List Stmt) (σ : St R), execLG id x ss σ = execL x ss σ :=
  fun ss σ => by simpa only [exec, execG] using execG_id x (.block ss) σ

/-- real scalar types: over a carrier in which every value is real (`float64/float32` kernels: the
    conjugation is the identity) no conversion can change anything — no certificate needed. -/
theorem dtype_sound_real_carrier (C : ComplexLike R) (x : Extra R) (hall : ∀ a, C.IsReal a)
    (k : Stmt) (σ : St R) : execT C x k σ = exec x k σ := by
  have : C.re = id := funext (fun a => C.re_of_real a (hall a))
  unfold execT
  rw [this]
  exact execG_id x k σ

mutual
/-- every call of a function with `double` parameters inside `e` receives only real arguments
    (values of the exact semantics in store `σ`) -/
def ConvRealE (C : ComplexLike R) (x : Extra R) (σ : St R) : Expr → Prop
  | .neg a | .not a => ConvRealE C x σ a
  | .bin _ a b => ConvRealE C x σ a ∧ ConvRealE C x σ b
  | .sum args | .prod args => ConvRealL C x σ args
  | .call f _ args =>
    (truncatesArgs f args = true → ∀ v, v ∈ evalL x σ args → C.IsReal v) ∧ ConvRealL C x σ args
  | .cond c t f => ConvRealE C x σ c ∧ ConvRealE C x σ t ∧ ConvRealE C x σ f
  | _ => True
def ConvRealL (C : ComplexLike R) (x : Extra R) (σ : St R) : List Expr → Prop
  | [] => True
  | e :: es => ConvRealE C x σ e ∧ ConvRealL C x σ es
end

/-- `P` holds before every iteration of the loop (along the exact run) -/
def LoopAll (P : St R → Prop) (body : St R → Except Err (St R)) (i : String) :
    Int → Nat → St R → Prop
  | _, 0, _ => True
  | lo, n + 1, σ =>
    P (σ.setIV i lo) ∧ ∀ σ', body (σ.setIV i lo) = .ok σ' → LoopAll P body i (lo + 1) n σ'

mutual
/-- Along the exact run of `s` from `σ`: every value stored into a REAL-declared target (`=`, `+=`
    increment, initialisation, array initialiser) is real, and every call of a function with
    `double` parameters receives only real arguments. -/
def ConvRealS (C : ComplexLike R) (x : Extra R) : Stmt → St R → Prop
  | .assign lhs rhs, σ =>
    ConvRealE C x σ rhs ∧ (lhsDt lhs = .real → C.IsReal (eval x σ rhs))
  | .addAssign lhs rhs, σ =>
    ConvRealE C x σ rhs ∧ (lhsDt lhs = .real → C.IsReal (eval x σ rhs))
  | .vdecl _ dt v, σ => ConvRealE C x σ v ∧ (dt = .real → C.IsReal (eval x σ v))
  | .adecl _ dt _ _ vals, σ =>
    ConvRealL C x σ (vals.getD []) ∧
      (dt = .real → ∀ v, v ∈ evalL x σ (vals.getD []) → C.IsReal v)
  | .forRange i lo hi body, σ =>
    match evalI σ.iv σ.ia lo, evalI σ.iv σ.ia hi with
    | some l, some h =>
      LoopAll (fun τ => ConvRealSL C x body τ) (fun τ => execL x body τ) i l (h - l).toNat σ
    | _, _ => True
  | .comment _, _ => True
  | .block ss, σ => ConvRealSL C x ss σ
  | .sect _ decls stmts _ _ _, σ =>
    ConvRealSL C x decls σ ∧ ∀ σ', execL x decls σ = .ok σ' → ConvRealSL C x stmts σ'
def ConvRealSL (C : ComplexLike R) (x : Extra R) : List Stmt → St R → Prop
  | [], _ => True
  | s :: ss, σ => ConvRealS C x s σ ∧ ∀ σ', exec x s σ = .ok σ' → ConvRealSL C x ss σ'
end

variable (C : ComplexLike R) (x : Extra R) (hx : LawfulComplexExtra C x) {Γ : DEnv}

theorem loopAll_of {P : St R → Prop} {body : St R → Except Err (St R)} (i : String)
    (hP : ∀ τ, RealStore C Γ τ → P τ)
    (hpres : ∀ τ τ', RealStore C Γ τ → body τ = .ok τ' → RealStore C Γ τ') :
    ∀ (n : Nat) (lo : Int) (σ : St R), RealStore C Γ σ → LoopAll P body i lo n σ
  | 0, _, _, _ => trivial
  | n + 1, lo, _, hσ =>
    ⟨hP _ (hσ.setIV i lo), fun σ' h =>
      loopAll_of i hP hpres n (lo + 1) σ' (hpres _ _ (hσ.setIV i lo) h)⟩

/-- link to `RealVal` of `FfcxProofs/C09.lean` (the hypothesis of `mathfn_fold_sound`): if `conj/real/imag` are
    interpreted by the structure, real values are exactly the values on which FFCx's folding of
    `conj/real/imag` on REAL operands is justified. -/
theorem isReal_realVal (hconj : ∀ a, x.fn "conj" [a] = C.conj a) (hre : ∀ a, x.fn "real" [a] = C.re a)
    (him : ∀ a, C.IsReal a → x.fn "imag" [a] = x.ofRat 0 0) (v : R) (hv : C.IsReal v) :
    RealVal x v :=
  ⟨by rw [hconj]; exact hv, by rw [hre]; exact C.re_of_real v hv, him v hv⟩

include hx

-- `hx` reaches `convRealL_of_cert` through its call of `convRealE_of_cert`, which the linter does not see
set_option linter.unusedSectionVars false in
mutual
theorem convRealE_of_cert {σ : St R} (hσ : RealStore C Γ σ) :
    ∀ (e : Expr), certE true Γ e = true → ConvRealE C x σ e
  | .litF .. | .litI .. | .sym .. | .mi .. | .idx .. => fun _ => trivial
  | .neg a | .not a => fun hc => convRealE_of_cert hσ a hc
  | .bin _ a b => fun hc =>
    have hc := Bool.and_eq_true_iff.1 hc
    ⟨convRealE_of_cert hσ a hc.1, convRealE_of_cert hσ b hc.2⟩
  | .sum args | .prod args => fun hc => convRealL_of_cert hσ args hc
  | .call f dt args => fun hc =>
    have ⟨hargs, hflow⟩ := certE_call_spec hc
    ⟨fun htr => tysOf_real C x hx hσ args hargs (hflow htr), convRealL_of_cert hσ args hargs⟩
  | .cond c t f => fun hc => by
    simp only [certE, Bool.and_eq_true] at hc
    exact ⟨convRealE_of_cert hσ c hc.1.1, convRealE_of_cert hσ t hc.1.2,
      convRealE_of_cert hσ f hc.2⟩
theorem convRealL_of_cert {σ : St R} (hσ : RealStore C Γ σ) :
    ∀ (es : List Expr), certEL true Γ es = true → ConvRealL C x σ es
  | [] => fun _ => trivial
  | e :: es => fun hc =>
    have hc := Bool.and_eq_true_iff.1 hc
    ⟨convRealE_of_cert hσ e hc.1, convRealL_of_cert hσ es hc.2⟩
end

mutual
/-- Along the exact run of a statement certified under ANY environment `Γ`, from a store that holds
    real values under the REAL-declared names of `Γ`: no store into a REAL-typed target receives a
    non-real value, and every call of a function with `double` parameters receives only real
    arguments.  By induction on the statement; `dtype_sound_stmt` carries `RealStore` from one
    statement (iteration) to the next. -/
theorem convRealS_of_cert : ∀ (s : Stmt) (σ : St R), certS true Γ s = true → RealStore C Γ σ →
    ConvRealS C x s σ
  | .assign _ e | .addAssign _ e | .vdecl _ _ e => fun σ hc hσ => by
    -- one arm for three: each certificate ends in `… && certE Γ e && tyLe e (dtype of the target)`
    simp only [certS, Bool.and_eq_true, Bool.not_true, Bool.false_or] at hc
    exact ⟨convRealE_of_cert C x hx hσ e hc.1.2,
      fun hd => tyLe_real C x hx hσ hc.1.2 hc.2 (by rw [hd]; rfl)⟩
  | .adecl n dt sizes c vals => fun σ hc hσ => by
    simp only [certS, Bool.and_eq_true] at hc
    exact ⟨convRealL_of_cert C x hx hσ _ hc.1.2,
      fun hd => initLe_real C x hx hσ (by rw [hd]; rfl) _ hc.1.2 hc.2⟩
  | .forRange i lo hi body => fun σ hc hσ => by
    simp only [certS, Bool.and_eq_true] at hc
    simp only [ConvRealS]
    cases evalI σ.iv σ.ia lo with
    | none => trivial
    | some l =>
      cases evalI σ.iv σ.ia hi with
      | none => trivial
      | some h =>
        exact loopAll_of C i (fun τ hτ => convRealSL_of_cert body τ hc.2 hτ)
          (fun τ τ' hτ hrun =>
            (dtype_sound_stmts C x hx C.fixesReals_id body τ hc.2 hτ).inv τ' hrun) _ _ σ hσ
  | .comment _ => fun _ _ _ => trivial
  | .block ss => fun σ hc hσ => convRealSL_of_cert ss σ hc hσ
  | .sect _ decls stmts _ _ _ => fun σ hc hσ =>
    have hc := Bool.and_eq_true_iff.1 hc
    ⟨convRealSL_of_cert decls σ hc.1 hσ, fun σ' hrun => convRealSL_of_cert stmts σ' hc.2
      ((dtype_sound_stmts C x hx C.fixesReals_id decls σ hc.1 hσ).inv σ' hrun)⟩
theorem convRealSL_of_cert : ∀ (ss : List Stmt) (σ : St R), certSL true Γ ss = true →
    RealStore C Γ σ → ConvRealSL C x ss σ
  | [] => fun _ _ _ => trivial
  | s :: ss => fun σ hc hσ =>
    have hc := Bool.and_eq_true_iff.1 hc
    ⟨convRealS_of_cert s σ hc.1 hσ, fun σ' hrun => convRealSL_of_cert ss σ' hc.2
      ((dtype_sound_stmt C x hx C.fixesReals_id s σ hc.1 hσ).inv σ' hrun)⟩
end

/-- `convRealS_of_cert` at the kernel's own environment `kernelEnv k`.
    Along the exact run of a certified kernel no store into a REAL-typed target ever receives a
    non-real value and every call of a function with `double` parameters (the real table, `fmax/fmin/jn/yn`, bare names) receives only real arguments —
    the implicit C conversions complex → double are never taken on a value they would change. -/
theorem real_targets_receive_reals (k : Stmt) (σ : St R) (hc : dtypeCert true k = true)
    (hσ : RealStore C (kernelEnv k) σ) : ConvRealS C x k σ :=
  convRealS_of_cert C x hx k σ hc hσ

end

/-- a store with a one-cell tensor `A`, one coefficient `w[0] = 3 + 4i` and `x0 = 2` -/
def gaussStore : St GRat :=
  { sv := [("x0", ⟨2, 0⟩)],
    sa := [("A", { dims := [1], data := #[⟨0, 0⟩] }), ("w", { dims := [1], data := #[⟨3, 4⟩] }),
           ("coordinate_dofs", { dims := [6], data := #[⟨0, 0⟩, ⟨0, 0⟩, ⟨0, 0⟩, ⟨2, 0⟩, ⟨0, 0⟩, ⟨0, 0⟩] })] }

/-- value of `A[0]` after a run -/
def readA0 (r : Except Err (St GRat)) : Option GRat :=
  match r with
  | .ok σ => (σ.sa.get "A").bind (fun a => a.data[0]?)
  | .error _ => none

/-- `double t = 1.0 + 2.0 I;  A[0] = t;` — a SCALAR value stored into a REAL variable -/
def kTrunc : Stmt :=
  .block [.vdecl "t" .real (.litF 1 2 true), .assign (.idx "A" .scalar [.litI 0]) (.sym "t" .real)]

/-- The certificate rejects `kTrunc`, and on it the truncating semantics
    and the exact semantics differ (`A[0] = 1` vs `A[0] = 1 + 2i`): the certificate is needed. -/
theorem truncation_counterexample :
    dtypeCert true kTrunc = false ∧ dtypeCert false kTrunc = true ∧
    readA0 (exec gaussExtra kTrunc gaussStore) = some ⟨1, 2⟩ ∧
    readA0 (execT gaussC gaussExtra kTrunc gaussStore) = some ⟨1, 0⟩ := by
  decide +kernel

/-- `sv = power(x0, 1.0 + 2.0 I);  A[0] = sv;` — the tree FFCx builds for `x[0]**(1+2j)` in complex
    mode.  The node's LNodes dtype is REAL (= dtype of `args[0]`); until /repo c5f832c the formatter
    chose the table from `args[0]` only and emitted real `pow` (imaginary part of the exponent dropped).
    From that commit on one SCALAR argument selects the complex table: `cpow(x0, (1.0+I*2.0))`. -/
def kRealPow : Stmt :=
  .block [.vdecl "x0" .real (.idx "coordinate_dofs" .real [.litI 3]),
          .vdecl "sv" .scalar (.call "power" .real [.sym "x0" .real, .litF 1 2 true]),
          .assign (.idx "A" .scalar [.litI 0]) (.sym "sv" .scalar)]

/-- Under the selection rule of the formatter (one SCALAR argument selects the complex table) the
    tree is certified, its arguments are not converted (`truncatesArgs = false`, result typed SCALAR), and the truncating run equals the exact
    run, which keeps the imaginary part (stand-in `power ↦ product`: `2·(1+2i)`). -/
theorem real_pow_complex_exponent_certified :
    dtypeCert true kRealPow = true ∧
    truncatesArgs "power" [.sym "x0" .real, .litF 1 2 true] = false ∧
    callTy "power" [.sym "x0" .real, .litF 1 2 true] = .scalar ∧
    execT gaussC gaussExtra kRealPow gaussStore = exec gaussExtra kRealPow gaussStore ∧
    readA0 (exec gaussExtra kRealPow gaussStore) = some ⟨2, 4⟩ := by
  have hc : dtypeCert true kRealPow = true := by decide +kernel
  have hσ : RealStore gaussC (kernelEnv kRealPow) gaussStore :=
    gauss_realStore (by decide +kernel) (by decide +kernel)
  exact ⟨hc, by decide +kernel, by decide +kernel,
    dtype_sound_execT gaussC gaussExtra gauss_lawful kRealPow gaussStore hc hσ, by decide +kernel⟩

/-- `sv = erf(power(x0, 1+2i))` as ONE tree: LNodes types the inner call REAL (dtype of its `args[0]`),
    so the formatter sees no SCALAR argument of `erf` and emits the real `erf(cpow(x0, …))`. -/
def kNested : Stmt :=
  .block [.vdecl "x0" .real (.idx "coordinate_dofs" .real [.litI 3]),
          .vdecl "sv" .scalar
            (.call "erf" .real [.call "power" .real [.sym "x0" .real, .litF 1 2 true]]),
          .assign (.idx "A" .scalar [.litI 0]) (.sym "sv" .scalar)]

/-- The clause "a function with `double` parameters gets only
    REAL/INT/BOOL-*typed* arguments (by the sound `tyOf`, not by the LNodes dtype)" is needed under the
    selection rule of /repo c5f832c as well: the formatter accepts `kNested` with the real table
    (`anyScalarArg = false`), the certificate rejects it, and the two semantics differ.
    (The generators never build such a tree: every operator gets its own temporary, whose dtype
    `extract_dtype` merges from all operands — checked per kernel by the certificate.) -/
theorem nested_call_counterexample :
    dtypeCert true kNested = false ∧ dtypeCert false kNested = true ∧
    formatRejects "erf" [.call "power" .real [.sym "x0" .real, .litF 1 2 true]] = false ∧
    truncatesArgs "erf" [.call "power" .real [.sym "x0" .real, .litF 1 2 true]] = true ∧
    readA0 (exec gaussExtra kNested gaussStore) = some ⟨2, 4⟩ ∧
    readA0 (execT gaussC gaussExtra kNested gaussStore) = some ⟨2, 0⟩ := by
  decide +kernel

/-- a function without a complex version on a SCALAR operand (`erf(w[0])`): refused by the formatter
    in a complex kernel, and by the certificate -/
theorem rejected_call_example :
    formatRejects "erf" [.idx "w" .scalar [.litI 0]] = true ∧
    dtypeCert true (.vdecl "sv" .scalar (.call "erf" .scalar [.idx "w" .scalar [.litI 0]])) = false := by
  decide +kernel

/-- a kernel in the shape of a real complex-mode kernel: a REAL table, REAL geometry computed from
    `coordinate_dofs`, `creal` into a `double`, complex `cpow`, real `pow` of geometry, `+=` into `A` -/
def kGood : Stmt :=
  .block [
    .adecl "weights" .real [1] true (some [.litF (1/2) 0 false]),
    .vdecl "J" .real (.bin .sub (.idx "coordinate_dofs" .real [.litI 3]) (.idx "coordinate_dofs" .real [.litI 0])),
    .vdecl "sv0" .real (.call "real" .scalar [.idx "w" .scalar [.litI 0]]),
    .vdecl "sv1" .scalar (.call "power" .scalar [.idx "w" .scalar [.litI 0], .litF (3/2) 0 false]),
    .vdecl "sv2" .real (.call "power" .real [.sym "J" .real, .litF (3/2) 0 false]),
    .forRange "i" (.litI 0) (.litI 1) [
      .addAssign (.idx "A" .scalar [.sym "i" .int])
        (.prod [.sym "sv0" .real, .sym "sv1" .scalar, .sym "sv2" .real, .idx "weights" .real [.litI 0]])]]

/-- **non-vacuity**: the certificate accepts `kGood`, the Gaussian-rational store satisfies the
    invariant for its environment, so `dtype_sound_execT` applies: the truncating and the exact run
    agree — and the run really computes a non-real `A[0]` through `double` temporaries. -/
theorem dtypeCert_example :
    dtypeCert true kGood = true ∧
    RealStore gaussC (kernelEnv kGood) gaussStore ∧
    execT gaussC gaussExtra kGood gaussStore = exec gaussExtra kGood gaussStore ∧
    readA0 (exec gaussExtra kGood gaussStore) = some ⟨81/4, 27⟩ := by
  have hc : dtypeCert true kGood = true := by decide +kernel
  have hσ : RealStore gaussC (kernelEnv kGood) gaussStore :=
    gauss_realStore (by decide +kernel) (by decide +kernel)
  exact ⟨hc, hσ, dtype_sound_execT gaussC gaussExtra gauss_lawful kGood gaussStore hc hσ,
    by decide +kernel⟩

end Ffcx.LNodes
