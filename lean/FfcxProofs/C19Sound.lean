/-
C19 — what acceptance by the block-scoping checker (`scopedS`, `scopedKernel`: FfcxModel/LNodes/Scoped.lean)
means for a run of the kernel.  `execB` (FfcxModel/LNodes/ScopedSem.lean) is the semantics with C's block
scoping (trusted to be C's), `exec` the flat one that every other theorem about kernels uses.  An accepted
kernel never meets a scope error under `execB`, and `execB` forgets the variables of a block that was left.
Under the decidable per-kernel certificate `flatCert` (evaluated on every generated kernel by
harness/scope_checks.py) `exec` agrees with `execB` on the parameters, so on `A`; without it the two can
differ.  The certificate is not "no shadowing" — real kernels shadow —: a shadowed outer variable must not
be used again after the inner block.  Completeness holds for loop-free statements only.
-/
import FfcxProofs.Lemmas.ScopeSound
import FfcxProofs.Lemmas.ScopeFlat
import FfcxProofs.Lemmas.ScopeTight

namespace Ffcx.LNodes
variable {R : Type} [Add R] [Sub R] [Mul R] [Div R] [Neg R] [IntCast R]

/-- C19, soundness.  If the checker accepts `s` from the scopes `sc` with result `sc'`, then from ANY
    state whose block stack has exactly the names `sc`, `execB` never raises a scope error (`undeclared`,
    `redeclared`): it stops with a run-time error of the flat semantics or ends with a stack that has
    exactly the names `sc'`.  (`scopedS_keeps` with nothing to keep but the scopes.) -/
theorem scoped_sound (x : Extra R) (s : Stmt) (sc sc' : Scopes) (b : BSt R)
    (h : scopedS sc s = .ok sc') (hb : stackNames b.st = sc) : SoundRes sc' (execB x s b) :=
  (scopedS_keeps x (stepInv_true x) h b hb trivial).soundRes

theorem scopedL_sound (x : Extra R) (ss : List Stmt) (sc sc' : Scopes) (b : BSt R)
    (h : scopedL sc ss = .ok sc') (hn : stackNames b.st = sc) : SoundRes sc' (execBL x ss b) :=
  scoped_sound x (.block ss) sc sc' b h hn

/-- spelled out: no scope error, and the final stack is the one the checker computed -/
theorem scoped_sound_no_scope_error (x : Extra R) (s : Stmt) (sc sc' : Scopes) (b : BSt R)
    (h : scopedS sc s = .ok sc') (hb : stackNames b.st = sc) :
    (∀ e, execB x s b ≠ .error (.scope e)) ∧ (∀ b', execB x s b = .ok b' → stackNames b'.st = sc') := by
  have hs := scoped_sound x s sc sc' b h hb
  constructor
  · intro e he; rw [he] at hs; exact hs
  · intro b' he; rw [he] at hs; exact hs

omit [Add R] [Sub R] [Mul R] [Div R] [Neg R] [IntCast R] in
theorem initB_names (σ : St R) : stackNames (initB σ).st = kernelScope := rfl

/-- an accepted kernel ends with the function body's block alone, which still holds every parameter -/
theorem scopedKernel_ok {k : Stmt} (h : scopedKernel k = .ok ()) :
    ∃ f, scopedS kernelScope k = .ok [f] ∧ ∀ p, p ∈ kernelScope.headD [] → p ∈ f := by
  unfold scopedKernel at h
  split at h
  · cases h
  · rename_i hs
    obtain ⟨f, rfl, hf⟩ := scopedS_grows hs _ _ rfl
    exact ⟨f, hs, hf⟩

/-- kernel level: from the state the driver starts a kernel in (store = the arguments, one block
    holding the parameters) an accepted kernel never raises a scope error, and at the end the only
    block left is the function body, which still declares every parameter. -/
theorem kernel_scoped_sound (x : Extra R) (k : Stmt) (σ : St R) (h : scopedKernel k = .ok ()) :
    match execB x k (initB σ) with
    | .error (.scope _) => False
    | .error (.run _) => True
    | .ok b' => ∃ f, stackNames b'.st = [f] ∧
        ∀ p, p ∈ ["A", "w", "c", "coordinate_dofs", "entity_local_index", "quadrature_permutation",
          "custom_data"] → p ∈ f := by
  obtain ⟨f, hs, hf⟩ := scopedKernel_ok h
  have := scoped_sound x k kernelScope [f] (initB σ) hs (initB_names σ)
  split <;> rename_i hr <;> rw [hr] at this
  · exact this
  · trivial
  · exact ⟨f, this, hf⟩

/-- on the `run` channel of `execB`, `undeclared n` is not a scope error: `n` IS visible at that
    point (it is an lvalue of the wrong kind — e.g. an array name assigned as a scalar) -/
theorem assign_run_undeclared_visible (x : Extra R) (l r : Expr) (b : BSt R) (n : String)
    (h : execB x (.assign l r) b = .error (.run (.undeclared n)) ∨
         execB x (.addAssign l r) b = .error (.run (.undeclared n))) :
    declared (stackNames b.st) n = true := by
  rcases h with h | h <;> simp only [execB] at h
  all_goals
    cases hu : (usesOkE (stackNames b.st) l).orElse (fun _ => usesOkE (stackNames b.st) r) with
    | some m => rw [hu] at h; simp at h
    | none =>
      rw [hu] at h
      simp only [] at h
      rw [orElse_none] at hu
      simp only [exec] at h
      split at h
      · rename_i e he
        simp at h; subst h
        split at he
        · exact usesOkE_none hu.1 (store_undeclared_mentions x _ l _ n he)
        · simp at he
      · simp at h

/-- An accepted statement preserves `Tight` (every name bound in the store is visible): leaving a block
    removes the block's variables from the store. -/
theorem scoped_tight (x : Extra R) (s : Stmt) (sc sc' : Scopes) (b b' : BSt R)
    (h : scopedS sc s = .ok sc') (hb : stackNames b.st = sc) (ht : Tight b)
    (hr : execB x s b = .ok b') : Tight b' :=
  ((scopedS_keeps x (stepInv_tight x) h b hb ht).of_ok hr).2

theorem execBL_tight (x : Extra R) : ∀ (ss : List Stmt) (sc sc' : Scopes) (b b' : BSt R),
    scopedL sc ss = .ok sc' → stackNames b.st = sc → Tight b → execBL x ss b = .ok b' → Tight b' :=
  fun ss => scoped_tight x (.block ss)

/-- kernel level: started on a store that binds nothing but parameters, an accepted kernel ends
    with a store that binds nothing but names declared in the function body's own block -/
theorem kernel_tight (x : Extra R) (k : Stmt) (σ : St R) (b' : BSt R) (h : scopedKernel k = .ok ())
    (hσ : ∀ n, Bound σ n → declared kernelScope n = true) (hr : execB x k (initB σ) = .ok b') :
    ∃ f, stackNames b'.st = [f] ∧ ∀ n, Bound b'.σ n → n ∈ f := by
  obtain ⟨f, hs, _⟩ := scopedKernel_ok h
  have ht0 : Tight (initB σ) := by
    refine ⟨fun n hn => by rw [initB_names]; exact hσ n hn, ⟨?_, trivial⟩⟩
    intro s hs' hb
    simp only [paramFrame, List.mem_map] at hs'
    obtain ⟨n, _, rfl⟩ := hs'
    simp [SavedBound] at hb
  have hk := (scopedS_keeps x (stepInv_tight x) hs (initB σ) (initB_names σ) ht0).of_ok hr
  refine ⟨f, hk.1, fun n hb => ?_⟩
  have := hk.2.bound n hb
  rw [hk.1] at this
  simpa [declared] using this

omit [Add R] [Sub R] [Mul R] [Div R] [Neg R] [IntCast R] in
/-- the stores the harness passes to the driver (scalar arrays `A w c coordinate_dofs`, integer arrays
    `entity_local_index quadrature_permutation`, nothing else) respect the kind assignment of every kernel -/
theorem paramState_kindInv (k : Stmt) (σ : St R) (hiv : σ.iv = []) (hsv : σ.sv = [])
    (hia : ∀ n, σ.ia.get n ≠ none → n = "entity_local_index" ∨ n = "quadrature_permutation")
    (hsa : ∀ n, σ.sa.get n ≠ none → n = "A" ∨ n = "w" ∨ n = "c" ∨ n = "coordinate_dofs") :
    KindInv (kindOf k) σ := by
  -- the parameters come first in the list `kindOf` looks names up in
  refine ⟨fun n _ => by rw [hiv]; rfl, fun n _ => by rw [hsv]; rfl, ?_, ?_⟩
  · intro n hn
    refine Decidable.byContradiction fun hne => ?_
    rcases hia n hne with rfl | rfl <;> exact hn (by simp [kindOf, paramKinds, lookupKind])
  · intro n hn
    refine Decidable.byContradiction fun hne => ?_
    rcases hsa n hne with rfl | rfl | rfl | rfl <;> exact hn (by simp [kindOf, paramKinds, lookupKind])

/-- kernel level: for an accepted kernel with the certificate `flatCert`, started on a store that
    respects the kernel's kind assignment (e.g. `paramState_kindInv`), the block-structured run and
    the flat run fail with the same run-time error, or both succeed and all four bindings of every
    parameter (in particular the tensor `A`) are the same in the two final stores. -/
theorem kernel_flat_faithful (x : Extra R) (k : Stmt) (σ : St R) (h : scopedKernel k = .ok ())
    (hc : flatCert k = true) (hk : KindInv (kindOf k) σ) :
    FaithRes (fun b' τ' => ∀ p, p ∈ kernelParams → Same4 p τ' b'.σ)
      (execB x k (initB σ)) (exec x k σ) := by
  obtain ⟨f, hs, hf⟩ := scopedKernel_ok h
  simp only [flatCert, Bool.and_eq_true] at hc
  obtain ⟨hkinds, hclob⟩ := hc
  split at hclob
  · rename_i D' hcl
    simp only [List.all_eq_true, Bool.not_eq_true', List.contains_eq_mem,
      decide_eq_false_iff_not] at hclob
    have hr : Rel (kindOf k) kernelScope [] (initB σ) σ :=
      ⟨initB_names σ, agreeOn_iff_same4.2 fun m _ => Same4.refl m σ, hk⟩
    refine faithRes_iff.2 ((flat_sim x (kindOf k) k kernelScope [f] [] D' (initB σ) σ hs hcl hkinds hr).mono ?_)
    intro b' τ' hq p hp
    have hsub : ∀ p, p ∈ kernelParams → p ∈ kernelScope.headD [] := by decide +kernel
    refine agreeOn_iff_same4.1 hq.agree p ⟨?_, hclob p hp⟩
    simp [declared_cons, hf p (hsub p hp)]
  · cases hclob

mutual
def straight : Stmt → Bool
  | .forRange .. => false
  | .block ss => straightL ss
  | .sect _ decls stmts _ _ _ => straightL decls && straightL stmts
  | _ => true
def straightL : List Stmt → Bool
  | [] => true
  | s :: ss => straight s && straightL ss
end

/-- the run stops with the scope error `e`, unless a run-time error stops it earlier -/
def Rejects (e : ScopeErr) (r : Except BErr (BSt R)) : Prop :=
  r = .error (.scope e) ∨ ∃ re, r = .error (.run re)

omit [Add R] [Sub R] [Mul R] [Div R] [Neg R] [IntCast R] in
theorem Rejects.bind {e : ScopeErr} {r : Except BErr (BSt R)} {f : BSt R → Except BErr (BSt R)}
    (h : Rejects e r) : Rejects e (r.bind f) := by
  rcases h with rfl | ⟨re, rfl⟩
  · exact .inl rfl
  · exact .inr ⟨re, rfl⟩

omit [Add R] [Sub R] [Mul R] [Div R] [Neg R] [IntCast R] in
/-- an accepted prefix runs into a run-time error or hands over a state with the scopes computed -/
theorem Rejects.after {sc' : Scopes} {e : ScopeErr} {r : Except BErr (BSt R)}
    {f : BSt R → Except BErr (BSt R)} (h : SoundRes sc' r)
    (hf : ∀ b, stackNames b.st = sc' → Rejects e (f b)) : Rejects e (r.bind f) :=
  match r, h with
  | .ok b, h => hf b h
  | .error (.run re), _ => .inr ⟨re, rfl⟩

theorem checkUse_error {sc : Scopes} {r : Option String} {e : ScopeErr}
    (h : checkUse sc r = .error e) : ∃ n, r = some n ∧ e = .undeclared n := by
  cases r with
  | none => cases h
  | some n => cases h; exact ⟨n, rfl, rfl⟩

mutual
/-- Completeness for loop-free statements: a rejected statement never runs to completion —
    `execB` raises exactly the scope error the checker reports, unless a run-time error of the flat
    semantics (out of bounds, bad index, …) stops the run before that point.  The conclusion is
    `Rejects e (execB x s b)`.
    For every `s` the statement is false, see `scoped_zero_trip_conservative`:
      `scopedS sc s = .error e → stackNames b.st = sc → Rejects e (execB x s b)`. -/
theorem scoped_complete_partial (x : Extra R) (s : Stmt) (sc : Scopes) (e : ScopeErr) (b : BSt R)
    (hs : straight s = true) (h : scopedS sc s = .error e) (hb : stackNames b.st = sc) :
    execB x s b = .error (.scope e) ∨ ∃ re, execB x s b = .error (.run re) :=
  match s, sc, e, b, hs, h, hb with
  | .assign l r, sc, e, b, _, h, hn | .addAssign l r, sc, e, b, _, h, hn => by
    subst hn
    simp only [scopedS] at h
    split at h <;> cases h
    rename_i hu
    obtain ⟨n, hn, rfl⟩ := checkUse_error hu
    exact .inl (by simp only [execB, hn])
  | .vdecl n dt v, sc, e, b, _, h, hn | .adecl n dt sizes c vals, sc, e, b, _, h, hn => by
    subst hn
    simp only [scopedS] at h
    split at h
    · rename_i hu
      cases h
      obtain ⟨m, hm, rfl⟩ := checkUse_error hu
      exact .inl (by simp only [execB, hm])
    · rename_i hu
      have hd := declareB_names b.st b.σ n
      rw [h] at hd
      cases hdb : declareB b.st b.σ n with
      | ok st' => rw [hdb] at hd; cases hd
      | error e' =>
        rw [hdb] at hd
        cases hd
        exact .inl (by simp only [execB, checkUse_ok hu, hdb])
  | .forRange .., _, _, _, hst, _, _ => by cases hst
  | .comment _, _, _, _, _, h, _ => by cases h
  | .block ss, sc, e, b, hst, h, hn => scopedL_complete x ss sc e b hst h hn
  | .sect _ decls stmts _ _ _, sc, e, b, hst, h, hn => by
    simp only [scopedS] at h
    simp only [straight, Bool.and_eq_true] at hst
    rw [execB_sect]
    split at h
    · rename_i h1
      cases h
      exact (scopedL_complete x decls sc _ b hst.1 h1 hn).bind
    · rename_i sc1 h1
      split at h <;> cases h
      rename_i h2
      exact Rejects.after (scopedL_sound x decls sc sc1 b h1 hn) fun b1 hn1 =>
        (scopedL_complete x stmts ([] :: sc1) _ (enter b1) hst.2 h2 (by rw [stackNames_enter, hn1])).bind

theorem scopedL_complete (x : Extra R) : ∀ (ss : List Stmt) (sc : Scopes) (e : ScopeErr) (b : BSt R),
    straightL ss = true → scopedL sc ss = .error e → stackNames b.st = sc → Rejects e (execBL x ss b)
  | [], _, _, _, _, h, _ => by cases h
  | s :: ss, sc, e, b, hst, h, hn => by
    simp only [scopedL] at h
    simp only [straightL, Bool.and_eq_true] at hst
    show Rejects e (execB x (.block (s :: ss)) b)
    rw [execB_cons]
    split at h
    · rename_i h1
      cases h
      exact Rejects.bind (scoped_complete_partial x s sc _ b hst.1 h1 hn)
    · rename_i sc1 h1
      exact Rejects.after (scoped_sound x s sc sc1 b h1 hn) fun b1 hn1 =>
        scopedL_complete x ss sc1 e b1 hst.2 h hn1
end

/-- a tiny scalar domain for closed examples -/
def xI : Extra Int :=
  { ofRat := fun re _ => re.num, lt := fun a b => decide (a < b), le := fun a b => decide (a ≤ b),
    eqb := fun a b => a == b, fn := fun _ _ => 0 }

def σI : St Int :=
  { sa := [("A", { dims := [2], data := #[0, 0] }), ("w", { dims := [2], data := #[1, 10] })] }

def resB (r : Except BErr (BSt Int)) (n : String) : Option (List Int) :=
  match r with
  | .ok b => (b.σ.sa.get n).map (·.data.toList)
  | .error _ => none
def resF (r : Except Err (St Int)) (n : String) : Option (List Int) :=
  match r with
  | .ok b => (b.sa.get n).map (·.data.toList)
  | .error _ => none
def errB (r : Except BErr (BSt Int)) : Option BErr := match r with | .ok _ => none | .error e => some e

/-- a kernel fragment of the shape FFCx generates: a table, a quadrature loop whose body holds a
    section with a declared temporary `w0` filled by a loop nest, and a tensor section -/
def exK : Stmt :=
  .block [
    .adecl "FE0" .real [2, 2] true (some [.litF 1 0 false, .litF 2 0 false, .litF 3 0 false, .litF 4 0 false]),
    .forRange "iq" (.litI 0) (.litI 2) [
      .sect "coef" [.vdecl "w0" .scalar (.litF 0 0 false)]
        [.forRange "ic" (.litI 0) (.litI 2)
          [.addAssign (.sym "w0" .scalar)
            (.bin .mul (.idx "w" .scalar [.sym "ic" .int]) (.idx "FE0" .real [.sym "iq" .int, .sym "ic" .int]))]]
        [] [] [],
      .sect "tensor" [] [.forRange "i" (.litI 0) (.litI 2)
          [.addAssign (.idx "A" .scalar [.sym "i" .int])
            (.bin .mul (.sym "w0" .scalar) (.idx "FE0" .real [.sym "iq" .int, .sym "i" .int]))]] [] [] []
    ]]

/-- non-vacuity: the fragment is accepted and certified; both semantics compute the same `A`;
    after the run the temporary `w0` of the loop body is gone from the block-structured store
    (and still there, stale, in the flat one) -/
example :
    scopedKernel exK = .ok () ∧ flatCert exK = true ∧
    resB (execB xI exK (initB σI)) "A" = some [150, 214] ∧ resF (exec xI exK σI) "A" = some [150, 214] ∧
    (match execB xI exK (initB σI) with | .ok b => b.σ.sv.get "w0" | .error _ => some 0) = none ∧
    (match exec xI exK σI with | .ok τ => τ.sv.get "w0" | .error _ => none) = some 43 := by
  decide +kernel

/-- the hypotheses of `kernel_flat_faithful` are satisfiable on this instance -/
example : KindInv (kindOf exK) σI :=
  paramState_kindInv exK σI rfl rfl
    (fun n hn => by simp [σI, AList.get] at hn)
    (fun n hn => by
      simp only [σI, AList.get] at hn
      by_cases h1 : "A" = n
      · exact Or.inl h1.symm
      · by_cases h2 : "w" = n
        · exact Or.inr (Or.inl h2.symm)
        · simp [h1, h2] at hn)

/-- rejected, one per error kind — and `execB` really raises that error, from every store over
    every scalar domain: a loop index used after its loop; a parameter re-declared in the function
    body's own block -/
example (x : Extra R) (σ : St R) :
    scopedKernel (.block [.forRange "i" (.litI 0) (.litI 2) [],
      .addAssign (.idx "A" .scalar [.sym "i" .int]) (.litF 1 0 false)]) = .error (.undeclared "i") ∧
    execB x (.block [.forRange "i" (.litI 0) (.litI 2) [],
      .addAssign (.idx "A" .scalar [.sym "i" .int]) (.litF 1 0 false)]) (initB σ)
      = .error (.scope (.undeclared "i")) ∧
    scopedKernel (.vdecl "w" .scalar (.litF 1 0 false)) = .error (.redeclared "w") ∧
    execB x (.vdecl "w" .scalar (.litF 1 0 false)) (initB σ) = .error (.scope (.redeclared "w")) :=
  ⟨rfl, rfl, rfl, rfl⟩

/-- shadowing in an inner block is legal C and accepted; an outer `t` read again after the block -/
def kS : Stmt :=
  .block [.vdecl "t" .scalar (.litF 1 0 false),
    .forRange "i" (.litI 0) (.litI 1) [.vdecl "t" .scalar (.litF 2 0 false)],
    .addAssign (.idx "A" .scalar [.litI 0]) (.sym "t" .scalar)]

/-- the flat semantics is NOT faithful for every accepted kernel: here C (and `execB`) add the outer
    `t = 1` to `A[0]`, the flat store was overwritten by the inner `t = 2`.  `flatCert` rejects it. -/
theorem flat_unfaithful_shadow_counterexample :
    scopedKernel kS = .ok () ∧ flatCert kS = false ∧
    resB (execB xI kS (initB σI)) "A" = some [1, 0] ∧ resF (exec xI kS σI) "A" = some [2, 0] := by
  decide +kernel

/-- no shadowing, but `t` is a `double` in one loop body and an `int` in the next one -/
def kK : Stmt :=
  .block [.forRange "i" (.litI 0) (.litI 1) [.vdecl "t" .scalar (.litF 1 0 false)],
    .forRange "j" (.litI 0) (.litI 1) [.vdecl "t" .int (.litI 5),
      .addAssign (.idx "A" .scalar [.litI 0]) (.sym "t" .scalar)]]

/-- … nor without the kind certificate: nothing is clobbered (`clobS … = ok []`), yet the flat run
    reads the stale `double t` of the first loop body where the block-structured run has no scalar
    `t` at all (run-time error; in C the read would see the `int`). `kindsS` rejects it. -/
theorem flat_unfaithful_kind_counterexample :
    scopedKernel kK = .ok () ∧ clobS kernelScope [] kK = .ok [] ∧ flatCert kK = false ∧
    errB (execB xI kK (initB σI)) = some (.run (.oob "rhs")) ∧ resF (exec xI kK σI) "A" = some [1, 0] := by
  decide +kernel

/-- rejection is conservative for the DYNAMIC semantics: the body of a zero-trip loop is never run,
    so `execB` succeeds, while the checker (like a C compiler) rejects the undeclared `zz` in it.
    Hence `scoped_complete_partial` cannot be extended to loops without an "at least one
    iteration" hypothesis. -/
theorem scoped_zero_trip_conservative :
    scopedKernel (.forRange "i" (.litI 0) (.litI 0)
      [.addAssign (.idx "A" .scalar [.litI 0]) (.sym "zz" .scalar)]) = .error (.undeclared "zz") ∧
    errB (execB xI (.forRange "i" (.litI 0) (.litI 0)
      [.addAssign (.idx "A" .scalar [.litI 0]) (.sym "zz" .scalar)]) (initB σI)) = none := by
  decide +kernel

/-- the certificate accepts legal shadowing when the shadowed variable is dead afterwards (the shape
    of the real `multi_rule` kernel: `J` at function level, re-declared inside a quadrature loop) -/
example :
    flatCert (.block [.vdecl "J" .scalar (.litF 3 0 false),
      .vdecl "d" .scalar (.sym "J" .scalar),
      .forRange "iq" (.litI 0) (.litI 2) [.vdecl "J" .scalar (.litF 4 0 false),
        .addAssign (.idx "A" .scalar [.sym "iq" .int]) (.bin .mul (.sym "J" .scalar) (.sym "d" .scalar))]]) = true ∧
    clobS kernelScope [] (.block [.vdecl "J" .scalar (.litF 3 0 false),
      .forRange "iq" (.litI 0) (.litI 2) [.vdecl "J" .scalar (.litF 4 0 false)]]) = .ok ["J"] := by
  decide +kernel

end Ffcx.LNodes
