/-
C16 — formatted source means what the AST says.

Property: for every expression and statement tree of the code-generation AST, the text emitted
by the C formatter parses, under the C grammar, back to the same tree (same operator nesting,
operands, array subscripts, loop bounds); the numba formatter satisfies the same under Python's
grammar; floating-point literals read back to within one unit in the last place.

Models (FfcxModel/LNodes/{FormatC,FormatNumba,Lex,ParseC,ParsePy}.lean) mirror the formatters of
the working tree (after the /repo fixes 784668e, 74ce3e1, abc5593, a8be78e, f009227, 248c9fa,
0464f70, 4dc68d1, and the MathFunction handler change c5f832c) and are tied to them by exact-text
correspondence on every run; the finite tables are regenerated from /repo on every run.

The theorems to apply to a tree in hand: `roundtrip_C` (lexing and parsing the printed text gives the erased
normal form `eraseC sc (norm e)`), `roundtrip_Py` (the erased tree; `roundtrip_Py_norm`: the erased normal form),
`roundtrip_stmt` for statements of both back ends (`roundtrip_stmt_C`, `roundtrip_stmt_Py` one by one),
`norm_eval` (the normal form has the value of the tree), `literal_readback_exact`.
A general theorem is followed by an `example` that instantiates it on a sample using every
constructor, and by the regression examples of the defects found in /repo. The proofs are in
Lemmas/Format*.lean, over the generic lexing and fuel lemmas of Lemmas/LexGen.lean and
Lemmas/Fuel.lean; `LawfulExtra`, a hypothesis of `norm_eval`, is in Lemmas/Fold.lean.

Modelling limits. Of the lexer models (FfcxModel/LNodes/Lex.lean): the only line terminator is `\n`
(a lone `\r` inside a comment text would end the line for GCC / CPython). Of the literal theorems
(`round64`, `litValueR` in FfcxModel/LNodes/FormatC.lean): no `-0.0`, no overflow. Every tree and
statement the harness evaluates (all generated kernels included) satisfies the hypotheses
`wfC` / `wfPy` / `wfS` / `wfSPy` (reported per run).
-/
import FfcxProofs.Lemmas.FormatTables
import FfcxProofs.Lemmas.FormatLit
import FfcxProofs.Lemmas.FormatNorm
import FfcxProofs.Lemmas.FormatStmtText
import FfcxProofs.Lemmas.FormatRaise
import FfcxProofs.Lemmas.FormatPy
import FfcxProofs.Lemmas.FormatPyNorm
import FfcxProofs.Lemmas.FormatPyStmtText
import FfcxProofs.Lemmas.FormatPyStmtParse
import FfcxModel.LNodes.Scalars

namespace Ffcx.LNodes.Fmt
open Ffcx.Generated.Precedence

/-- `Expr.prec` / `BinOp.prec` / `opStr` of the model equal the regenerated table, every
    expression class of lnodes.py is modelled, and the operator tokens spell the `op` strings. -/
theorem prec_table_agrees :
    (∀ r ∈ modelRows, ∃ c ∈ classes, rowMatches r c = true)
    ∧ (∀ c ∈ classes, c.kind ≠ "assign" → ∃ r ∈ modelRows, rowMatches r c = true)
    ∧ (∀ op : BinOp, (opTok op).text = op.opStr.toList) := by
  -- both directions compare the same pairs of rows: one evaluation
  have h : (∀ r ∈ modelRows, ∃ c ∈ classes, rowMatches r c = true)
      ∧ (∀ c ∈ classes, c.kind ≠ "assign" → ∃ r ∈ modelRows, rowMatches r c = true) := by decide +kernel
  exact ⟨h.1, h.2, fun op => by cases op <;> exact (toList_lit rfl).symm⟩

/-- A `MultiIndex` INSTANCE carries the precedence of its global index (lnodes `MultiIndex.__init__`
    sets `self.precedence = self.global_index.precedence`; probed on instances with 0, 1, 2 symbols
    on every run). The formatter models read it off with `precF`; this is what makes a MultiIndex
    operand get its parentheses (`x * (4 * i + j)`). -/
theorem multiindex_prec_agrees : miProbes = multiIndexPrec := by decide +kernel

/-- What `tableInjective` asks of every ordered pair of entries is symmetric and holds of an entry and
    itself: it is enough to look at each unordered pair once. -/
theorem tableInjective_of_pairwise {tbl : List (String × String)}
    (h : tbl.Pairwise fun a b => a.2 ≠ b.2 ∨ a.1 = b.1) : tableInjective tbl = true := by
  have key := List.Pairwise.forall_of_forall_of_flip (fun _ _ => .inr rfl) h
    (h.imp fun h => h.imp Ne.symm Eq.symm)
  simp only [tableInjective, List.all_eq_true, Bool.or_eq_true, bne_iff_ne, beq_iff_eq]
  exact fun a ha b hb => key ha hb

/-- each `math_table[dtype]` and the numba `function_map` are injective on their keys: two handler
    names that are keys are printed differently. A name that is no key is printed unchanged and may
    coincide with an image (`abs` ↦ `fabs`, and `fabs` itself is no key); the statement says nothing
    about those. -/
theorem math_names_injective :
    (∀ t ∈ mathTable, tableInjective t.2 = true) ∧ tableInjective numbaFunctionMap = true := by
  have h : (∀ t ∈ mathTable, t.2.Pairwise fun a b => a.2 ≠ b.2 ∨ a.1 = b.1)
      ∧ numbaFunctionMap.Pairwise fun a b => a.2 ≠ b.2 ∨ a.1 = b.1 := by decide +kernel
  exact ⟨fun t ht => tableInjective_of_pairwise (h.1 t ht), tableInjective_of_pairwise h.2⟩

/-- both back ends in one walk over (parent class, child class, operand position) -/
theorem local_faithful_both :
    ∀ p ∈ parentRows, ∀ c ∈ childRows, c.name ≠ "MultiIndex" → ∀ pos ∈ positions p,
      cFaithful p c pos = true ∧ pyFaithful p c pos = true := by decide +kernel

/-- C: for EVERY (parent class, child class, operand position) — no typing needed — the rule
    "parenthesise iff child.precedence ≥ parent.precedence" parenthesises whenever the child's
    grammar level does not bind tight enough at that position. (The class row `MultiIndex` is left
    out: an instance never presents the class attribute but the precedence of its global index — a
    `Sum` or `LiteralInt` row, see `multiindex_prec_agrees`.) -/
theorem local_faithful :
    ∀ p ∈ parentRows, ∀ c ∈ childRows, c.name ≠ "MultiIndex" → ∀ pos ∈ positions p,
      cFaithful p c pos = true :=
  fun p hp c hc hn pos hpos => (local_faithful_both p hp c hc hn pos hpos).1

/-- numba: the rule, with the extra parentheses around a comparison directly under a comparison,
    is faithful to Python's levels (comparisons chain!) for EVERY pair and position, with no typing
    hypothesis (`a < b == c` is printed `(a < b) == c`, /repo a8be78e). -/
theorem local_faithful_py :
    ∀ p ∈ parentRows, ∀ c ∈ childRows, c.name ≠ "MultiIndex" → ∀ pos ∈ positions p,
      pyFaithful p c pos = true :=
  fun p hp c hc hn pos hpos => (local_faithful_both p hp c hc hn pos hpos).2

/-- a tree using every constructor, with negative, exponent-form and complex literals, a unary
    minus over a negative literal, nested conditionals, n-ary nodes, a MultiIndex as a subscript and
    as an operand -/
def sampleTree : Expr :=
  .cond (.bin .or (.bin .and (.bin .lt (.sym "x" .real) (.litF (-5 / 2) 0 false)) (.not (.bin .eq (.sym "i" .int) (.litI (-1)))))
                  (.bin .ge (.sym "y" .scalar) (.litF (1 / 100000) 0 false)))
    (.bin .sub (.sum [.sym "x" .real, .prod [.litF 3 0 false, .sym "y" .scalar, .neg (.litF (-2) 0 false)], .litF 1 2 true])
               (.bin .div (.call "sqrt" .real [.sym "x" .real]) (.sum [.sym "y" .scalar])))
    (.cond (.sym "b" .bool)
      (.idx "T" .real [.mi [.sym "i" .int, .sym "j" .int] [3, 4] (.sum [.bin .mul (.litI 4) (.sym "i" .int), .sym "j" .int]), .litI 0])
      (.neg (.call "power" .scalar [.sym "y" .scalar,
        .bin .mul (.sym "i" .int) (.mi [.sym "i" .int, .sym "j" .int] [3, 4] (.sum [.bin .mul (.litI 4) (.sym "i" .int), .sym "j" .int]))])))

/-- a Section with declarations (2-D `static const` table with negative and exponent-form
    entries, an uninitialised array, a scalar), a multi-line comment, a loop nest with `=` and `+=`
    on array accesses with a MultiIndex, an empty comment, an empty loop inside a StatementList -/
def sampleStmt : Stmt :=
  .sect "tables and loops"
    [.adecl "FE" .real [2, 3] true (some [.litF (-1 / 2) 0 false, .litF 1 0 false, .litF (1 / 100000) 0 false,
        .litF 0 0 false, .litF 3 0 false, .litI (-7)]),
     .adecl "sp" .scalar [4] false none,
     .vdecl "w0" .scalar (.bin .mul (.sym "c" .scalar) (.litF (1 / 2) 0 false))]
    [.comment "first line\nsecond line",
     .forRange "i" (.litI 0) (.litI 2)
       [.forRange "j" (.litI 0) (.sym "n" .int)
          [.assign (.idx "sp" .scalar [.sym "j" .int]) (.sym "w0" .scalar),
           .addAssign (.idx "A" .scalar [.mi [.sym "i" .int, .sym "j" .int] [2, 3]
               (.sum [.bin .mul (.litI 3) (.sym "i" .int), .sym "j" .int])])
             (.bin .mul (.idx "FE" .real [.sym "i" .int, .sym "j" .int]) (.idx "sp" .scalar [.sym "j" .int]))],
        .block [.comment "", .forRange "k" (.litI 0) (.litI 1) []]]]
    ["c"] ["A"] []

/-- `EQ(LT(a,b), LT(c,d))` -/
def chainTree : Expr :=
  .bin .eq (.bin .lt (.sym "a" .real) (.sym "b" .real)) (.bin .lt (.sym "c" .real) (.sym "d" .real))

/-- `bessel_y(1, x)` -/
def besselTree : Expr := .call "bessel_y" .real [.litI 1, .sym "x" .real]

structure SamplesWf : Prop where
  treeWT : WT .c64 sampleTree = true
  treePy : wfPy sampleTree = true
  stmtC64 : wfS .c64 sampleStmt = true
  stmtF64 : wfS .f64 sampleStmt = true
  stmtPy : wfSPy .f64 sampleStmt = true
  chain : wfPy chainTree = true
  bessel : wfPy besselTree = true
  cmp : cmpNested.all wfPy = true

/-- One evaluation for all of them: what is dear in it (the keyword tables against which each
    identifier is held, the digit search for each literal) is done once. -/
theorem samples_wf : SamplesWf := by
  have h : WT .c64 sampleTree = true ∧ wfPy sampleTree = true ∧ wfS .c64 sampleStmt = true
      ∧ wfS .f64 sampleStmt = true ∧ wfSPy .f64 sampleStmt = true ∧ wfPy chainTree = true
      ∧ wfPy besselTree = true ∧ cmpNested.all wfPy = true := by decide +kernel
  obtain ⟨h1, h2, h3, h4, h5, h6, h7, h8⟩ := h
  exact ⟨h1, h2, h3, h4, h5, h6, h7, h8⟩

/-- `Neg(LiteralFloat(-2.0))`, reachable as `LiteralFloat(-2.0) * -1` -/
def negNegLit : Expr := .neg (.litF (-2) 0 false)

/-- In `lexC (fmtExprC sc e)` no two adjacent emitted tokens fuse: for every well-formed expression
    tree the lexer reads the text back to exactly the tokens the formatter intends. -/
theorem no_token_fusion (sc : Scalar) (e : Expr) (hwf : wfC sc e = true) :
    lexC (fmtExprC sc e) = tokExprC sc e :=
  lex_render _ (separated_pieces sc e hwf)

/-- regression: the former witness of token fusion (`--2.0`, the decrement token) is now printed
    `-(-2.0)`; a unary minus over a negative integer literal is parenthesised likewise, and a `Not`
    over a negative literal needs no parentheses (`!-` is no token) -/
example :
    fmtExprC .f64 negNegLit = "-(-2.0)".toList
    ∧ lexC (fmtExprC .f64 negNegLit) = [.p .minus, .p .lpar, .p .minus, .num "2.0", .p .rpar]
    ∧ fmtExprC .f64 (.neg (.litI (-1))) = "-(-1)".toList
    ∧ fmtExprC .f64 (.not (.litF (-2) 0 false)) = "!-2.0".toList := by
  refine ⟨?_, ?_, ?_, ?_⟩ <;> decide +kernel

/-- For every well-formed expression tree the C text lexes and parses back to the erased normal form
    of the tree: same operator nesting, operands, subscripts, call arguments.
    `wfC` (decidable, FfcxModel/LNodes/ParseC.lean): identifiers are identifiers, n-ary nodes and
    subscript/argument lists are non-empty, a non-complex literal has no imaginary part, and for a
    MathFunction call `callOK`: the printed math name is an identifier, the handler does not raise
    (see `format_C_total`), and `norm` does not change which arguments have dtype SCALAR, hence which
    math table is chosen. No typing discipline is needed for C. -/
theorem roundtrip_C (sc : Scalar) (e : Expr) (hwf : wfC sc e = true) :
    parseExprC (lexC (fmtExprC sc e)) = some (eraseC sc (norm e)) := by
  rw [no_token_fusion sc e hwf, parse_tokens_C sc e hwf, eraseC_norm sc e hwf]

/-- …and on a well-formed tree the formatter does not raise: `formatExprC` (the MathFunction
    handler of the current /repo: the math table is the scalar-type one iff ANY argument has dtype
    SCALAR; if that table belongs to a complex type and does not contain the function — `erf`,
    `atan_2`, Bessel functions, `min_value`/`max_value`, unknown handler names — the handler raises
    `RuntimeError`) returns the text `fmtExprC`. `wfC` excludes those calls (the middle conjunct of
    `callOK`; its other two conjuncts also exclude calls on which the formatter returns a text). -/
theorem format_C_total (sc : Scalar) (e : Expr) (hwf : wfC sc e = true) :
    formatExprC sc e = some (fmtExprC sc e) := by
  simp only [formatExprC, wfC_not_raises sc e hwf, Bool.false_eq_true, if_false]

/-- the raising case is real and depends on the scalar type: `erf` of a SCALAR symbol raises in
    complex128 (and `wfC` is false there) and is printed (`erf(y)`) in float64, `sqrt` of it is
    printed `csqrt(y)`; one SCALAR argument anywhere selects the complex table (`cpow(x, y)`) -/
example :
    formatExprC .c128 (.call "erf" .scalar [.sym "y" .scalar]) = none
    ∧ wfC .c128 (.call "erf" .scalar [.sym "y" .scalar]) = false
    ∧ formatExprC .f64 (.call "erf" .scalar [.sym "y" .scalar]) = some "erf(y)".toList
    ∧ formatExprC .c128 (.call "sqrt" .scalar [.sym "y" .scalar]) = some "csqrt(y)".toList
    ∧ formatExprC .c128 (.call "power" .real [.sym "x" .real, .sym "y" .scalar]) = some "cpow(x, y)".toList
    ∧ formatExprC .c128 (.call "power" .real [.sym "x" .real, .sym "z" .real]) = some "pow(x, z)".toList
    ∧ formatExprC .c128 (.call "atan_2" .real [.sym "x" .real, .sym "y" .scalar]) = none := by
  decide +kernel

/-- The only non-structural conjunct of `wfC` — "the printed literal text is one number token" —
    always holds: every text `repr(float)` / `str(int)` produces is a pp-number that starts with a
    digit and ends in a digit (`numShape_reprFloat`, `numShape_fmtInt`). What remains of it is the
    representation invariant that a non-complex `LiteralFloat` carries no imaginary part. -/
theorem literal_texts_are_tokens (e : Expr) : litShapeOK e = (match e with
    | .litF _ im c => c || decide (im = 0)
    | _ => true) := litShapeOK_eq e

/-- the statement of DESIGN §6 (`WT` = well-formed and well-typed) is an instance -/
theorem roundtrip_C_WT (sc : Scalar) (e : Expr) (hwt : WT sc e = true) :
    parseExprC (lexC (fmtExprC sc e)) = some (eraseC sc (norm e)) := by
  simp only [WT, Bool.and_eq_true] at hwt
  exact roundtrip_C sc e hwt.1

/-- the hypotheses of `roundtrip_C` are satisfiable by a non-trivial tree -/
example : WT .c64 sampleTree = true
    ∧ parseExprC (lexC (fmtExprC .c64 sampleTree)) = some (eraseC .c64 (norm sampleTree)) :=
  ⟨samples_wf.treeWT, roundtrip_C_WT _ _ samples_wf.treeWT⟩

/-- regression: a MultiIndex operand is parenthesised like the Sum it prints as -/
example : fmtExprC .f64 (.bin .mul (.sym "x" .int)
      (.mi [.sym "i" .int, .sym "j" .int] [3, 4] (.sum [.bin .mul (.litI 4) (.sym "i" .int), .sym "j" .int])))
    = "x * (4 * i + j)".toList := by decide +kernel

section Value
open Lean.Grind
-- as in Lemmas/FormatEval.lean: the cast `Int → R` of the statements below
attribute [local instance] Lean.Grind.Ring.intCast

/-- `eval (norm e) = eval e` over any field `R` with a lawful literal embedding (`LawfulExtra`:
    `ofRat` respects 0, 1 and negation) in which the symbol `I` is the imaginary unit (`ComplexI`),
    for well-typed `e` whose MultiIndex global indices evaluate (`miOK`). Together with
    `roundtrip_C`: the tree the C grammar reads from the text has the value of the AST — operator
    precedence and associativity never change the computed value (n-ary nodes are evaluated left to
    right, as C does).
    The hypotheses are proof-side: `LawfulExtra` (Lemmas/Fold.lean) asks `ofRat 0 0 = 0`,
    `ofRat 1 0 = 1` and `ofRat (-re) (-im) = - ofRat re im`; `ComplexI` (Lemmas/FormatEval.lean) asks
    `ofRat re im = ofRat re 0 + I * ofRat im 0` for the value of the symbol `I` in `σ`; `miOK`
    (ibid.) asks of every MultiIndex in the tree that its global index has the shape `intE` (ibid.:
    integer literals and INT symbols under `-`, `+`, `*`, Sum, Product) and evaluates to an integer
    in `σ`. -/
theorem norm_eval {R : Type} [Field R] {x : Extra R} {sc : Scalar} (hl : LawfulExtra x) (σ : St R) (hI : ComplexI x σ)
    (e : Expr) (hwt : WT sc e = true) (hm : miOK σ e = true) : eval x σ (norm e) = eval x σ e := by
  simp only [WT, Bool.and_eq_true] at hwt
  exact norm_eval_of_kind hl σ hI e hwt.2 hm

/-- the hypotheses are satisfiable: exact rationals (the real sub-domain; `I` unbound = 0), the
    sample tree, a state binding the index symbols -/
example : LawfulExtra ratExtra ∧ ComplexI ratExtra ({ iv := [("i", 1), ("j", 2)] } : St Rat)
    ∧ miOK ({ iv := [("i", 1), ("j", 2)] } : St Rat) sampleTree = true := by
  refine ⟨⟨rfl, rfl, fun _ _ => rfl⟩, ?_, by decide +kernel⟩
  intro re im
  -- `I` is unbound and evaluates to 0; `ratExtra.ofRat` keeps the real part
  show re = re + 0 * im
  rw [Rat.zero_mul, Rat.add_zero]

end Value

/-- For every well-formed statement tree — `Assign`,
    `AssignAdd`, `VariableDecl`, `ArrayDecl` (with dimensions, `static const`, nested initialiser
    lists or none), `ForRange` (index, bounds, body), `Comment` (also multi-line), `StatementList`,
    `Section` (comment header, declarations, the scoping braces around the body) — the formatter
    does not raise, the C lexer reads the text back to exactly the intended token stream (comments
    are not tokens), and the statement parser reads the tokens back to the erased statement tree.
    `wfS` (decidable, FfcxModel/LNodes/ParseC.lean): left-hand sides are symbols or array accesses,
    declared names and loop indices are identifiers, the declared type is not `DataType.NONE`, array
    initialisers are numeric literals, Section names and input/output names contain no line break,
    every expression is well-formed (`wfC`). -/
theorem roundtrip_stmt_C (sc : Scalar) (s : Stmt) (hwf : wfS sc s = true) :
    ∃ text, formatStmtC sc s = some text ∧ lexC text = tokStmtC sc s
      ∧ parseStmtsTopC (lexC text) = some (eraseStmtC sc s) := by
  obtain ⟨text, h1, h2, _⟩ := stmt_lex sc s hwf
  refine ⟨text, ?_, h2, by rw [h2]; exact parse_tokens_stmt sc s hwf⟩
  simp only [formatStmtC, wfS_not_raises sc s hwf, Bool.false_eq_true, if_false, h1]

/-- the hypothesis of `roundtrip_stmt_C` is satisfiable by a statement using every form -/
example : wfS .c64 sampleStmt = true
    ∧ ∃ text, formatStmtC .c64 sampleStmt = some text ∧ lexC text = tokStmtC .c64 sampleStmt
      ∧ parseStmtsTopC (lexC text) = some (eraseStmtC .c64 sampleStmt) :=
  ⟨samples_wf.stmtC64, roundtrip_stmt_C _ _ samples_wf.stmtC64⟩

/-- what such a text looks like -/
example : fmtStmtC .f64 (.forRange "i" (.litI 0) (.litI 2)
      [.adecl "t" .real [2, 2] true (some [.litF 1 0 false, .litF (-2) 0 false, .litF 3 0 false, .litF 4 0 false]),
       .comment "a\nb",
       .addAssign (.idx "A" .scalar [.sym "i" .int]) (.idx "t" .real [.sym "i" .int, .litI 0])])
    = some ("for (int i = 0; i < 2; ++i)\n{\n  static const double t[2][2] = {{1.0, -2.0},\n    {3.0, 4.0}};\n"
        ++ "  // a\n  // b\n  A[i] += t[i][0];\n}\n").toList := by
  rw [String.toList_append, toList_lit rfl, toList_lit rfl]
  decide +kernel

/-- the hypothesis is needed: a Section whose name contains a line break prints the rest of the
    name outside the `//` comment, where it is lexed as tokens the statement does not have
    (not reachable from ffcx: section names are fixed strings without line breaks) -/
theorem roundtrip_stmt_C_counterexample :
    wfS .f64 (.sect "a\nb" [] [] [] [] []) = false
    ∧ (fmtStmtC .f64 (.sect "a\nb" [] [] [] [] [])).map lexC = some [.id "b"]
    ∧ tokStmtC .f64 (.sect "a\nb" [] [] [] [] []) = [] := by
  refine ⟨?_, ?_, ?_⟩ <;> decide +kernel

/-- the accumulation statement of every kernel, `A[4 * i + j] += fw0 * T[i];`, is an instance -/
example :
    wfS .f64 (.addAssign (.idx "A" .scalar [.mi [.sym "i" .int, .sym "j" .int] [3, 4] (.sum [.bin .mul (.litI 4) (.sym "i" .int), .sym "j" .int])])
      (.bin .mul (.sym "fw0" .scalar) (.idx "T" .real [.sym "i" .int]))) = true := by decide +kernel

/-- For every well-formed expression the Python lexer reads the numba text back to exactly the
    tokens the formatter intends: `not` and the keyword operators are set off by blanks, and neither
    the dotted heads `np.sqrt`, nor a sign in front of a number, nor the imaginary suffix `j` fuse
    with their neighbours. -/
theorem no_token_fusion_py (e : Expr) (hwf : wfPy e = true) : lexPyExpr (fmtExprPy e) = tokExprPy e :=
  lexPyExpr_render _ (pySeparated_pieces e hwf)

/-- For every well-formed expression tree the numba text
    lexes and parses, under Python's expression grammar, back to the erased tree: same operator
    nesting, operands, subscripts (`A[i, j]`, MultiIndex by its global index), call arguments,
    callables (`np.*`, `math.erf`, `scipy.special.yn/jn`); `erasePy` left-nests n-ary Sum/Product
    itself (`leftNestPT`), reads a negative literal as unary minus over its magnitude and a complex
    literal as Python parses its `str`: `(1+2j)` a sum, `(1-2j)` a difference, `2j` (real part 0) a
    single imaginary number.
    `wfPy` (decidable, FfcxModel/LNodes/ParsePy.lean): identifiers are identifiers and neither C nor
    Python keywords (`validIdentPy`; excluding the C keywords is more than Python needs), n-ary nodes
    and subscript lists are non-empty, a non-complex literal has no imaginary part, `erf` has one
    argument, a MultiIndex carries a Sum or integer literal. NO typing hypothesis: comparison
    chaining (`a < b == c` is one chained comparison in Python) cannot occur because the formatter
    parenthesises a comparison directly under a comparison; `(not (x))` and `(t if c else f)` are
    always parenthesised; the text has no `**`. -/
theorem roundtrip_Py (e : Expr) (hwf : wfPy e = true) :
    parseExprPy (lexPyExpr (fmtExprPy e)) = some (erasePy e) := by
  rw [no_token_fusion_py e hwf, parse_tokens_Py e hwf]

/-- …in terms of the normal form `norm` of the C round trip, for trees without complex literals
    (`norm` writes `1 + I * 2`, Python reads `(1+2j)` as a sum with an imaginary NUMBER) -/
theorem roundtrip_Py_norm (e : Expr) (hwf : wfPy e = true) (hnc : noComplex e = true) :
    parseExprPy (lexPyExpr (fmtExprPy e)) = some (erasePy (norm e)) := by
  rw [roundtrip_Py e hwf, erasePy_norm e hnc]

/-- the literal-shape conjunct of `wfPy` — "the printed magnitude is one NUMBER token" — always
    holds (`repr` of a float, the `'r'`-formatted parts of a complex with the `j` suffix, `str(int)`) -/
theorem literal_texts_are_tokens_py (e : Expr) : pyLitShapeOK e = (match e with
    | .litF _ im c => c || decide (im = 0)
    | _ => true) := pyLitShapeOK_eq e

/-- the hypotheses of `roundtrip_Py` are satisfiable by the tree that uses every constructor -/
example : wfPy sampleTree = true
    ∧ parseExprPy (lexPyExpr (fmtExprPy sampleTree)) = some (erasePy sampleTree) :=
  ⟨samples_wf.treePy, roundtrip_Py _ samples_wf.treePy⟩

/-- `wfPy` is needed, (1): `math.erf(args[0])` drops further arguments; (2): a symbol named like a
    Python keyword is not an expression. Neither is reachable from UFL (`erf` has one operand,
    names are generated). -/
theorem roundtrip_Py_counterexample :
    (wfPy (.call "erf" .real [.sym "x" .real, .sym "y" .real]) = false
      ∧ parseExprPy (lexPyExpr (fmtExprPy (.call "erf" .real [.sym "x" .real, .sym "y" .real])))
          = some (.call "math.erf" [.id "x"])
      ∧ erasePy (.call "erf" .real [.sym "x" .real, .sym "y" .real]) = .call "math.erf" [.id "x", .id "y"])
    ∧ (wfPy (.sym "lambda" .real) = false
      ∧ (parseExprPy (lexPyExpr (fmtExprPy (.sym "lambda" .real)))).isNone = true) := by
  refine ⟨⟨by decide +kernel, pyParsesTo_sound (by decide +kernel), PT.eqb_sound _ _ (by decide +kernel)⟩,
    by decide +kernel, by decide +kernel⟩

/-- the ill-typed but constructible family that used to fail (DESIGN F16) — every comparison
    directly under every comparison, as left child, as right child, and as left child beside a right
    child with the parent's own operator — is covered by `roundtrip_Py`: Python chains `a < b == c`;
    the formatter prints `(a < b) == c`. -/
theorem roundtrip_Py_comparisons :
    ∀ e ∈ cmpNested, parseExprPy (lexPyExpr (fmtExprPy e)) = some (erasePy e) := by
  intro e he
  exact roundtrip_Py e (List.all_eq_true.1 samples_wf.cmp e he)

/-- regression (/repo a8be78e, 248c9fa): a comparison of two comparisons is printed with both
    parenthesised, and a Bessel call is printed with its arguments -/
example :
    fmtExprPy chainTree = "(a < b) == (c < d)".toList ∧ wfPy chainTree = true
    ∧ fmtExprPy besselTree = "scipy.special.yn(1, x)".toList ∧ wfPy besselTree = true := by
  exact ⟨by decide +kernel, samples_wf.chain, by decide +kernel, samples_wf.bessel⟩

/-- For every well-formed statement tree — `Assign`,
    `AssignAdd`, `VariableDecl`, `ArrayDecl` (`np.empty`, `np.full`, `np.array` with nested list
    displays that continue over several physical lines), `ForRange`, `Comment`, `StatementList`,
    `Section` — the numba formatter does not raise, the Python lexer (physical lines, indentation
    stack, implicit line joining inside brackets, blank and comment lines) reads the text back to
    exactly the intended token stream with NEWLINE / INDENT / DEDENT, and the statement parser reads
    the tokens back to the erased statement tree; a loop body without any real line gets `pass`,
    which is no statement.
    `wfSPy` (decidable, FfcxModel/LNodes/ParsePy.lean): as `wfS` with `wfPy` for `wfC`, and Python
    keywords (besides the C ones) excluded as declared names and loop indices; a `VariableDecl` of
    any type is accepted (the numba text does not print it), an `ArrayDecl` needs a type that
    `pyTypeName` knows; comment texts, Section names and input/output names are arbitrary (every
    line of them gets its own `#`).
    INDENT is produced by the first real line of a loop body, DEDENT by the next real line at or
    below the enclosing level or by the end of the text; the line breaks of a continued list display
    are inside brackets and produce no NEWLINE. -/
theorem roundtrip_stmt_Py (sc : Scalar) (s : Stmt) (hwf : wfSPy sc s = true) :
    ∃ text, fmtStmtPy sc s = some text ∧ lexPy text = some (tokStmtPy sc s)
      ∧ (lexPy text).bind parseStmtsTopPy = some (eraseStmtPy sc s) := by
  obtain ⟨text, h1, h2⟩ := stmt_lex_py sc s hwf
  exact ⟨text, h1, h2, by rw [h2]; exact parse_tokens_stmt_py sc s hwf⟩

theorem roundtrip_stmt (sc : Scalar) (s : Stmt) (hC : wfS sc s = true) (hPy : wfSPy sc s = true) :
    (∃ text, formatStmtC sc s = some text ∧ lexC text = tokStmtC sc s
      ∧ parseStmtsTopC (lexC text) = some (eraseStmtC sc s))
    ∧ (∃ text, fmtStmtPy sc s = some text ∧ lexPy text = some (tokStmtPy sc s)
      ∧ (lexPy text).bind parseStmtsTopPy = some (eraseStmtPy sc s)) :=
  ⟨roundtrip_stmt_C sc s hC, roundtrip_stmt_Py sc s hPy⟩

/-- the hypotheses are satisfiable by the statement that uses every form -/
example : wfS .f64 sampleStmt = true ∧ wfSPy .f64 sampleStmt = true
    ∧ ∃ text, fmtStmtPy .f64 sampleStmt = some text ∧ lexPy text = some (tokStmtPy .f64 sampleStmt)
      ∧ (lexPy text).bind parseStmtsTopPy = some (eraseStmtPy .f64 sampleStmt) := by
  exact ⟨samples_wf.stmtF64, samples_wf.stmtPy, roundtrip_stmt_Py _ _ samples_wf.stmtPy⟩

/-- what such a text looks like: a continued list display inside a loop, a comment-only inner
    body that gets `pass` -/
example : fmtStmtPy .f64 (.forRange "i" (.litI 0) (.litI 2)
      [.adecl "t" .real [2, 2] true (some [.litF 1 0 false, .litF (-2) 0 false, .litF 3 0 false, .litF 4 0 false]),
       .forRange "j" (.litI 0) (.litI 1) [.comment "nothing"],
       .addAssign (.idx "A" .scalar [.sym "i" .int]) (.idx "t" .real [.sym "i" .int, .litI 0])])
    = some ("for i in range(0, 2):\n    t = np.array([[1.0, -2.0],\n    [3.0, 4.0]], dtype=np.float64)\n"
        ++ "    for j in range(0, 1):\n        # nothing \n        \n        pass\n    A[i] += t[i, 0]\n    \n").toList := by
  rw [String.toList_append, toList_lit rfl, toList_lit rfl]
  decide +kernel

/-- `wfSPy` is needed: a declared name that is a Python keyword gives a line Python cannot parse
    (names are generated by ffcx, none is a keyword) -/
theorem roundtrip_stmt_Py_counterexample :
    wfSPy .f64 (.vdecl "in" .real (.litI 1)) = false
    ∧ fmtStmtPy .f64 (.vdecl "in" .real (.litI 1)) = some "in = 1\n".toList
    ∧ ((lexPy "in = 1\n".toList).bind parseStmtsTopPy).isNone = true := by
  refine ⟨?_, ?_, ?_⟩ <;> decide +kernel

/-- For every normal binary64 value `x = M·2^(E−52)`
    (`2⁵² ≤ M < 2⁵³`, `E ≥ −1022`; exponents unbounded above, i.e. overflow is not modelled), the
    decimal the formatters print for `x` — `litValueR x`, the value of `repr(x)`: the first decimal
    with `n = 1 … 17` significant digits found by the digit search that reads back to `x` — reads
    back, with round-to-nearest-even, to exactly `x`.
    For the candidates the search accepts this holds by construction (the search tests
    `round64 d = x`); the content of the theorem is that the search cannot end without such a
    candidate: its fallback is the correctly rounded 17-digit decimal, which `literal_exact 16`
    proves to read back. Value level: the digit string `reprFloat x` is tied to `litValueR x` and
    to Python's `repr` by execution on every sample of a run. Negative `x` by symmetry. -/
theorem literal_readback_exact (M : Nat) (E : Int) (hM1 : 2 ^ 52 ≤ M) (hM2 : M < 2 ^ 53) (hE : -1022 ≤ E) :
    round64 (litValueR ((M : Rat) * p2i (E - 52))) = (M : Rat) * p2i (E - 52) := by
  have hpos : 0 < (M : Rat) * p2i (E - 52) :=
    Rat.mul_pos (Rat.natCast_pos.2 (Nat.lt_of_lt_of_le (Nat.two_pow_pos 52) hM1)) (p2i_pos _)
  rw [litValueR_pos _ hpos]
  rcases shortestFrom_spec ((M : Rat) * p2i (E - 52)) (decExp ((M : Rat) * p2i (E - 52))) 17 1 with h | h
  · exact h
  · rw [h, ← litValue_pos 17 _ hpos]
    exact literal_exact 16 (by decide) M E hM1 hM2 hE

/-- the property's clause: the literal reads back to within one unit in the last place (in fact
    with error 0) -/
theorem literal_1ulp (M : Nat) (E : Int) (hM1 : 2 ^ 52 ≤ M) (hM2 : M < 2 ^ 53) (hE : -1022 ≤ E) :
    let x := (M : Rat) * p2i (E - 52)
    round64 (litValueR x) - x ≤ ulp64 x ∧ x - round64 (litValueR x) ≤ ulp64 x := by
  intro x
  have h : round64 (litValueR x) = x := literal_readback_exact M E hM1 hM2 hE
  have hu : 0 < ulp64 x := by unfold ulp64; exact p2i_pos _
  rw [h, Rat.sub_self]
  exact ⟨Rat.le_of_lt hu, Rat.le_of_lt hu⟩

/-- For every normal binary64 value, rounding to 17
    significant decimal digits and reading the decimal back with round-to-nearest-even gives the
    value: the classical `10¹⁶ > 2⁵³` argument, including the power-of-two boundary (where the
    binade below has half the spacing) and the lowest normal binade. -/
theorem literal_exact_17 (M : Nat) (E : Int) (hM1 : 2 ^ 52 ≤ M) (hM2 : M < 2 ^ 53) (hE : -1022 ≤ E) :
    round64 (litValue 17 ((M : Rat) * p2i (E - 52))) = (M : Rat) * p2i (E - 52) :=
  literal_exact 16 (by decide) M E hM1 hM2 hE

/-- `1 + 2⁻⁵¹` (two ulps above 1): the former witness of the 16-digit defect (`1.0`) -/
def twoUlp : Rat := 1 + 1 / 2 ^ 51

/-- regression + non-vacuity: the witness is now printed with 17 digits and reads back exactly;
    `twoUlp` is an instance of the theorems (`M = 2⁵² + 2`, `E = 0`) -/
example :
    fmtExprC .f64 (.litF twoUlp 0 false) = "1.0000000000000004".toList
    ∧ readNum (reprFloat twoUlp) = some (litValueR twoUlp)
    ∧ round64 (litValueR twoUlp) = twoUlp := by
  have h : fmtExprC .f64 (.litF twoUlp 0 false) = "1.0000000000000004".toList
      ∧ readNum (reprFloat twoUlp) = some (litValueR twoUlp) := by decide +kernel
  refine ⟨h.1, h.2, ?_⟩
  have := literal_readback_exact (2 ^ 52 + 2) 0 (by decide) (by decide) (by decide)
  have e : (((2 ^ 52 + 2 : Nat) : Rat) * p2i (0 - 52)) = twoUlp := by decide +kernel
  rw [e] at this; exact this

end Ffcx.LNodes.Fmt
