/-
C11 — which quadrature rule does every integral get (selection), and how are the integrals of one
subdomain grouped by rule.  Theorems about the transcription `FfcxModel/Quadrature/Select.lean` of
`_analyze_form` + `_group_integrands_by_quadrature_rule` (as repaired by c4a6950, 605b08f and e200672), over ALL inputs
(any number of integrals, any metadata, any elements, any options).  `Rel2 P g.integrals outs` reads "for every
integral `it` of the group and its output `out`: `P it out`".  The inputs of the defects c4a6950 and 605b08f (on which
the code used to depend on the order of the integrals / use the wrong entity) and e200672 (which rule object survives
a merge) stand as closed regressions `regression_*`.
-/
import FfcxProofs.Lemmas.QuadSelBase
import FfcxProofs.C11
-- for its instance `DecidableEq (Except ε α)`: the closed `decide +kernel` theorems compare results of `selectGroup`
import FfcxProofs.Lemmas.ExceptBind

namespace Ffcx.QuadSel

def Rule.degree? : Rule → Option Nat
  | .basix _ _ d _ => some d
  | .tensor _ _ d _ => some d
  | _ => none

def Rule.qtype? : Rule → Option QType
  | .basix _ qt _ _ => some qt
  | .tensor _ qt _ _ => some qt
  | _ => none

def Rule.isCustom : Rule → Bool
  | .custom _ _ => true
  | _ => false

/-- the reference cell a rule's points live in (`none`: arrays of a quadrature element) -/
def Rule.cell? : Rule → Option Cell
  | .basix c _ _ _ => some c
  | .tensor n _ _ _ => if n = 2 then some .quadrilateral else if n = 3 then some .hexahedron else none
  | .vertexScheme c => some c
  | .point => some .point
  | .custom _ _ => none

/-- the `vertex` branch is taken: scheme "vertex" on anything but a vertex integral -/
def VertexBranch (g : GroupIn) (s : String) : Prop := s = "vertex" ∧ g.itype ≠ .vertex

/-- what the `vertex` scheme of an integral type on a cell must be: ONE rule, filed under and made of the
reference cell `c` of the integration ENTITY — the cell itself for `dx`, the (unique) facet type for
`ds`/`dS`, the unique ridge type for `dr`; points = the vertices of `c`, every weight =
`volume(c) / #vertices(c)`: the volume of the ENTITY, not of the cell. -/
def IsEntityVertexRule (g : GroupIn) (sels : List Sel) : Prop :=
  ∃ c, sels = [⟨c, .vertexScheme c⟩] ∧
    (g.itype = .cell → c = g.cell) ∧
    (g.itype.isFacet = true → ∃ ts, negIdx (subentityTypes g.cell) 2 = some ts ∧ ts ≠ [] ∧ ∀ t ∈ ts, t = c) ∧
    (g.itype = .ridge → ∃ ts, negIdx (subentityTypes g.cell) 3 = some ts ∧ ts ≠ [] ∧ ∀ t ∈ ts, t = c) ∧
    (geometry c).length ≠ 0 ∧
    ruleData (.vertexScheme c) = some ((geometry c).map (fun v => (v, volume c / ((geometry c).length : Rat))))

theorem uniqueSubentity_spec (st : Cell) (k : Nat) (c : Cell) (h : uniqueSubentity st k = .ok c) :
    ∃ ts, negIdx (subentityTypes st) k = some ts ∧ ts ≠ [] ∧ ∀ t ∈ ts, t = c := by
  unfold uniqueSubentity at h
  split at h
  · cases h
  · cases h
  · rename_i _ t ts hts
    by_cases hall : ts.all (· == t) = true
    · rw [if_pos hall] at h
      cases h
      exact ⟨c :: ts, hts, List.cons_ne_nil _ _,
        List.forall_mem_cons.mpr ⟨rfl, fun u hu => eq_of_beq (List.all_eq_true.mp hall u hu)⟩⟩
    · rw [if_neg hall] at h; cases h

theorem selectVertex_spec (g : GroupIn) (sels : List Sel) (h : selectVertex g.itype g.cell = .ok sels) :
    IsEntityVertexRule g sels := by
  unfold selectVertex at h
  dsimp only at h
  split at h
  · cases h
  · rename_i c hc
    by_cases h0 : ((geometry c).length == 0) = true
    · rw [if_pos h0] at h; cases h
    · rw [if_neg h0] at h
      cases h
      refine ⟨c, rfl, fun hi => ?_, fun hi => ?_, fun hi => ?_, fun e => h0 (by rw [e]; rfl), rfl⟩
      · rw [hi] at hc; exact (Except.ok.inj hc).symm
      · rw [if_pos hi] at hc; exact uniqueSubentity_spec _ _ _ hc
      · rw [hi] at hc; exact uniqueSubentity_spec _ _ _ hc

/-- what can be read off a rule that `create_quadrature` (or its tensor-product variant) built for entity type
`c`, scheme string `s` and degree `d`: it is made for `c`, and unless it is the one-point rule it has the type
the string stands for and exactly that degree -/
def IsStdRule (d : Int) (s : String) (c : Cell) (r : Rule) : Prop :=
  r.cell? = some c ∧ (r = .point ∨
    ∃ qt, stringToType s = some qt ∧ 0 ≤ d ∧ r.qtype? = some qt ∧ r.degree? = some d.toNat)

theorem createQuadrature_rule (c : Cell) (d : Int) (s : String) (ps : List Polyset) (r : Rule)
    (h : createQuadrature c d s ps = .ok r) : IsStdRule d s c r := by
  rcases createQuadrature_spec c d s ps r h with ⟨rfl, rfl⟩ | ⟨_, qt, h1, h2, _, rfl⟩
  · exact ⟨rfl, .inl rfl⟩
  · exact ⟨rfl, .inr ⟨qt, h1, h2, rfl, rfl⟩⟩

/-- the default branch: one rule per reference cell type of the integration entity, each made for the cell type
it is filed under, of the type of the scheme string and of the requested degree -/
theorem createRules_spec (g : GroupIn) (d : Int) (s : String) (ps : List Polyset) (tp : Bool) (sels : List Sel)
    (h : createRules g.itype g.cell g.facetTypes g.ridgeTypes d s ps tp = .ok sels) :
    sels.map (·.cell) = entityCells g ∧ ∀ x ∈ sels, IsStdRule d s x.cell x.rule := by
  have each := fun cs (hcs : createEach d s ps cs = .ok sels) =>
    (createEach_rel hcs).map_right.imp_right fun hq x hx => createQuadrature_rule _ d s ps _ (hq x hx)
  unfold entityCells
  cases hi : g.itype <;> rw [hi] at h
  case exteriorFacet | interiorFacet | ridge => exact each _ h
  case vertex =>
    cases h
    exact ⟨rfl, List.forall_mem_singleton.mpr ⟨rfl, .inl rfl⟩⟩
  case cell =>
    unfold createRules at h
    dsimp only at h
    split at h
    · rename_i hcond
      split at h
      · cases h
      · rename_i c qt n ps' hr
        -- the tensor rule takes over type and degree of the Basix rule made for the interval
        cases h
        refine ⟨rfl, List.forall_mem_singleton.mpr
          ⟨?_, .inr ((createQuadrature_rule _ d s ps _ hr).2.resolve_left nofun)⟩⟩
        simp only [Bool.and_eq_true, Bool.or_eq_true, beq_iff_eq] at hcond
        rcases hcond.1 with hq | hq <;> rw [hq] <;> rfl
      · rename_i r hne hr
        -- no other rule is made for an interval
        rcases createQuadrature_spec _ d s ps r hr with ⟨hp, _⟩ | ⟨_, qt, _, _, _, rfl⟩
        · cases hp
        · exact absurd rfl (hne _ _ _ _)
    · split at h
      · cases h
      · rename_i r hr
        cases h
        exact ⟨rfl, List.forall_mem_singleton.mpr (createQuadrature_rule _ d s ps r hr)⟩

/-- one step for a standard (non-custom) request: `"custom"` is refused, the `vertex` branch gives the vertex
rule of the integration entity, everything else goes to `createRules` -/
theorem selectStep_std (o : Options) (g : GroupIn) (it : IntegralIn) (d : Int) (s : String)
    (sels : List Sel) (h : selectStep o g it (.std d s) = .ok sels) :
    s ≠ "custom" ∧
    (VertexBranch g s → IsEntityVertexRule g sels) ∧
    (¬ VertexBranch g s →
      createRules g.itype g.cell g.facetTypes g.ridgeTypes d s g.argPolysets (useTP o g it) = .ok sels) := by
  unfold selectStep at h
  dsimp only at h
  by_cases hc : (s == "custom") = true
  · rw [if_pos hc] at h; cases h
  · rw [if_neg hc] at h
    refine ⟨fun e => hc (e ▸ beq_self_eq_true _), ?_⟩
    have hvb : (s == "vertex" && g.itype != .vertex) = true ↔ VertexBranch g s := by
      simp [VertexBranch]
    by_cases hv : (s == "vertex" && g.itype != .vertex) = true
    · rw [if_pos hv] at h
      exact ⟨fun _ => selectVertex_spec g sels h, fun hn => absurd (hvb.mp hv) hn⟩
    · rw [if_neg hv] at h
      exact ⟨fun hb => absurd (hvb.mpr hb) hv, fun _ => h⟩

theorem selectStep_std_degree (o : Options) (g : GroupIn) (it : IntegralIn) (d : Int) (s : String)
    (sels : List Sel) (h : selectStep o g it (.std d s) = .ok sels) :
    ∀ x ∈ sels, ∀ n : Int, (x.rule.degree? : Option Int) = some n → n = d := by
  obtain ⟨_, hv, hnv⟩ := selectStep_std o g it d s sels h
  intro x hx n hn
  by_cases hsv : VertexBranch g s
  · obtain ⟨c, rfl, _⟩ := hv hsv
    cases List.mem_singleton.mp hx
    cases hn
  · rcases ((createRules_spec g d s _ _ sels (hnv hsv)).2 x hx).2 with hp | ⟨_, _, h0, _, h4⟩
    · rw [hp] at hn; cases hn
    · rw [h4] at hn
      cases hn
      exact Int.toNat_of_nonneg h0

/-- in an accepted group, an integral without quadrature element was analysed to a standard request with its
own scheme and with its own degree — the explicit one if there is one (≥ 0), else the largest estimate — and
selected on its own -/
theorem selectGroup_noCustom (o : Options) (g : GroupIn) (outs : List IntegralOut)
    (h : selectGroup o g = .ok outs) :
    Rel2 (fun it out => NoCustom it → ∃ d, (0 ≤ it.mdDegree.getD (-1) → d = it.mdDegree.getD (-1)) ∧
      (it.mdDegree.getD (-1) < 0 → maxList it.estDegrees = some d) ∧
      selectStep o g it (.std d (it.mdScheme.getD "default")) = .ok out.sels) g.integrals outs := by
  refine ((selectGroup_iff o g outs).mp h).imp ?_
  rintro it out ⟨a, ha, _, hs⟩ hc
  obtain ⟨d, rfl, hge, hlt⟩ := analyze_noCustom _ it hc a ha
  exact ⟨d, hge, hlt, hs⟩

/-- in every accepted group, an integral without quadrature element whose
metadata carries `quadrature_degree = k ≥ 0` is integrated with rules built for degree `k` — every Basix /
tensor rule attached to it has degree exactly `k` (the one-point rule of a vertex and the `vertex` scheme have
no degree) — whatever the other integrals of the group, their order and the options. -/
theorem explicit_degree_honoured (o : Options) (g : GroupIn) (outs : List IntegralOut)
    (h : selectGroup o g = .ok outs) :
    Rel2 (fun it out => ∀ k : Int, it.mdDegree = some k → 0 ≤ k → NoCustom it →
      ∀ x ∈ out.sels, ∀ d, x.rule.degree? = some d → (d : Int) = k) g.integrals outs := by
  refine (selectGroup_noCustom o g outs h).imp ?_
  intro it out hsel k hk h0 hc
  obtain ⟨d, hge, _, hs⟩ := hsel hc
  rw [hk] at hge
  cases hge h0
  exact selectStep_std_degree o g it _ _ out.sels hs

/-- without `quadrature_degree`, or with a negative one, the degree is the
maximum of the estimated polynomial degree(s) UFL attached to THIS integral. -/
theorem default_degree_is_estimate (o : Options) (g : GroupIn) (outs : List IntegralOut)
    (h : selectGroup o g = .ok outs) :
    Rel2 (fun it out => (it.mdDegree = none ∨ ∃ k : Int, it.mdDegree = some k ∧ k < 0) → NoCustom it →
      ∃ m : Int, maxList it.estDegrees = some m ∧ (∀ e ∈ it.estDegrees, e ≤ m) ∧ m ∈ it.estDegrees ∧
        ∀ x ∈ out.sels, ∀ d, x.rule.degree? = some d → (d : Int) = m) g.integrals outs := by
  refine (selectGroup_noCustom o g outs h).imp ?_
  intro it out hsel hneg hc
  obtain ⟨m, _, hlt, hs⟩ := hsel hc
  have hm : maxList it.estDegrees = some m := by
    refine hlt ?_
    rcases hneg with hn | ⟨k, hk, hk0⟩
    · rw [hn]; decide
    · rw [hk]; exact hk0
  obtain ⟨hb, hmem⟩ := maxList_spec _ _ hm
  exact ⟨m, hm, hb, hmem, selectStep_std_degree o g it _ _ out.sels hs⟩

/-- an integral without quadrature element is integrated with the scheme named in its
metadata (`default` if none): `"vertex"` (on anything but a vertex integral) gives exactly one `vertex`-scheme
rule, `"custom"` is rejected, and every other string gives Basix rules of the type
`basix.quadrature.string_to_type` maps the string to (an unknown string is rejected) — except on vertices,
whose one-point rule ignores the scheme. -/
theorem scheme_honoured (o : Options) (g : GroupIn) (outs : List IntegralOut)
    (h : selectGroup o g = .ok outs) :
    Rel2 (fun it out => NoCustom it →
      let s := it.mdScheme.getD "default"
      s ≠ "custom" ∧
      (VertexBranch g s → ∃ c, out.sels = [⟨c, .vertexScheme c⟩]) ∧
      (¬ VertexBranch g s → ∀ x ∈ out.sels, x.rule = .point ∨
        ∃ qt, stringToType s = some qt ∧ x.rule.qtype? = some qt)) g.integrals outs := by
  refine (selectGroup_noCustom o g outs h).imp ?_
  intro it out hsel hc
  obtain ⟨d, _, _, hs⟩ := hsel hc
  obtain ⟨h1, h2, h3⟩ := selectStep_std o g it d _ out.sels hs
  refine ⟨h1, fun hv => (h2 hv).imp fun _ hc => hc.1, fun hn x hx => ?_⟩
  exact ((createRules_spec g d _ _ _ _ (h3 hn)).2 x hx).2.imp_right fun ⟨qt, hq, _, hq', _⟩ => ⟨qt, hq, hq'⟩

/-- an integral none of whose OWN elements is a quadrature element never
gets a custom rule — whatever precedes or follows it in its group (the state `custom_q` is per integral). -/
theorem custom_only_from_own_elements (o : Options) (g : GroupIn) (outs : List IntegralOut)
    (h : selectGroup o g = .ok outs) :
    Rel2 (fun it out => NoCustom it → ∀ x ∈ out.sels, x.rule.isCustom = false) g.integrals outs := by
  refine (selectGroup_noCustom o g outs h).imp ?_
  intro it out hsel hc x hx
  obtain ⟨d, _, _, hs⟩ := hsel hc
  obtain ⟨_, h2, h3⟩ := selectStep_std o g it d _ out.sels hs
  by_cases hsv : VertexBranch g (it.mdScheme.getD "default")
  · obtain ⟨c, hc', _⟩ := h2 hsv
    rw [hc'] at hx
    cases List.mem_singleton.mp hx
    rfl
  · have hcell := ((createRules_spec g d _ _ _ _ (h3 hsv)).2 x hx).1
    -- a rule made for a cell is not the arrays of a quadrature element
    cases hr : x.rule with
    | custom p w => rw [hr] at hcell; cases hcell
    | _ => rfl

/-- the same at the level of the metadata `_analyze_form` attaches -/
theorem custom_only_from_own_elements_analysis (itype : IType) (l : List IntegralIn) (as : List Analysed)
    (h : analyzeAll itype l = .ok as) :
    Rel2 (fun it a => NoCustom it → ∃ d s, a = .std d s) l as :=
  ((analyzeAll_iff itype l as).mp h).imp (fun it a ha hc => by
    obtain ⟨d, hd, _⟩ := analyze_noCustom itype it hc a ha
    exact ⟨d, _, hd⟩)

/-- an integral with a quadrature element gets exactly one rule, the arrays of its
FIRST quadrature element, filed under the cell type of the integration DOMAIN, whatever
`quadrature_degree` / `quadrature_rule` its metadata carry and wherever it stands in its group. -/
theorem custom_overrides (o : Options) (g : GroupIn) (outs : List IntegralOut)
    (h : selectGroup o g = .ok outs) :
    Rel2 (fun it out => ∀ e, FirstCustom it e →
      out.sels = [⟨g.cell, .custom e.customPts e.customWts⟩]) g.integrals outs := by
  refine ((selectGroup_iff o g outs).mp h).imp ?_
  rintro it out ⟨a, ha, _, hs⟩ e he
  cases analyze_firstCustom _ it e he a ha
  exact (Except.ok.inj hs).symm

/-! ## the `vertex` scheme and the entity a rule lives on; first the concrete groups of the examples -/

/-- `f*v*ds(degree=2)` and `g*v*ds(scheme="vertex")` of one subdomain, in the two orders UFL can produce -/
def exFacetDefaultVertex (c : Cell) : GroupIn :=
  { itype := .exteriorFacet, cell := c, integrals := [{ tag := 0, mdDegree := some 2 }, { tag := 1, mdScheme := some "vertex" }] }
def exFacetVertexDefault (c : Cell) : GroupIn :=
  { itype := .exteriorFacet, cell := c, integrals := [{ tag := 1, mdScheme := some "vertex" }, { tag := 0, mdDegree := some 2 }] }
/-- one `dP` integral with the given scheme on a tetrahedron -/
def exPoint (s : String) : GroupIn :=
  { itype := .vertex, cell := .tetrahedron, integrals := [{ tag := 0, mdScheme := some s }] }
def exQe : IntegralIn := { tag := 1, elements := [{ hasCustom := true, customPts := 1, customWts := 2, customN := 3 }] }
def exFacetDefaultCustom : GroupIn :=
  { itype := .exteriorFacet, cell := .triangle, integrals := [{ tag := 0, mdDegree := some 2 }, exQe] }
def exFacetCustomDefault : GroupIn :=
  { itype := .exteriorFacet, cell := .triangle, integrals := [exQe, { tag := 0, mdDegree := some 2 }] }
def exElem (p w n : Nat) : ElemIn := { hasCustom := true, customPts := p, customWts := w, customN := n }
def exOne (t : IType) (c : Cell) (it : IntegralIn) : GroupIn := { itype := t, cell := c, integrals := [it] }

/-- (defect c4a6950) at EVERY position of EVERY accepted group of
cell, facet or ridge integrals, an integral without quadrature element that asks for the `vertex` scheme gets
the vertex rule of its own integration entity (`IsEntityVertexRule`), whatever the other integrals are. -/
theorem vertex_scheme_entity (o : Options) (g : GroupIn) (hv : g.itype ≠ .vertex) (outs : List IntegralOut)
    (h : selectGroup o g = .ok outs) :
    Rel2 (fun it out => NoCustom it → it.mdScheme = some "vertex" → IsEntityVertexRule g out.sels)
      g.integrals outs := by
  refine (selectGroup_noCustom o g outs h).imp ?_
  intro it out hsel hnc hsch
  obtain ⟨d, _, _, hs⟩ := hsel hnc
  rw [hsch] at hs
  exact (selectStep_std o g it d _ out.sels hs).2.1 ⟨rfl, hv⟩

/-- (defect 605b08f) every integral of a vertex (`dP`) group without quadrature
element is integrated with the one-point rule of weight 1, filed under `point`, whatever its scheme (also
`"vertex"`) and degree. -/
theorem vertex_integral_point_rule (o : Options) (g : GroupIn) (hv : g.itype = .vertex) (outs : List IntegralOut)
    (h : selectGroup o g = .ok outs) :
    Rel2 (fun it out => NoCustom it → out.sels = [⟨.point, .point⟩] ∧ ruleData .point = some [([], 1)])
      g.integrals outs := by
  refine (selectGroup_noCustom o g outs h).imp ?_
  intro it out hsel hnc
  obtain ⟨d, _, _, hs⟩ := hsel hnc
  have hcr := (selectStep_std o g it d _ out.sels hs).2.2 (fun hvb => hvb.2 hv)
  rw [hv] at hcr
  exact ⟨(Except.ok.inj hcr).symm, rfl⟩

/-- the entity the `vertex` scheme is built on, for every cell and integral type, through the whole pipeline
(`none`: the request is rejected) -/
def vertexSchemeCell (t : IType) (c : Cell) : Option Cell :=
  match selectGroup {} (exOne t c { tag := 0, mdScheme := some "vertex" }) with
  | .ok [⟨_, [x]⟩] => some x.cell
  | _ => none

theorem vertex_scheme_entity_table :
    (Cell.all.map (fun c => (IType.all.map (fun t => vertexSchemeCell t c)))) =
    [ -- cell, exterior_facet, interior_facet, vertex, ridge
      [none, none, none, some .point, none],                                                  -- point
      [some .interval, none, none, some .point, none],                                        -- interval
      [some .triangle, some .interval, some .interval, some .point, none],                    -- triangle
      [some .tetrahedron, some .triangle, some .triangle, some .point, some .interval],
      [some .quadrilateral, some .interval, some .interval, some .point, none],
      [some .hexahedron, some .quadrilateral, some .quadrilateral, some .point, some .interval],
      [some .prism, none, none, some .point, some .interval],
      [some .pyramid, none, none, some .point, some .interval]] := by decide +kernel

/-- (c4a6950) the inputs on which the code used to depend on the order of the
integrals.  `f*v*ds(degree=2) + g*v*ds(scheme="vertex")`: in BOTH orders each integral gets its own rule
(tetrahedron: the triangle's vertex rule, it was the interval's; triangle: it raised ZeroDivisionError), and a
quadrature-element integral after a default-scheme facet integral is filed under the triangle, not the
interval. -/
theorem regression_shared_cell_type :
    selectGroup {} (exFacetDefaultVertex .tetrahedron) =
      .ok [⟨0, [⟨.triangle, .basix .triangle .default 2 .standard⟩]⟩, ⟨1, [⟨.triangle, .vertexScheme .triangle⟩]⟩] ∧
    selectGroup {} (exFacetVertexDefault .tetrahedron) =
      .ok [⟨1, [⟨.triangle, .vertexScheme .triangle⟩]⟩, ⟨0, [⟨.triangle, .basix .triangle .default 2 .standard⟩]⟩] ∧
    selectGroup {} (exFacetDefaultVertex .triangle) =
      .ok [⟨0, [⟨.interval, .basix .interval .default 2 .standard⟩]⟩, ⟨1, [⟨.interval, .vertexScheme .interval⟩]⟩] ∧
    selectGroup {} (exFacetVertexDefault .triangle) =
      .ok [⟨1, [⟨.interval, .vertexScheme .interval⟩]⟩, ⟨0, [⟨.interval, .basix .interval .default 2 .standard⟩]⟩] ∧
    selectGroup {} exFacetDefaultCustom =
      .ok [⟨0, [⟨.interval, .basix .interval .default 2 .standard⟩]⟩, ⟨1, [⟨.triangle, .custom 1 2⟩]⟩] ∧
    selectGroup {} exFacetCustomDefault =
      .ok [⟨1, [⟨.triangle, .custom 1 2⟩]⟩, ⟨0, [⟨.interval, .basix .interval .default 2 .standard⟩]⟩] ∧
    selectGroup {} { itype := .ridge, cell := .tetrahedron, integrals := [{ tag := 0, mdDegree := some 1 }, { tag := 1, mdScheme := some "vertex" }] } =
      .ok [⟨0, [⟨.interval, .basix .interval .default 1 .standard⟩]⟩, ⟨1, [⟨.interval, .vertexScheme .interval⟩]⟩] := by
  decide +kernel

/-- (605b08f) `dP(scheme="vertex")` on a tetrahedron gets the
one-point rule (it was the 4-point vertex rule of the tetrahedron, weights 1/24, filed under the tetrahedron),
like every other scheme string. -/
theorem regression_vertex_scheme_on_vertex_integral :
    selectGroup {} (exPoint "vertex") = .ok [⟨0, [⟨.point, .point⟩]⟩] ∧
    selectGroup {} (exPoint "foo") = .ok [⟨0, [⟨.point, .point⟩]⟩] ∧
    entityCells (exPoint "vertex") = [.point] := by decide +kernel

/-- every integral without quadrature element that does not take the `vertex`
branch gets one rule per reference cell type of its integration ENTITY — the cell for `dx`, the facet type(s)
for `ds`/`dS`, the ridge type(s) for `dr`, a point for `dP` — each rule made for exactly the cell type it is
filed under; wherever the integral stands in its group.  (With `vertex_scheme_entity` and `custom_overrides`
this covers every integral.) -/
theorem rule_lives_on_entity (o : Options) (g : GroupIn) (outs : List IntegralOut)
    (h : selectGroup o g = .ok outs) :
    Rel2 (fun it out => NoCustom it → ¬ VertexBranch g (it.mdScheme.getD "default") →
      out.sels.map (·.cell) = entityCells g ∧ ∀ x ∈ out.sels, x.rule.cell? = some x.cell) g.integrals outs := by
  refine (selectGroup_noCustom o g outs h).imp ?_
  intro it out hsel hnc hv
  obtain ⟨d, _, _, hs⟩ := hsel hnc
  obtain ⟨h1, h2⟩ := createRules_spec g d _ _ _ _ ((selectStep_std o g it d _ out.sels hs).2.2 hv)
  exact ⟨h1, fun x hx => (h2 x hx).1⟩

/-- the facets of a prism have two types; every such integral of a facet
subdomain gets exactly two rules, a Basix rule made for quadrilaterals and one made for triangles (in UFL's
order), both with the integral's own scheme, degree and polyset. -/
theorem rule_lives_on_entity_prism (o : Options) (g : GroupIn) (hw : g.wf) (hp : g.cell = .prism)
    (hf : g.itype.isFacet = true) (outs : List IntegralOut) (h : selectGroup o g = .ok outs) :
    Rel2 (fun it out => NoCustom it → it.mdScheme.getD "default" ≠ "vertex" →
      (out.sels.map (·.cell)).Perm [.quadrilateral, .triangle] ∧
      ∀ x ∈ out.sels, ∃ qt d ps, x.rule = .basix x.cell qt d ps) g.integrals outs := by
  refine (selectGroup_noCustom o g outs h).imp ?_
  intro it out hsel hnc hv
  obtain ⟨d, _, _, hs⟩ := hsel hnc
  have hcr := (selectStep_std o g it d _ out.sels hs).2.2 (fun hvb => hv hvb.1)
  -- on facets the rules come from `createEach` over the facet types
  have hfacet : createEach d (it.mdScheme.getD "default") g.argPolysets g.facetTypes = .ok out.sels := by
    cases hi : g.itype <;> rw [hi] at hf hcr
    case exteriorFacet | interiorFacet => exact hcr
    all_goals cases hf
  obtain ⟨hcells, hq⟩ := (createEach_rel hfacet).map_right
  have hperm : (out.sels.map (·.cell)).Perm [.quadrilateral, .triangle] := by
    have hft := hw.1
    rw [hp] at hft
    rwa [hcells]
  refine ⟨hperm, fun x hx => ?_⟩
  rcases createQuadrature_spec _ _ _ _ _ (hq x hx) with ⟨h1', _⟩ | ⟨_, qt, _, _, _, h4⟩
  · have hxc := hperm.mem_iff.mp (List.mem_map.mpr ⟨x, hx, rfl⟩)
    rw [h1'] at hxc
    simp at hxc
  · exact ⟨qt, _, _, h4⟩

/-! ## grouping by rule -/

theorem entries_eq (key : Rule → Nat) (outs : List IntegralOut) :
    entries key outs = outs.flatMap (fun o => o.sels.map (fun s => (s.cell, (key s.rule, (s.rule, o.tag))))) := by
  induction outs with
  | nil => rfl
  | cons o os ih => rw [entries, ih, List.flatMap_cons]

theorem mem_entries (key : Rule → Nat) (outs : List IntegralOut) (c : Cell) (k : Nat) (r : Rule) (t : Nat) :
    (c, (k, (r, t))) ∈ entries key outs ↔ ∃ o ∈ outs, o.tag = t ∧ (⟨c, r⟩ : Sel) ∈ o.sels ∧ k = key r := by
  simp only [entries_eq, List.mem_flatMap, List.mem_map, Prod.mk.injEq]
  constructor
  · rintro ⟨o, ho, x, hx, rfl, rfl, rfl, rfl⟩
    exact ⟨o, ho, rfl, hx, rfl⟩
  · rintro ⟨o, ho, rfl, hx, rfl⟩
    exact ⟨o, ho, _, hx, rfl, rfl, rfl, rfl⟩

/-- the (cell, (key, member)) triples the groups stand for -/
def flatten (G : List (Cell × List (Nat × List Member))) : List (Cell × (Nat × Member)) :=
  G.flatMap (fun cg => (Quad.ungroup cg.2).map (fun km => (cg.1, km)))

/-- flattening the groups gives back exactly the attached (cell type, rule, integrand)
triples, up to order: nothing is lost, nothing is duplicated. -/
theorem grouping_perm (key : Rule → Nat) (outs : List IntegralOut) :
    (flatten (groupRules key outs)).Perm (entries key outs) := by
  have h1 : flatten (groupRules key outs) =
      (Quad.groupBy (entries key outs)).flatMap
        (fun p => (Quad.ungroup (Quad.groupBy p.2)).map (fun km => (p.1, km))) := by
    simp [flatten, groupRules, List.flatMap_map]
  rw [h1]
  refine (perm_flatMap_congr _ _ (fun p => p.2.map (fun km => (p.1, km))) ?_).trans ?_
  · intro p _
    exact (Quad.groupBy_perm p.2).map _
  · exact Quad.groupBy_perm (entries key outs)

/-- the members of the group of cell type `cg.1` and array identity `kg.1` are exactly the (rule, integrand)
pairs attached under that cell type with those arrays: a group of `groupRules` is a group `p` of the entries by
cell type, regrouped by array identity -/
theorem mem_group_iff {key : Rule → Nat} {outs : List IntegralOut} {cg : Cell × List (Nat × List Member)}
    {kg : Nat × List Member} (hcg : cg ∈ groupRules key outs) (hkg : kg ∈ cg.2) (m : Member) :
    m ∈ kg.2 ↔ ∃ o ∈ outs, o.tag = m.2 ∧ (⟨cg.1, m.1⟩ : Sel) ∈ o.sels ∧ kg.1 = key m.1 := by
  obtain ⟨p, hp, rfl⟩ := List.mem_map.mp hcg
  rw [Quad.groupBy_mem_group hkg, Quad.groupBy_mem_group hp, mem_entries]

/-- one group per key: two groups of the same cell type are the same group, and inside it two groups of the
same array identity are the same.  (Only this direction; that the members of a group carry the group's key
is clause (b) of `grouping_partition`.) -/
theorem grouping_same_iff (key : Rule → Nat) (outs : List IntegralOut)
    (cg cg' : Cell × List (Nat × List Member)) (hcg : cg ∈ groupRules key outs) (hcg' : cg' ∈ groupRules key outs)
    (kg kg' : Nat × List Member) (hkg : kg ∈ cg.2) (hkg' : kg' ∈ cg'.2) (hc : cg.1 = cg'.1) (hk : kg.1 = kg'.1) :
    cg = cg' ∧ kg = kg' := by
  obtain ⟨p, hp, rfl⟩ := List.mem_map.mp hcg
  obtain ⟨p', hp', rfl⟩ := List.mem_map.mp hcg'
  cases Quad.groupBy_key_unique _ hp hp' hc
  exact ⟨rfl, Quad.groupBy_key_unique _ hkg hkg' hk⟩

/-- the grouping by the real key (reference cell type, then identity of the rule's
arrays): (a) every rule attached to every integral sits, with that integral's integrand,
in the group of its cell type and its array identity; (b) every member of every group was attached to an
integral with exactly that cell type and array identity; (c) there is ONE group per cell type and, inside it,
one per array identity — so equal rules share a group and different rules are in different groups;
(d) no group is empty. -/
theorem grouping_partition (key : Rule → Nat) (outs : List IntegralOut) :
    (∀ o ∈ outs, ∀ x ∈ o.sels, ∃ cg ∈ groupRules key outs, cg.1 = x.cell ∧
        ∃ kg ∈ cg.2, kg.1 = key x.rule ∧ (x.rule, o.tag) ∈ kg.2) ∧
    (∀ cg ∈ groupRules key outs, ∀ kg ∈ cg.2, ∀ m ∈ kg.2, key m.1 = kg.1 ∧
        ∃ o ∈ outs, o.tag = m.2 ∧ (⟨cg.1, m.1⟩ : Sel) ∈ o.sels) ∧
    (((groupRules key outs).map (·.1)).Nodup ∧ ∀ cg ∈ groupRules key outs, (cg.2.map (·.1)).Nodup) ∧
    (∀ cg ∈ groupRules key outs, cg.2 ≠ [] ∧ ∀ kg ∈ cg.2, kg.2 ≠ []) := by
  refine ⟨?_, ?_, ⟨?_, ?_⟩, ?_⟩
  · intro o ho x hx
    obtain ⟨vs, hvs, hm⟩ := (Quad.groupBy_mem_iff _ _ _).mp
      ((mem_entries key outs x.cell (key x.rule) x.rule o.tag).mpr ⟨o, ho, rfl, hx, rfl⟩)
    obtain ⟨ms, h1, h2⟩ := (Quad.groupBy_mem_iff vs _ _).mp hm
    exact ⟨_, List.mem_map.mpr ⟨_, hvs, rfl⟩, rfl, _, h1, rfl, h2⟩
  · intro cg hcg kg hkg m hm
    obtain ⟨o, ho, h5, h6, h7⟩ := (mem_group_iff hcg hkg m).mp hm
    exact ⟨h7.symm, o, ho, h5, h6⟩
  · rw [groupRules, List.map_map]
    exact Quad.groupBy_keys_nodup _
  · intro cg hcg
    obtain ⟨p, _, rfl⟩ := List.mem_map.mp hcg
    exact Quad.groupBy_keys_nodup _
  · intro cg hcg
    obtain ⟨p, hp, rfl⟩ := List.mem_map.mp hcg
    exact ⟨Quad.groupBy_ne_nil (Quad.groupBy_nonempty _ _ hp), Quad.groupBy_nonempty _⟩

/-- Σ f over a list -/
def sumBy {α : Type} (f : α → Int) : List α → Int
  | [] => 0
  | a :: l => f a + sumBy f l

theorem sumBy_append {α : Type} (f : α → Int) (l m : List α) : sumBy f (l ++ m) = sumBy f l + sumBy f m := by
  induction l with
  | nil => simp [sumBy]
  | cons a l ih => simp only [List.cons_append, sumBy, ih]; omega

theorem sumBy_perm {α : Type} (f : α → Int) {l m : List α} (h : l.Perm m) : sumBy f l = sumBy f m := by
  induction h with
  | nil => rfl
  | cons a _ ih => simp only [sumBy, ih]
  | swap a b l => simp only [sumBy]; omega
  | trans _ _ ih1 ih2 => rw [ih1, ih2]

theorem sumBy_map {α β : Type} (f : β → Int) (g : α → β) (l : List α) : sumBy f (l.map g) = sumBy (fun a => f (g a)) l := by
  induction l with
  | nil => rfl
  | cons a l ih => simp only [List.map_cons, sumBy, ih]

theorem sumBy_flatMap {α β : Type} (f : β → Int) (g : α → List β) (l : List α) :
    sumBy f (l.flatMap g) = sumBy (fun a => sumBy f (g a)) l := by
  induction l with
  | nil => rfl
  | cons a l ih => simp only [List.flatMap_cons, sumBy_append, sumBy, ih]

/-- the summed integrands are the sum of their members.  For ANY valuation `val` of
(reference cell type, integrand), adding `val` over the members of all summed integrals gives the same total as
adding it over every rule attached to every integral: each integrand contributes once per attached rule, under
that rule's cell type.  (`val c t := if c = c₀ then v t else 0` gives the statement per cell type.) -/
theorem summed_sum (key : Rule → Nat) (outs : List IntegralOut) (val : Cell → Nat → Int) :
    sumBy (fun s => sumBy (val s.cell) s.tags) (summed key outs) =
      sumBy (fun o => sumBy (fun x => val x.cell o.tag) o.sels) outs := by
  have h2 : sumBy (fun e => val e.1 e.2.2.2) (entries key outs) =
      sumBy (fun o => sumBy (fun x => val x.cell o.tag) o.sels) outs := by
    simp only [entries_eq, sumBy_flatMap, sumBy_map]
  have h1 : sumBy (fun s => sumBy (val s.cell) s.tags) (summed key outs) =
      sumBy (fun e => val e.1 e.2.2.2) (flatten (groupRules key outs)) := by
    simp only [summed, flatten, sumBy_flatMap, sumBy_map, Quad.ungroup]
  rw [h1, sumBy_perm _ (grouping_perm key outs), h2]

/-! ### which rule object survives a merge (e200672) -/

/-- joining an existing entry keeps one of the two rule objects; tensor factors survive only if both have them -/
theorem mergeStep_some (cur r : Rule) :
    (mergeStep (some cur) r = cur ∨ mergeStep (some cur) r = r) ∧
      (mergeStep (some cur) r).hasTensor = (cur.hasTensor && r.hasTensor) := by
  simp only [mergeStep]
  cases hr : r.hasTensor <;> cases hc : cur.hasTensor <;> simp [hr, hc]

theorem mergedRule_foldl (ms : List Member) (cur : Rule) :
    ∃ r, ms.foldl (fun cur m => some (mergeStep cur m.1)) (some cur) = some r ∧
      r ∈ cur :: ms.map (·.1) ∧ r.hasTensor = (cur.hasTensor && ms.all (·.1.hasTensor)) := by
  induction ms generalizing cur with
  | nil => exact ⟨cur, rfl, List.mem_singleton.mpr rfl, (Bool.and_true _).symm⟩
  | cons m ms ih =>
    obtain ⟨r, h1, h2, h3⟩ := ih (mergeStep (some cur) m.1)
    obtain ⟨hm, ht⟩ := mergeStep_some cur m.1
    refine ⟨r, h1, ?_, by rw [h3, ht, List.all_cons, Bool.and_assoc]⟩
    rcases List.mem_cons.mp h2 with rfl | h2
    · rcases hm with hm | hm <;> rw [hm]
      · exact List.mem_cons_self
      · exact List.mem_cons_of_mem _ List.mem_cons_self
    · exact List.mem_cons_of_mem _ (List.mem_cons_of_mem _ h2)

/-- the surviving rule object of a non-empty entry is the rule of one of its members and has tensor factors
exactly when ALL members have -/
theorem mergedRule_spec : ∀ ms : List Member, ms ≠ [] →
    ∃ r, mergedRule ms = some r ∧ r ∈ ms.map (·.1) ∧ r.hasTensor = ms.all (·.1.hasTensor)
  | [], hne => absurd rfl hne
  | m :: ms, _ => mergedRule_foldl ms m.1

/-- the tensor flag of the survivor does not depend on the order in which the members joined -/
theorem mergedRule_perm (ms ms' : List Member) (hp : ms'.Perm ms) :
    (mergedRule ms').map (·.hasTensor) = (mergedRule ms).map (·.hasTensor) := by
  by_cases hne : ms = []
  · rw [hne] at hp; rw [hne, hp.eq_nil]
  · obtain ⟨r, h1, _, h3⟩ := mergedRule_spec ms hne
    obtain ⟨r', h1', _, h3'⟩ := mergedRule_spec ms' (fun h => hne (h ▸ hp).symm.eq_nil)
    rw [h1, h1', Option.map_some, Option.map_some, h3, h3', hp.all_eq]

theorem mem_summed (key : Rule → Nat) (outs : List IntegralOut) (s : Summed) :
    s ∈ summed key outs ↔ ∃ cg ∈ groupRules key outs, ∃ kg ∈ cg.2,
      s = ⟨cg.1, kg.1, mergedRule kg.2, kg.2.map (·.2)⟩ := by
  simp only [summed, List.mem_flatMap, List.mem_map, eq_comm]

/-- (e200672) the rule OBJECT a summed integral is generated with is the rule of
one of its members, and it has tensor factors (the kernel is sum factorised) exactly when EVERY rule that was
attached, to any integral of the group, under this cell type with these arrays has tensor factors.  The right
hand side only speaks about membership: it does not depend on the order of the integrals. -/
theorem summed_rule_tensor_iff_all (key : Rule → Nat) (outs : List IntegralOut) :
    ∀ s ∈ summed key outs, ∃ r, s.rule = some r ∧
      (∃ o ∈ outs, (⟨s.cell, r⟩ : Sel) ∈ o.sels ∧ key r = s.key) ∧
      (r.hasTensor = true ↔
        ∀ o ∈ outs, ∀ x ∈ o.sels, x.cell = s.cell → key x.rule = s.key → x.rule.hasTensor = true) := by
  intro s hs
  obtain ⟨cg, hcg, kg, hkg, rfl⟩ := (mem_summed key outs s).mp hs
  obtain ⟨r, h1, hr, h3⟩ := mergedRule_spec kg.2 (((grouping_partition key outs).2.2.2 cg hcg).2 kg hkg)
  refine ⟨r, h1, ?_, ?_⟩
  · obtain ⟨m, hm, rfl⟩ := List.mem_map.mp hr
    obtain ⟨o, ho, _, hsel, hk⟩ := (mem_group_iff hcg hkg m).mp hm
    exact ⟨o, ho, hsel, hk.symm⟩
  · rw [h3, List.all_eq_true]
    constructor
    · rintro hall o ho ⟨c, r⟩ hx hxc hxk
      cases hxc
      exact hall (r, o.tag) ((mem_group_iff hcg hkg _).mpr ⟨o, ho, rfl, hx, hxk.symm⟩)
    · intro hall m hm
      obtain ⟨o, ho, _, hsel, hk⟩ := (mem_group_iff hcg hkg m).mp hm
      exact hall o ho ⟨cg.1, m.1⟩ hsel rfl hk.symm

/-- reordering the integrals (any permutation of the outputs) does not change
whether the summed integral of a given cell type and arrays is sum factorised. -/
theorem tensor_flag_order_independent (key : Rule → Nat) (outs outs' : List IntegralOut) (hp : outs'.Perm outs)
    (s s' : Summed) (hs : s ∈ summed key outs) (hs' : s' ∈ summed key outs')
    (hc : s'.cell = s.cell) (hk : s'.key = s.key) :
    s'.rule.map (·.hasTensor) = s.rule.map (·.hasTensor) := by
  obtain ⟨r, h1, _, h3⟩ := summed_rule_tensor_iff_all key outs s hs
  obtain ⟨r', h1', _, h3'⟩ := summed_rule_tensor_iff_all key outs' s' hs'
  rw [h1, h1', Option.map_some, Option.map_some, Option.some.injEq, Bool.eq_iff_iff, h3, h3', hc, hk]
  exact ⟨fun h o ho => h o (hp.mem_iff.mpr ho), fun h o ho => h o (hp.mem_iff.mp ho)⟩

/-- the tags of a summed integral are its members' integrands in insertion order -/
theorem summed_tags (key : Rule → Nat) (outs : List IntegralOut) :
    ∀ s ∈ summed key outs, ∃ cg ∈ groupRules key outs, ∃ kg ∈ cg.2, s.cell = cg.1 ∧ s.key = kg.1 ∧
      s.tags = kg.2.map (·.2) := by
  intro s hs
  obtain ⟨cg, hcg, kg, hkg, rfl⟩ := (mem_summed key outs s).mp hs
  exact ⟨cg, hcg, kg, hkg, rfl, rfl, rfl⟩

/-! ## independence of the order of the integrals -/

/-- the selection of ONE integral compiled alone in a group with the same integral type, cell, argument
elements -/
def selectAlone (o : Options) (g : GroupIn) (it : IntegralIn) : Except SelError (List IntegralOut) :=
  selectGroup o { g with integrals := [it] }

theorem selectStep_integrals_irrelevant (o : Options) (g : GroupIn) (l : List IntegralIn)
    (it : IntegralIn) (a : Analysed) :
    selectStep o { g with integrals := l } it a = selectStep o g it a := by
  cases a <;> rfl

theorem selectAlone_iff (o : Options) (g : GroupIn) (it : IntegralIn) (out : IntegralOut) :
    selectAlone o g it = .ok [out] ↔
      ∃ a, analyze g.itype it = .ok a ∧ out.tag = it.tag ∧ selectStep o g it a = .ok out.sels := by
  unfold selectAlone
  rw [selectGroup_iff, Rel2.singleton]
  simp only [selectStep_integrals_irrelevant]

/-- for ALL integral types: a group is accepted exactly when each of its
integrals is accepted ALONE, and then every integral gets precisely the rules it gets alone — whatever the
other integrals of the subdomain are and in whatever order UFL lists them. -/
theorem selection_independent_of_order (o : Options) (g : GroupIn) (outs : List IntegralOut) :
    selectGroup o g = .ok outs ↔ Rel2 (fun it out => selectAlone o g it = .ok [out]) g.integrals outs := by
  rw [selectGroup_iff]
  exact Rel2.congr fun it out => (selectAlone_iff o g it out).symm

/-- the same as a statement about permutations: reordering the integrals of a subdomain permutes the outputs
and changes nothing else (in particular not whether the group is accepted) -/
theorem selection_perm (o : Options) (g : GroupIn) (l' : List IntegralIn)
    (hp : l'.Perm g.integrals) (outs : List IntegralOut) (h : selectGroup o g = .ok outs) :
    ∃ outs', outs'.Perm outs ∧ selectGroup o { g with integrals := l' } = .ok outs' := by
  obtain ⟨outs', hperm, hr⟩ := ((selection_independent_of_order o g outs).mp h).perm hp
  exact ⟨outs', hperm, (selection_independent_of_order o { g with integrals := l' } outs').mpr hr⟩

/-- …and a group that is rejected stays rejected under every reordering -/
theorem selection_perm_error (o : Options) (g : GroupIn) (l' : List IntegralIn) (hp : l'.Perm g.integrals)
    (e : SelError) (h : selectGroup o g = .error e) : ∃ e', selectGroup o { g with integrals := l' } = .error e' := by
  cases h' : selectGroup o { g with integrals := l' } with
  | error e' => exact ⟨e', rfl⟩
  | ok outs' =>
    obtain ⟨outs, _, h2⟩ := selection_perm o { g with integrals := l' } g.integrals hp.symm outs' h'
    cases h.symm.trans h2

/-! ## the merged tensor flag on a concrete group; rejections -/

def exTP : IntegralIn := { tag := 0, mdDegree := some 4, elements := [{ tpFactor := true }], coordTP := true }
def exNonTP : IntegralIn := { tag := 1, mdDegree := some 4, elements := [{ tpFactor := true }, { tpFactor := false }], coordTP := true }
def exQuad (l : List IntegralIn) : GroupIn := { itype := .cell, cell := .quadrilateral, integrals := l }
/-- the tensor product of the interval rule and Basix' own quadrilateral rule of one degree are the same arrays -/
def exKey : Rule → Nat
  | .tensor _ _ d _ => d + 1
  | .basix .quadrilateral _ d _ => d + 1
  | _ => 0

def summedOf (key : Rule → Nat) (r : Except SelError (List IntegralOut)) : List Summed :=
  match r with
  | .ok outs => summed key outs
  | .error _ => []

/-- (e200672) with `sum_factorization`, an integral whose elements all
factorise and one with an element that does not get the same points and share ONE summed integral; in BOTH
orders its rule object is the one WITHOUT tensor factors (it used to be the first one's), in the position of
the first; two factorising integrals keep the tensor factors. -/
theorem regression_merged_tensor_flag :
    summedOf exKey (selectGroup { sumFactorization := true } (exQuad [exTP, exNonTP])) =
      [⟨.quadrilateral, 5, some (.basix .quadrilateral .default 4 .standard), [0, 1]⟩] ∧
    summedOf exKey (selectGroup { sumFactorization := true } (exQuad [exNonTP, exTP])) =
      [⟨.quadrilateral, 5, some (.basix .quadrilateral .default 4 .standard), [1, 0]⟩] ∧
    summedOf exKey (selectGroup { sumFactorization := true } (exQuad [exTP, { exTP with tag := 2 }])) =
      [⟨.quadrilateral, 5, some (.tensor 2 .default 4 .standard), [0, 2]⟩] ∧
    summedOf exKey (selectGroup { sumFactorization := true }
        (exQuad [{ exTP with tag := 3, mdDegree := some 2 }, exTP, exNonTP, { exTP with tag := 2 }])) =
      [⟨.quadrilateral, 3, some (.tensor 2 .default 2 .standard), [3]⟩,
       ⟨.quadrilateral, 5, some (.basix .quadrilateral .default 4 .standard), [0, 1, 2]⟩] := by decide +kernel

/-- a vertex integral with a discontinuous element is always rejected (TypeError), first of all checks -/
theorem rejects_vertex_discontinuous (o : Options) (g : GroupIn) (hv : g.itype = .vertex) (it : IntegralIn)
    (hit : it ∈ g.integrals) (e : ElemIn) (he : e ∈ it.elements) (hd : e.discontinuous = true) :
    ∃ err, selectGroup o g = .error err := by
  cases h : selectGroup o g with
  | error err => exact ⟨err, rfl⟩
  | ok outs =>
    exfalso
    obtain ⟨out, _, a, ha, _⟩ := ((selectGroup_iff o g outs).mp h).of_mem_left hit
    rw [hv, analyze_vertex_discontinuous it e he hd] at ha
    cases ha

/-- every error branch of the selection is reachable, with the exception class of the code -/
theorem rejections :
    selectGroup {} (exOne .vertex .triangle { tag := 0, elements := [{ discontinuous := true }] }) = .error .vertexDiscontinuous ∧
    selectGroup {} (exOne .cell .triangle { tag := 0, elements := [exElem 1 2 3, exElem 3 4 1] }) = .error .customMismatch ∧
    selectGroup {} (exOne .cell .triangle { tag := 0, elements := [exElem 1 2 3, exElem 1 4 3] }) = .error .customMismatch ∧
    selectGroup {} (exOne .cell .triangle { tag := 0, elements := [exElem 1 2 3, exElem 3 4 6] }) = .error .customShape ∧
    selectGroup {} (exOne .cell .triangle { tag := 0, estDegrees := [], elements := [] }) = .error .noEstimate ∧
    selectGroup {} (exOne .cell .triangle { tag := 0, mdScheme := some "custom" }) = .error .customNoPoints ∧
    selectGroup {} (exOne .cell .triangle { tag := 0, mdScheme := some "foo" }) = .error .unknownScheme ∧
    selectGroup {} (exOne .cell .triangle { tag := 0, mdScheme := some "GLL" }) = .error .basixRejects ∧
    selectGroup {} (exOne .cell .tetrahedron { tag := 0, mdScheme := some "Xiao-Gimbutas", mdDegree := some 16 }) = .error .basixRejects ∧
    selectGroup {} (exOne .cell .triangle { tag := 0, estDegrees := [-1] }) = .error .negativeDegree ∧
    selectGroup {} (exOne .exteriorFacet .prism { tag := 0, mdScheme := some "vertex" }) = .error .subentityNotUnique ∧
    selectGroup {} (exOne .exteriorFacet .interval { tag := 0, mdScheme := some "vertex" }) = .error .zeroVertices ∧
    -- (IndexError: only for a ridge integral on an interval, which UFL itself refuses)
    selectGroup {} (exOne .ridge .interval { tag := 0, mdScheme := some "vertex" }) = .error .noSubentity := by
  decide +kernel

/-! ## non-vacuity: accepted groups with several kinds of integrals -/

/-- three integrals of one `dx` subdomain of a triangle: default (estimated degree 3), explicit degree 5, a
quadrature element (its metadata degree 1 is overridden) — each gets its own rule; the first two have
different arrays, so three summed integrals. -/
example :
    selectGroup {} (exOne .cell .triangle { tag := 0 } |> fun g => { g with integrals :=
      [{ tag := 0, estDegrees := [3] }, { tag := 1, mdDegree := some 5, estDegrees := [2] },
       { tag := 2, mdDegree := some 1, elements := [{}, exElem 7 8 6] }] }) =
    .ok [⟨0, [⟨.triangle, .basix .triangle .default 3 .standard⟩]⟩,
         ⟨1, [⟨.triangle, .basix .triangle .default 5 .standard⟩]⟩,
         ⟨2, [⟨.triangle, .custom 7 8⟩]⟩] := by decide +kernel

/-- prism facets with a GLL request: GLL exists on quadrilaterals but not on triangles -> rejected; a
Gauss-Jacobi request of degree 2 gives one rule per facet type; the negative degree means "estimated" -/
example :
    selectGroup {} (exOne .exteriorFacet .prism { tag := 0, mdScheme := some "GLL", mdDegree := some 2 }) = .error .basixRejects ∧
    selectGroup {} (exOne .exteriorFacet .prism { tag := 0, mdScheme := some "Gauss-Jacobi", mdDegree := some (-3), estDegrees := [2, 1] }) =
      .ok [⟨0, [⟨.quadrilateral, .basix .quadrilateral .gaussJacobi 2 .standard⟩, ⟨.triangle, .basix .triangle .gaussJacobi 2 .standard⟩]⟩] := by
  decide +kernel

/-- degrees 2 and 3 give the same Gauss-Jacobi arrays on an interval: the two integrals are summed -/
example :
    summedOf (fun r => match r with | .basix .interval _ d _ => d / 2 | _ => 99)
      (selectGroup {} { itype := .exteriorFacet, cell := .triangle, integrals :=
        [{ tag := 0, mdDegree := some 2 }, { tag := 1, mdDegree := some 5 }, { tag := 2, mdDegree := some 3 }] }) =
    [⟨.interval, 1, some (.basix .interval .default 2 .standard), [0, 2]⟩,
     ⟨.interval, 2, some (.basix .interval .default 5 .standard), [1]⟩] := by decide +kernel

end Ffcx.QuadSel
