/-
C01 — the partition intermediates `sv_…_j = vexpr_j`.

`FfcxModel/Codegen/Partition.lean` transcribes the operator branch of `generate_partition` and
`ufl_to_lnodes` (checked against the real functions on every partition of the corpus).  After a list of
`VariableDecl`s in static-single-assignment form has run, the defining equations of all temporaries hold
simultaneously, in the final state (`partition_ssa`; with it `kernel_meets_spec_defs_partial`, C01Kernel, runs the
partition code).  Values that satisfy the node-wise equations of a closed expression graph, on a set of nodes closed
under operands, are the values `Ffcx.IR.val` assigns (`graph_recurrence_on`); so the temporaries hold the values of
their nodes of `F` once each satisfies the equation of its node (`NodeEq`, `partition_values_partial`; for `Sum`,
`Product`, `Division` it does by `uflToLnodes_sound_partial`), and the real `F` and the model's `F` assign the same
values (`val_of_graphEquiv`).
-/
import FfcxModel.Codegen.SpecLink
import FfcxProofs.Lemmas.GraphEval
import FfcxProofs.C17

namespace Ffcx.Codegen
open Ffcx.LNodes Lean.Grind
attribute [local instance] Lean.Grind.Ring.intCast
variable {R : Type} [Field R] (x : Extra R)

def declTriples : List Stmt → List (String × DType × Expr)
  | [] => []
  | .vdecl n dt v :: ss => (n, dt, v) :: declTriples ss
  | _ :: ss => declTriples ss

theorem declNames_eq_map (ss : List Stmt) : declNames ss = (declTriples ss).map (·.1) := by
  fun_induction declTriples ss <;> simp [declNames, *]

theorem fwPairs_eq_map (ss : List Stmt) :
    fwPairs ss = (declTriples ss).map (fun t => (t.1, t.2.2)) := by
  fun_induction declTriples ss <;> simp [fwPairs, *]

theorem declTriples_exprs : ∀ ss : List Stmt, (declTriples ss).map (·.2.2) = declExprs ss
  | [] => rfl
  | s :: ss => by cases s <;> simp [declTriples, declExprs, declTriples_exprs ss]

theorem fwPairs_exprs : ∀ ss : List Stmt, (fwPairs ss).map (·.2) = declExprs ss
  | [] => rfl
  | s :: ss => by cases s <;> simp [fwPairs, declExprs, fwPairs_exprs ss]

/-- every defining expression is safe to evaluate in any state that differs from `σ` only in the
    temporaries and in which the earlier temporaries are defined (`m ∉ declNames (.vdecl n .scalar v :: ss)` says
    `m ≠ n ∧ m ∉ declNames ss`: `declNames` does not look at the dtype) -/
def SafeFrom (σ : St R) (names : List String) : List Stmt → Prop
  | [] => True
  | .vdecl n _ v :: ss =>
    (∀ τ : St R, AgreeOn (fun m => m ∉ names) σ τ →
      (∀ m ∈ names, m ∉ declNames (.vdecl n .scalar v :: ss) → (τ.sv.get m).isSome = true) →
      safeE τ v = true) ∧ SafeFrom σ names ss
  | _ :: ss => SafeFrom σ names ss

theorem ssaOk_head {s : Stmt} {ss : List Stmt} (h : ssaOk (s :: ss) = true) :
    ∃ n dt v, s = .vdecl n dt v := by
  cases s <;> first | exact ⟨_, _, _, rfl⟩ | cases h

theorem partition_ssa_aux (σ₀ : St R) (names : List String) (ss : List Stmt) (hok : ssaOk ss = true)
    (hN : ∀ m ∈ declNames ss, m ∈ names) (hsafe : SafeFrom σ₀ names ss) (σ : St R)
    (hag : AgreeOn (fun m => m ∉ names) σ₀ σ)
    (hdef : ∀ m ∈ names, m ∉ declNames ss → (σ.sv.get m).isSome = true) :
    ∃ σ', execL x ss σ = .ok σ' ∧ AgreeOn (fun m => m ∉ declNames ss) σ σ' ∧
      (σ'.iv = σ.iv ∧ σ'.ia = σ.ia ∧ σ'.sa = σ.sa) ∧
      ∀ t ∈ declTriples ss, σ'.sv.get t.1 = some (eval x σ' t.2.2) := by
  induction ss generalizing σ with
  | nil =>
    exact ⟨σ, rfl, ⟨fun _ _ => rfl, fun _ _ => rfl, fun _ _ => rfl, fun _ _ => rfl⟩, ⟨rfl, rfl, rfl⟩,
      fun _ h => nomatch h⟩
  | cons s ss ih =>
    obtain ⟨n, dt, v, rfl⟩ := ssaOk_head hok
    simp only [ssaOk, Bool.and_eq_true, bne_iff_ne, ne_eq, Bool.not_eq_true', List.all_eq_true] at hok
    obtain ⟨⟨⟨⟨⟨hdt1, hdt2⟩, hnA⟩, hnv⟩, hlater⟩, hrest⟩ := hok
    simp only [SafeFrom] at hsafe
    have hs : safeE σ v = true := hsafe.1 σ hag hdef
    have hi : (dt == DType.int) = false := by simpa using hdt1
    have hb : (dt == DType.bool) = false := by simpa using hdt2
    have he : exec x (.vdecl n dt v) σ = .ok (σ.setSV n (eval x σ v)) := by
      simp [exec, hi, hb, hs]
    have hnN : n ∈ names := hN n List.mem_cons_self
    have hag₁ : AgreeOn (fun m => m ∉ names) σ₀ (σ.setSV n (eval x σ v)) :=
      ⟨hag.iv, fun m hm => (hag.sv m hm).trans
        (AList.get_set_ne _ _ _ _ fun e : n = m => hm (e ▸ hnN)).symm, hag.ia, hag.sa⟩
    have hdef₁ : ∀ m ∈ names, m ∉ declNames ss → ((σ.setSV n (eval x σ v)).sv.get m).isSome = true := by
      intro m hm hnot
      simp only [St.setSV, AList.get_set]
      split
      · rfl
      · exact hdef m hm fun h => (List.mem_cons.mp h).elim (fun e => ‹¬ n = m› e.symm) hnot
    obtain ⟨σ', he', hag', ⟨f1, f2, f3⟩, hval⟩ := ih hrest
      (fun m hm => hN m (List.mem_cons_of_mem _ hm)) hsafe.2 _ hag₁ hdef₁
    -- `v` mentions neither `n` nor a later temporary: its value is the same in σ, σ.setSV n _, σ'
    have hPv : ∀ m, mentionsE m v = true → m ∉ declNames (.vdecl n dt v :: ss) :=
      fun m hm h => Bool.false_ne_true <| (List.mem_cons.mp h).elim (fun e => hnv.symm.trans (e ▸ hm))
        fun h' => (hlater m h').2.symm.trans hm
    have hag₂ : AgreeOn (fun m => m ∉ declNames (.vdecl n dt v :: ss)) σ σ' :=
      ⟨fun _ _ => by rw [f1]; rfl,
        fun m hm => (AList.get_set_ne _ _ _ _ fun e : n = m => hm (e ▸ List.mem_cons_self)).symm.trans
          (hag'.sv m fun h => hm (List.mem_cons_of_mem _ h)),
        fun _ _ => by rw [f2]; rfl, fun _ _ => by rw [f3]; rfl⟩
    refine ⟨σ', by simp only [execL, he, he'], hag₂, ⟨f1, f2, f3⟩, fun t ht => ?_⟩
    rcases List.mem_cons.mp ht with rfl | ht
    · have hn' : n ∉ declNames ss := fun h => (hlater n h).1 rfl
      rw [← hag'.sv n hn', ← eval_agreeOn x hag₂ v hPv]
      exact AList.get_set_self ..
    · exact hval t ht

/-- Executing the intermediates of a partition (in SSA form, every defining
    expression safe to evaluate) succeeds; afterwards every temporary equals the value of its
    defining expression in the final state; integer variables, all arrays and all other scalars
    are unchanged. -/
theorem partition_ssa (ss : List Stmt) (hok : ssaOk ss = true) (σ : St R)
    (hsafe : SafeFrom σ (declNames ss) ss) :
    ∃ σ', execL x ss σ = .ok σ' ∧ AgreeOn (fun m => m ∉ declNames ss) σ σ' ∧
      (σ'.iv = σ.iv ∧ σ'.ia = σ.ia ∧ σ'.sa = σ.sa) ∧
      ∀ t ∈ declTriples ss, σ'.sv.get t.1 = some (eval x σ' t.2.2) :=
  partition_ssa_aux x σ (declNames ss) ss hok (fun _ h => h) hsafe σ
    ⟨fun _ _ => rfl, fun _ _ => rfl, fun _ _ => rfl, fun _ _ => rfl⟩
    (fun _ hm hnot => absurd hm hnot)

/-- `ufl_to_lnodes` of `Sum`, `Product`, `Division` on LNodes operands
    evaluates to the sum, product, quotient of the operand values (only the successful case is stated;
    `Division` by a literal zero raises). Not covered: math functions, conditions, `Conditional` (their LNodes
    semantics is `Extra.fn` / comparisons, tied to C by C09/C16), Python-int operands. -/
theorem uflToLnodes_sound_partial (hlaw : LawfulExtra x) (σ : St R) (h : String) (a b e : Expr) :
    (uflToLnodes "Sum" h [.ex a, .ex b] = .ok (.ex e) → eval x σ e = eval x σ a + eval x σ b) ∧
    (uflToLnodes "Product" h [.ex a, .ex b] = .ok (.ex e) → eval x σ e = eval x σ a * eval x σ b) ∧
    (uflToLnodes "Division" h [.ex a, .ex b] = .ok (.ex e) → eval x σ e = eval x σ a / eval x σ b) := by
  refine ⟨?_, ?_, ?_⟩
  · intro he
    simp only [uflToLnodes, pyBin, MSym.toExpr, Except.map, Except.ok.injEq, MSym.ex.injEq] at he
    subst he; exact add_sound hlaw σ a b
  · intro he
    simp only [uflToLnodes, pyBin, MSym.toExpr, Except.map, Except.ok.injEq, MSym.ex.injEq] at he
    subst he; exact mul_sound hlaw σ a b
  · intro he
    simp only [uflToLnodes, pyBin, MSym.toExpr, optE] at he
    cases hd : lDiv a b with
    | none => simp [hd, Except.map] at he
    | some e' =>
      simp only [hd, Except.map, Except.ok.injEq, MSym.ex.injEq] at he
      subst he
      exact (div_sound hlaw σ a b).2 e' hd

open Ffcx.IR in
/-- The induction behind `graph_recurrence_unique` and `partition_values_partial`: on a set `C` of nodes of
    a closed graph that contains the operands of its members, values `V` satisfying
    `V i = evalNode ρ V g[i]` are the values `IR.val` assigns. -/
theorem graph_recurrence_on (ρ : Env R) (g : Array Node) (hc : Closed g) (V : Nat → R) (C : Nat → Prop)
    (hC : ∀ i (h : i < g.size), C i → ∀ d ∈ g[i].deps, C d)
    (hV : ∀ i (h : i < g.size), C i → V i = evalNode ρ V g[i]) :
    ∀ i, i < g.size → C i → V i = val ρ g i := by
  intro i
  induction i using Nat.strongRecOn with
  | _ i ih =>
    intro hi hCi
    rw [hV i hi hCi, val_eq_evalNode (ρ := ρ) g hc i hi]
    exact evalNode_congr (ρ := ρ) V (val ρ g) g[i] fun d hd =>
      ih d (hc i hi d hd) (Nat.lt_trans (hc i hi d hd) hi) (hC i hi hCi d hd)

open Ffcx.IR in
theorem graph_recurrence_unique (ρ : Env R) (g : Array Node) (hc : Closed g) (V : Nat → R)
    (hV : ∀ i (h : i < g.size), V i = evalNode ρ V g[i]) :
    ∀ i, i < g.size → V i = val ρ g i :=
  fun i hi => graph_recurrence_on ρ g hc V (fun _ => True) (fun _ _ _ _ _ => trivial)
    (fun i h _ => hV i h) i hi trivial

/-- what `generate_partition` establishes for node `i` of `F` whose access expression is `sc i`:
    terminals and literals evaluate to the environment's values, an operator temporary (`Sum`, `Product`,
    `Division`, `Abs` and the math functions `Sqrt`, `Power`, …) to the operation applied to the values of its
    operands' accesses (`partition_ssa`; for `Sum`, `Product`, `Division` with `uflToLnodes_sound_partial`).
    Any other kind or operand count is not admitted (`| _, _ => False`). -/
def NodeEq (ρ : IR.Env R) (τ : St R) (sc : Nat → Expr) (n : IR.Node) (i : Nat) : Prop :=
  match n.kind, n.deps with
  | .term id, _ => eval x τ (sc i) = ρ.termv id
  | .zero, _ => eval x τ (sc i) = 0
  | .lit _ v, _ => eval x τ (sc i) = ρ.ofRat v
  | .sum, [a, b] => eval x τ (sc i) = eval x τ (sc a) + eval x τ (sc b)
  | .prod, [a, b] => eval x τ (sc i) = eval x τ (sc a) * eval x τ (sc b)
  | .div, [a, b] => eval x τ (sc i) = eval x τ (sc a) / eval x τ (sc b)
  | .abs, [a] => eval x τ (sc i) = ρ.abs (eval x τ (sc a))
  | .op name, ds => eval x τ (sc i) = ρ.fn name (ds.map (fun d => eval x τ (sc d)))
  | _, _ => False

/-- `NodeEq` is the node equation `V i = evalNode ρ V n` for the values `V d = eval (sc d)` of the
    accesses, on the kinds it admits: both branch on the same kinds and operand lists. -/
theorem NodeEq.evalNode {ρ : IR.Env R} {τ : St R} {sc : Nat → Expr} {n : IR.Node} {i : Nat}
    (h : NodeEq x ρ τ sc n i) : eval x τ (sc i) = IR.evalNode ρ (fun d => eval x τ (sc d)) n := by
  unfold NodeEq at h
  unfold IR.evalNode
  split at h
  -- an admitted kind: `evalNode` takes the same branch, and `h` is its equation
  any_goals simp only [*]
  exact h.elim

/-- Let `C` be a set of nodes of the closed graph `F` that contains the
    operands of its members (the cone of the factor nodes).  If every node of `C` satisfies `NodeEq`
    in `τ`, then the access expression of every node of `C` evaluates to the value `Ffcx.IR.val`
    assigns to the node.  Partial: argument-free nodes, no `Conj`/`Real`/`Imag`,
    conditions, `Conditional`. -/
theorem partition_values_partial (ρ : IR.Env R) (F : Array IR.Node) (hc : IR.Closed F) (τ : St R)
    (sc : Nat → Expr) (C : Nat → Prop)
    (hC : ∀ i (hi : i < F.size), C i → ∀ d ∈ F[i].deps, C d)
    (h : ∀ i (hi : i < F.size), C i → NodeEq x ρ τ sc F[i] i) :
    ∀ i, i < F.size → C i → eval x τ (sc i) = IR.val ρ F i :=
  graph_recurrence_on ρ F hc (fun d => eval x τ (sc d)) C hC fun i hi hCi => (h i hi hCi).evalNode

theorem evalNode_equiv (ρ : IR.Env R) (V : Nat → R) (a b : IR.Node) (h : nodeEquivB a b = true) :
    IR.evalNode ρ V a = IR.evalNode ρ V b := by
  obtain ⟨ka, da⟩ := a
  obtain ⟨kb, db⟩ := b
  simp only [nodeEquivB, Bool.and_eq_true, beq_iff_eq, Bool.or_eq_true] at h
  obtain ⟨hk, hd⟩ := h
  subst hk
  rcases hd with hd | ⟨hsp, hd⟩
  · subst hd; rfl
  · rcases da with _ | ⟨x0, _ | ⟨x1, _ | ⟨x2, r⟩⟩⟩ <;> rcases db with _ | ⟨y0, _ | ⟨y1, _ | ⟨y2, r'⟩⟩⟩ <;>
      simp at hd
    obtain ⟨rfl, rfl⟩ := hd
    rcases hsp with hs | hp
    · subst hs; simp only [IR.evalNode]; grind
    · subst hp; simp only [IR.evalNode]; grind

/-- If the real `F` equals the model's `F` up to the operand order of sums and
    products (decidable `graphEquivB`), both assign the same values to every node. -/
theorem val_of_graphEquiv (ρ : IR.Env R) (F G : Array IR.Node) (hF : IR.Closed F) (hG : IR.Closed G)
    (h : graphEquivB F G = true) : ∀ i, i < F.size → IR.val ρ G i = IR.val ρ F i := by
  simp only [graphEquivB, Bool.and_eq_true, beq_iff_eq, List.all_eq_true, List.mem_range] at h
  obtain ⟨hs, hn⟩ := h
  refine graph_recurrence_unique ρ F hF (IR.val ρ G) ?_
  intro i hi
  have hiG : i < G.size := by omega
  have := hn i hi
  simp only [Array.getElem?_eq_getElem hi, Array.getElem?_eq_getElem hiG] at this
  rw [IR.val_eq_evalNode (ρ := ρ) G hG i hiG]
  exact (evalNode_equiv ρ _ _ _ this).symm

namespace PExample

/-- `sv_0 = J0 * J3;  sv_1 = sv_0 + w0;  sv_2 = w0 / sv_1` as `generate_partition` emits it -/
def inter : List Stmt :=
  [.vdecl "sv_ab_0" .real (.bin .mul (.sym "J0" .real) (.sym "J3" .real)),
   .vdecl "sv_ab_1" .scalar (.bin .add (.sym "sv_ab_0" .real) (.sym "w0" .scalar)),
   .vdecl "sv_ab_2" .scalar (.bin .div (.sym "w0" .scalar) (.sym "sv_ab_1" .scalar))]

def σ₁ : St Rat := { sv := [("J0", 2), ("J3", 3), ("w0", 4)] }

example : ssaOk inter = true := by decide +kernel

/-- the model produces exactly these intermediates for the graph `(J0·J3 + w0)`, `w0/(…)` -/
example : (match genPartition true "sv_ab"
      [⟨0, true, .terminal (.ex (.sym "J0" .real))⟩, ⟨1, true, .terminal (.ex (.sym "J3" .real))⟩,
       ⟨2, true, .operator "Product" "product" [0, 1]⟩, ⟨3, true, .terminal (.ex (.sym "w0" .scalar))⟩,
       ⟨4, true, .operator "Sum" "sum" [2, 3]⟩, ⟨5, true, .operator "Division" "division" [3, 4]⟩]
      [⟨0, true, .terminal (.ex (.sym "J0" .real))⟩, ⟨1, true, .terminal (.ex (.sym "J3" .real))⟩,
       ⟨2, true, .operator "Product" "product" [0, 1]⟩, ⟨3, true, .terminal (.ex (.sym "w0" .scalar))⟩,
       ⟨4, true, .operator "Sum" "sum" [2, 3]⟩, ⟨5, true, .operator "Division" "division" [3, 4]⟩]
      [] [] with
    | .ok (ss, _) => ss
    | .error _ => []) = inter := by rfl

/-- executing them: `sv_0 = 6`, `sv_1 = 10`, `sv_2 = 2/5` -/
example : (match execL ratExtra inter σ₁ with
    | .ok σ' => [σ'.sv.get "sv_ab_0", σ'.sv.get "sv_ab_1", σ'.sv.get "sv_ab_2"]
    | .error _ => []) = [some 6, some 10, some (2 / 5)] := by decide +kernel

end PExample

end Ffcx.Codegen
