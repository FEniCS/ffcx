/-
C03 — interior-facet results do not depend on local vertex numbering.
Property theorems (DESIGN.md §6 C03).  Models: `FfcxModel/IR/Perm.lean` (permutations, table rows,
`table_access`), `FfcxModel/LNodes/Sem.lean` (kernel semantics, for the flag theorem).
Helper lemmas: `FfcxProofs/Lemmas/Geom.lean`, `FfcxProofs/Lemmas/GeomIndep.lean`.

All theorems but `aligned_invariance_partial` are proved at full strength over exact arithmetic (floating-point
rounding is outside every theorem, DESIGN §5); `aligned_invariance_partial` carries two explicit hypotheses about
things the model does not contain (the cell geometry `x` and the element's push-forward), see its docstring.
-/
import FfcxProofs.Lemmas.Geom
import FfcxProofs.Lemmas.GeomIndep

namespace Ffcx.C03
open Ffcx.Perm Ffcx.Lemmas.Geom

/-- **Interval facets (triangle/quadrilateral cells), group S₂.**
For every vertex permutation σ of the reference interval there is exactly one code `N < 2` whose
point map `permute_quadrature_interval(·, reflections = N % 2)` is the affine map `T_σ` sending
vertex `i` to vertex `σ i` — for all points of any commutative ring; conversely every code is
such a map; and `N = 2·(N/2) + N%2` with no rotation. -/
theorem perm_group_interval :
    (∀ σ, σ ∈ S2 → ∃ N, N < 2 ∧
        (∀ {R : Type} [Lean.Grind.CommRing R] (x : R), permuteInterval (codeRef N) x = affI σ x) ∧
        (∀ N', N' < 2 → (∀ x : Rat, permuteInterval (codeRef N') x = affI σ x) → N' = N)) ∧
    (∀ N, N < 2 → ∃ σ, σ ∈ S2 ∧
        ∀ {R : Type} [Lean.Grind.CommRing R] (x : R), permuteInterval (codeRef N) x = affI σ x) ∧
    (∀ N, N < 2 → codeRot N = 0 ∧ codeRef N < 2 ∧ N = 2 * codeRot N + codeRef N) := by
  refine ⟨fun σ hσ => ?_, fun N hN => ?_, fun N hN =>
    have ⟨h1, h23⟩ := code_split (K := 1) hN; ⟨Nat.lt_one_iff.mp h1, h23⟩⟩
  · obtain ⟨N, hN, rfl, hu⟩ := codes_interval σ hσ
    exact ⟨N, hN, interval_affine N, fun N' hN' h => hu N' hN' (h 0)⟩
  · obtain ⟨hσ, hs⟩ := sigma_interval_spec N hN
    exact ⟨_, hσ, fun x => hs ▸ interval_affine N x⟩

/-- **Triangle facets (tetrahedron), group S₃** — as `perm_group_interval`, with
`permute_quadrature_triangle(·, reflections = N % 2, rotations = N / 2)` and 6 codes. -/
theorem perm_group_triangle :
    (∀ σ, σ ∈ S3 → ∃ N, N < 6 ∧
        (∀ {R : Type} [Lean.Grind.CommRing R] (p : R × R),
          permuteTriangle (codeRef N) (codeRot N) p = affT σ p) ∧
        (∀ N', N' < 6 →
          (∀ p : Rat × Rat, permuteTriangle (codeRef N') (codeRot N') p = affT σ p) → N' = N)) ∧
    (∀ N, N < 6 → ∃ σ, σ ∈ S3 ∧
        ∀ {R : Type} [Lean.Grind.CommRing R] (p : R × R),
          permuteTriangle (codeRef N) (codeRot N) p = affT σ p) ∧
    (∀ N, N < 6 → codeRot N < 3 ∧ codeRef N < 2 ∧ N = 2 * codeRot N + codeRef N) := by
  refine ⟨fun σ hσ => ?_, fun N hN => ?_, fun N hN => code_split (K := 3) hN⟩
  · obtain ⟨N, hN, hc, hu⟩ := codes_triangle σ hσ
    exact ⟨N, hN, affine_of_coeffs permuteTriangle_app affT_app hc,
      fun N' hN' h => hu N' hN' (coeffs_of_affine permuteTriangle_app affT_app h)⟩
  · obtain ⟨hσ, hc⟩ := sigma_triangle_spec N hN
    exact ⟨_, hσ, affine_of_coeffs permuteTriangle_app affT_app hc⟩

/-- **Quadrilateral facets (hexahedron), group D₄** (the 8 vertex permutations of the square
induced by affine maps, `D4`) — with `permute_quadrature_quadrilateral` and 8 codes. -/
theorem perm_group_quad :
    (∀ σ, σ ∈ D4 → ∃ N, N < 8 ∧
        (∀ {R : Type} [Lean.Grind.CommRing R] (p : R × R),
          permuteQuad (codeRef N) (codeRot N) p = affQ σ p) ∧
        (∀ N', N' < 8 →
          (∀ p : Rat × Rat, permuteQuad (codeRef N') (codeRot N') p = affQ σ p) → N' = N)) ∧
    (∀ N, N < 8 → ∃ σ, σ ∈ D4 ∧
        ∀ {R : Type} [Lean.Grind.CommRing R] (p : R × R),
          permuteQuad (codeRef N) (codeRot N) p = affQ σ p) ∧
    (∀ N, N < 8 → codeRot N < 4 ∧ codeRef N < 2 ∧ N = 2 * codeRot N + codeRef N) := by
  refine ⟨fun σ hσ => ?_, fun N hN => ?_, fun N hN => code_split (K := 4) hN⟩
  · obtain ⟨N, hN, hc, hu⟩ := codes_quad σ hσ
    exact ⟨N, hN, affine_of_coeffs permuteQuad_app affQ_app hc,
      fun N' hN' h => hu N' hN' (coeffs_of_affine permuteQuad_app affQ_app h)⟩
  · obtain ⟨hσ, hc⟩ := sigma_quad_spec N hN
    exact ⟨_, hσ, affine_of_coeffs permuteQuad_app affQ_app hc⟩

/-- The groups have the expected sizes and `D4` is a proper subgroup of S₄ (non-vacuity of the
quantifiers above). -/
example : S2.length = 2 ∧ S3.length = 6 ∧ D4.length = 8 ∧ [1, 0, 2, 3] ∉ D4 := by
  rw [D4_eq]; decide +kernel

/-- Concrete instance: code 3 of a triangle facet (1 rotation, 1 reflection) swaps vertices 0 and 1,
`(x, y) ↦ (1 - x - y, y)`. -/
example (x y : Rat) : permuteTriangle (codeRef 3) (codeRot 3) (x, y) = (1 - x - y, y) := by
  simp [permuteTriangle, codeRef, codeRot, iter, rotateTriangle, reflect2]

/-- composition of vertex permutations given as image lists: `(σ ∘ τ) i = σ (τ i)` -/
def composePerm (σ τ : List Nat) : List Nat := τ.map (fun i => σ.getD i 0)

def iterPerm (σ : List Nat) (n k : Nat) : List Nat := iter (composePerm σ) k (List.range n)

/-- `permute(ref, rot) = reflectʳᵉᶠ ∘ rotateʳᵒᵗ`: the rotations are applied to the point first,
the reflections second (all three functions; the interval has no rotation).  In group terms: the
vertex permutation of code `2·rot+ref` is `s_ref^ref ∘ s_rot^rot` where `s_rot`, `s_ref` are the
permutations of codes 2 and 1.  `perm_compose_order_matters` shows the other order is a different
function, so swapping the two loops in the source breaks this theorem. -/
theorem perm_compose :
    (∀ {R : Type} [Lean.Grind.CommRing R] (ref rot : Nat) (p : R × R),
        permuteTriangle ref rot p = iter reflect2 ref (iter rotateTriangle rot p) ∧
        permuteQuad ref rot p = iter reflect2 ref (iter rotateQuad rot p)) ∧
    (∀ rot ref, rot < 3 → ref < 2 → sigmaOfCode .triangle (2 * rot + ref) =
        composePerm (iterPerm (sigmaOfCode .triangle 1) 3 ref) (iterPerm (sigmaOfCode .triangle 2) 3 rot)) ∧
    (∀ rot ref, rot < 4 → ref < 2 → sigmaOfCode .quadrilateral (2 * rot + ref) =
        composePerm (iterPerm (sigmaOfCode .quadrilateral 1) 4 ref)
          (iterPerm (sigmaOfCode .quadrilateral 2) 4 rot)) := by
  -- `decide` wants each bounded quantifier directly in front of its bound
  refine ⟨fun ref rot p => ⟨rfl, rfl⟩, ?_, ?_⟩ <;>
    (intro rot ref hr hf; revert ref; revert rot; decide +kernel)

/-- Reflect-then-rotate is a different map (witness point `(1/4, 1/2)`, one rotation and one
reflection), for the triangle and for the quadrilateral; and the swapped group product differs. -/
theorem perm_compose_order_matters :
    iter reflect2 1 (iter rotateTriangle 1 ((1/4, 1/2) : Rat × Rat)) ≠
      iter rotateTriangle 1 (iter reflect2 1 ((1/4, 1/2) : Rat × Rat)) ∧
    iter reflect2 1 (iter rotateQuad 1 ((1/4, 1/2) : Rat × Rat)) ≠
      iter rotateQuad 1 (iter reflect2 1 ((1/4, 1/2) : Rat × Rat)) ∧
    sigmaOfCode .triangle 3 ≠
      composePerm (iterPerm (sigmaOfCode .triangle 2) 3 1) (iterPerm (sigmaOfCode .triangle 1) 3 1) := by
  decide +kernel

/-- If one side sees the facet through the vertex relabelling `τ` (its parametrisation is
`Ψ ∘ T_τ` for the common parametrisation `Ψ`), then exactly one code undoes it:
`T_τ (permute_N X) = X` for all points `X` (S₂, S₃, D₄). -/
theorem aligning_code_exists :
    (∀ τ, τ ∈ S2 → ∃ N, N < 2 ∧
      (∀ {R : Type} [Lean.Grind.CommRing R] (x : R), affI τ (permuteInterval (codeRef N) x) = x) ∧
      ∀ N', N' < 2 → (∀ x : Rat, affI τ (permuteInterval (codeRef N') x) = x) → N' = N) ∧
    (∀ τ, τ ∈ S3 → ∃ N, N < 6 ∧
      (∀ {R : Type} [Lean.Grind.CommRing R] (p : R × R),
        affT τ (permuteTriangle (codeRef N) (codeRot N) p) = p) ∧
      ∀ N', N' < 6 →
        (∀ p : Rat × Rat, affT τ (permuteTriangle (codeRef N') (codeRot N') p) = p) → N' = N) ∧
    (∀ τ, τ ∈ D4 → ∃ N, N < 8 ∧
      (∀ {R : Type} [Lean.Grind.CommRing R] (p : R × R),
        affQ τ (permuteQuad (codeRef N) (codeRot N) p) = p) ∧
      ∀ N', N' < 8 →
        (∀ p : Rat × Rat, affQ τ (permuteQuad (codeRef N') (codeRot N') p) = p) → N' = N) := by
  refine ⟨fun τ hτ => ?_, fun τ hτ => ?_, fun τ hτ => ?_⟩
  · obtain ⟨N, hN, rfl, hu⟩ := align_interval τ hτ
    exact ⟨N, hN, interval_align N,
      fun N' hN' h => hu N' hN' (List.all_eq_true.2 fun _ _ => decide_eq_true (h _))⟩
  · obtain ⟨N, hN, hc, hu⟩ := align_triangle τ hτ
    exact ⟨N, hN, align_of_coeffs permuteTriangle_app affT_app hc,
      fun N' hN' h => hu N' hN' (coeffs_of_alignsT (List.all_eq_true.2 fun _ _ => decide_eq_true (h _)))⟩
  · obtain ⟨N, hN, hc, hu⟩ := align_quad τ hτ
    exact ⟨N, hN, align_of_coeffs permuteQuad_app affQ_app hc,
      fun N' hN' h => hu N' hN' (coeffs_of_alignsQ (List.all_eq_true.2 fun _ _ => decide_eq_true (h _)))⟩

/-- `Σ_q w_q · g(a_q, b_q)` over paired lists (weights, '+' data, '-' data). -/
def facetSum {R P : Type} [Add R] [Mul R] [OfNat R 0] (g : P → P → R) :
    List R → List P → List P → R
  | w :: ws, a :: as, b :: bs => w * g a b + facetSum g ws as bs
  | _, _, _ => 0

/-- **Change of variables only** (it *assumes* that the permuted point maps of both numberings
agree with a common parametrisation and contains no table, no code and no dof; DESIGN §12.6).
If `Φ_r (π_r X_q) = Ψ X_q` for every
quadrature point on both sides of both numberings, the two facet sums are the same term.
The statement that derives these hypotheses from the model's tables and codes is
`aligned_invariance_partial` below. -/
theorem facet_sum_change_of_variables {R P Q : Type} [Add R] [Mul R] [OfNat R 0]
    (g : P → P → R) (ws : List R) (X : List Q) (Ψ : Q → P)
    (Φp Φm Φp' Φm' : Q → P) (πp πm πp' πm' : Q → Q)
    (hp : ∀ x, x ∈ X → Φp (πp x) = Ψ x) (hm : ∀ x, x ∈ X → Φm (πm x) = Ψ x)
    (hp' : ∀ x, x ∈ X → Φp' (πp' x) = Ψ x) (hm' : ∀ x, x ∈ X → Φm' (πm' x) = Ψ x) :
    facetSum g ws (X.map (fun x => Φp (πp x))) (X.map (fun x => Φm (πm x))) =
    facetSum g ws (X.map (fun x => Φp' (πp' x))) (X.map (fun x => Φm' (πm' x))) := by
  rw [List.map_congr_left hp, List.map_congr_left hm, List.map_congr_left hp', List.map_congr_left hm']

/-- Non-vacuity of `facet_sum_change_of_variables`: a triangle facet seen by the '-' side with
vertices 0,1 swapped (`τ = [1,0,2]`), aligned by code 3; `Ψ` the identity, three points, `g` a
non-symmetric integrand. -/
example :
    let X : List (Rat × Rat) := [(1/6, 1/6), (2/3, 1/6), (1/6, 2/3)]
    facetSum (fun a b : Rat × Rat => a.1 * b.2 + 2 * b.1) [1/6, 1/6, 1/6]
        (X.map (fun x => x)) (X.map (fun x => affT [1, 0, 2] (permuteTriangle (codeRef 3) (codeRot 3) x)))
      = facetSum (fun a b : Rat × Rat => a.1 * b.2 + 2 * b.1) [1/6, 1/6, 1/6] X X := by
  decide +kernel

/-- **Row order and consumption.** For a facet type with reflections (`numRef = 2`), the table
built by the nested `for rot: for ref:` loops, read through `table_access` with flags
permuted/non-uniform/non-piecewise on side `minus` whose code is `N = quadrature_permutation[r]`
(`N < numCodes`), yields the basis function `d` at the entity map of the point permuted with
`rotations = N / 2`, `reflections = N % 2`.  The side index `r` is written `if minus then 1 else 0`, as in `tableAccess`;
`Restriction.idx` and `Restriction.isMinus` of the geometry model are the same number (`C02.entity_table_read`). -/
theorem table_access_spec {P C V : Type} [Inhabited V] (t : FacetType) (ht : t.numRef = 2)
    (perm : Nat → Nat → P → P) (F : Nat → P → C) (phi : Nat → C → V) (nent ndof : Nat)
    (X : List P) (dP : P) (minus : Bool) (qperm : List Nat) (e q d : Nat)
    (hN : qperm.getD (if minus then 1 else 0) 0 < t.numCodes)
    (he : e < nent) (hq : q < X.length) (hd : d < ndof) :
    let N := qperm.getD (if minus then 1 else 0) 0
    tableAccess (buildTable t perm F phi nent ndof X) ⟨true, false, false⟩ minus qperm e q d
      = phi d (F e (perm (codeRef N) (codeRot N) (X.getD q dP))) := by
  intro N
  obtain ⟨hrot, href, hsplit⟩ := code_split (K := t.numRot) (N := N) (ht ▸ hN)
  have := get_buildTable t perm F phi nent ndof X dP hrot (ht ▸ href) he hq hd
  rw [ht, ← hsplit] at this
  cases minus <;> exact this

/-- Non-vacuity: a 2-entity, 2-point, 2-dof table on a triangle facet; code 3 on the '-' side. -/
example :
    tableAccess (buildTable .triangle (fun ref rot => permuteTriangle (R := Rat) ref rot)
        (fun e p => (p.1 + e, p.2)) (fun d p => if d = 0 then p.1 else p.2) 2 2
        [(1/4, 1/2), (1/8, 1/8)]) ⟨true, false, false⟩ true [0, 3] 1 0 0 = 5/4 := by
  decide +kernel

/-- One-row tables (the branches of `build_optimized_tables` without a permutation loop: exterior
facets, vertices, interval cells — `t = .point`): row 0 is read whatever the codes, and holds the
basis function at the entity map of the (un-permuted) point. -/
theorem table_access_spec_noperm {P C V : Type} [Inhabited V]
    (perm : Nat → Nat → P → P) (hperm : ∀ p, perm 0 0 p = p)
    (F : Nat → P → C) (phi : Nat → C → V) (nent ndof : Nat)
    (X : List P) (dP : P) (minus : Bool) (qperm : List Nat) (e q d : Nat)
    (he : e < nent) (hq : q < X.length) (hd : d < ndof) :
    tableAccess (buildTable .point perm F phi nent ndof X) ⟨false, false, false⟩ minus qperm e q d
      = phi d (F e (X.getD q dP)) :=
  hperm (X.getD q dP) ▸
    get_buildTable .point perm F phi nent ndof X dP (rot := 0) (ref := 0) (by decide) (by decide) he hq hd

/-- How an aligning code is found in practice: by matching the
reference *vertices* only (`alignsI/T/Q N τ`: `T_τ (permute_N vᵢ) = vᵢ` for the 2/3/4 reference
vertices, over `Rat`).  For a facet symmetry `τ` and a code in range this finite test is equivalent
to alignment at **all** points of any commutative ring. -/
theorem vertex_aligned_iff :
    (∀ τ, τ ∈ S2 → ∀ N, N < 2 → (alignsI N τ = true ↔
      ∀ {R : Type} [Lean.Grind.CommRing R] (x : R), affI τ (permuteInterval (codeRef N) x) = x)) ∧
    (∀ τ, τ ∈ S3 → ∀ N, N < 6 → (alignsT N τ = true ↔
      ∀ {R : Type} [Lean.Grind.CommRing R] (p : R × R),
        affT τ (permuteTriangle (codeRef N) (codeRot N) p) = p)) ∧
    (∀ τ, τ ∈ D4 → ∀ N, N < 8 → (alignsQ N τ = true ↔
      ∀ {R : Type} [Lean.Grind.CommRing R] (p : R × R),
        affQ τ (permuteQuad (codeRef N) (codeRot N) p) = p)) := by
  refine ⟨fun τ hτ N hN => ?_, fun τ hτ N hN => ?_, fun τ hτ N hN => ?_⟩
  -- The interval goes another way than the 2-d facets: `N` is THE aligning code of `τ` in the table `align_interval`,
  -- so `interval_align` applies.  Only this step needs `τ ∈ G` and `N < numCodes` (the 2-d cases hold for every `τ`,
  -- `N`): it is the one reason for `Sees.sym_mem`, the parameter `G` and the guards of `hal` in `numberingInvariant_of`.
  · obtain ⟨N₀, _, rfl, hu⟩ := align_interval τ hτ
    exact ⟨fun h => hu N hN h ▸ interval_align N,
      fun h => List.all_eq_true.2 fun _ _ => decide_eq_true (h _)⟩
  · exact alignsT_spec N τ
  · exact alignsQ_spec N τ

/-- One cell adjacent to the shared facet, in one local vertex numbering: everything
`build_optimized_tables` tabulates from (`F`, `phi`, sizes), the local index `e` of the shared facet
(`entity_local_index[r]`), and the two things the model does not contain — the geometry `x` of the
cell in this numbering and the bookkeeping of which physical basis function a reference dof is. -/
structure SideView (P C Ph V : Type) where
  /-- reference-entity maps: local facet `e`, reference-facet point ↦ reference-cell point -/
  F : Nat → P → C
  /-- reference basis functions, `phi d` = dof `d` -/
  phi : Nat → C → V
  nent : Nat
  ndof : Nat
  /-- local index of the shared facet in this numbering -/
  e : Nat
  /-- reference cell → physical space, for this numbering of the cell's vertices -/
  x : C → Ph
  /-- the vertex relabelling of the reference facet through which this side sees the shared facet -/
  τ : List Nat
  /-- reference dof `d` of this numbering is the physical basis function `dofOf d` -/
  dofOf : Nat → Nat

/-- What "two local numberings of the same physical cell, related by a facet symmetry" means for one
side, relative to numbering-independent data: the common parametrisation `Ψ` of the shared facet and
the physical basis functions `ψ k` of the cell.
* `geom` — **facet symmetry**: the side's own parametrisation of the facet (reference facet →
  reference cell by `F e`, → physical space by `x`) is the common one after relabelling the facet's
  vertices by `τ ∈ G` (both are affine parametrisations of the same physical simplex/parallelogram
  that send vertices to vertices);
* `elem` — **element hypothesis**: reference basis function `d` of this numbering, pushed forward
  by `x`, is the physical basis function `dofOf d` (for affine-mapped Lagrange elements `dofOf` is
  the dof permutation induced by the vertex renumbering; neither Basix' basis functions nor the
  push-forward are part of the model — this is why the theorem below is `_partial`). -/
structure SideView.Sees {P C Ph V : Type} (s : SideView P C Ph V) (aff : List Nat → P → P)
    (G : List (List Nat)) (Ψ : P → Ph) (ψ : Nat → Ph → V) : Prop where
  facet_lt : s.e < s.nent
  sym_mem : s.τ ∈ G
  geom : ∀ p, s.x (s.F s.e p) = Ψ (aff s.τ p)
  elem : ∀ d, d < s.ndof → ∀ c, s.phi d c = ψ (s.dofOf d) (s.x c)

/-- the permuted table `build_optimized_tables` builds for this side -/
def SideView.table {P C Ph V : Type} (s : SideView P C Ph V) (t : FacetType)
    (perm : Nat → Nat → P → P) (X : List P) : Table V :=
  buildTable t perm s.F s.phi s.nent s.ndof X

/-- One side.  If the side sees the facet through `τ` and its code
`N = quadrature_permutation[r]` undoes `τ` at all points, then what the kernel reads from the
side's permuted table through `table_access` — row `N`, entity `entity_local_index[r]`, point `q`,
dof `d` — is the *physical* basis function `dofOf d` at the *common* physical point `Ψ X_q`; and
that row was tabulated at `reflectʳᵉᶠ(rotateʳᵒᵗ X_q)` with `rot = N / 2`, `ref = N % 2`
(`table_access_spec`; for the three facet types `perm_compose` spells the loops out). -/
theorem aligned_table_read {P C Ph V : Type} [Inhabited V] (t : FacetType) (ht : t.numRef = 2)
    (perm : Nat → Nat → P → P) (aff : List Nat → P → P) (G : List (List Nat))
    (Ψ : P → Ph) (ψ : Nat → Ph → V) (s : SideView P C Ph V) (hs : s.Sees aff G Ψ ψ)
    (X : List P) (dP : P) (minus : Bool) (qperm : List Nat) (q d : Nat)
    (hN : qperm.getD (if minus then 1 else 0) 0 < t.numCodes)
    (halign : ∀ p, aff s.τ (perm (codeRef (qperm.getD (if minus then 1 else 0) 0))
      (codeRot (qperm.getD (if minus then 1 else 0) 0)) p) = p)
    (hq : q < X.length) (hd : d < s.ndof) :
    let N := qperm.getD (if minus then 1 else 0) 0
    tableAccess (s.table t perm X) ⟨true, false, false⟩ minus qperm s.e q d
        = s.phi d (s.F s.e (perm (codeRef N) (codeRot N) (X.getD q dP))) ∧
    tableAccess (s.table t perm X) ⟨true, false, false⟩ minus qperm s.e q d
        = ψ (s.dofOf d) (Ψ (X.getD q dP)) := by
  intro N
  have h1 := table_access_spec t ht perm s.F s.phi s.nent s.ndof X dP minus qperm s.e q d hN
    hs.facet_lt hq hd
  refine ⟨h1, ?_⟩
  simp only [SideView.table]
  rw [h1, hs.elem d hd, hs.geom, halign]

/-- values the kernel reads at point `q` for the dofs `ds` of one side -/
def readDofs {V : Type} [Inhabited V] (T : Table V) (minus : Bool) (qperm : List Nat)
    (e q : Nat) (ds : List Nat) : List V :=
  ds.map (fun d => tableAccess T ⟨true, false, false⟩ minus qperm e q d)

/-- The interior-facet sum **as the kernel computes it**: `Σ_q w_q · g(v⁺_q, v⁻_q)` where `v⁺_q`
(`v⁻_q`) are the values read through `tableAccess` from the '+' ('-') table at quadrature point `q`
for the dofs `is` (`js`), with the codes `qperm = quadrature_permutation` and the local facet
indices `(ep, em) = entity_local_index`.  `g` is any integrand of these values (an entry
`A[i][j]` of a bilinear form: `is = [i]`, `js = [j]`; coefficients: all their dofs). -/
def kernelFacetSum {S V : Type} [Inhabited V] [Add S] [Mul S] [OfNat S 0]
    (g : List V → List V → S) (ws : List S) (nq : Nat) (Tp Tm : Table V) (qperm : List Nat)
    (ep em : Nat) (is js : List Nat) : S :=
  facetSum g ws ((List.range nq).map (fun q => readDofs Tp false qperm ep q is))
    ((List.range nq).map (fun q => readDofs Tm true qperm em q js))

/-- the numbering-independent value: `Σ_q w_q · g(ψ⁺_k(Ψ X_q))_{k∈ks}, (ψ⁻_l(Ψ X_q))_{l∈ls})` -/
def physicalFacetSum {S V P Ph : Type} [Add S] [Mul S] [OfNat S 0]
    (g : List V → List V → S) (ws : List S) (X : List P) (Ψ : P → Ph) (ψp ψm : Nat → Ph → V)
    (ks ls : List Nat) : S :=
  facetSum g ws (X.map (fun x => ks.map (fun k => ψp k (Ψ x))))
    (X.map (fun x => ls.map (fun l => ψm l (Ψ x))))

/-- A local numbering of the two cells: the two sides and the codes handed to the kernel. -/
structure Numbering (P C Ph V : Type) where
  plus : SideView P C Ph V
  minus : SideView P C Ph V
  /-- `quadrature_permutation` -/
  qperm : List Nat

/-- The numbering is admissible for the facet type: both sides see the common facet through a
symmetry of the reference facet, and each code is in range and matches the reference **vertices**
(`aligns N τ`, the finite test of `vertex_aligned_iff`). -/
structure Numbering.Aligned {P C Ph V : Type} (n : Numbering P C Ph V) (t : FacetType)
    (aff : List Nat → P → P) (G : List (List Nat)) (aligns : Nat → List Nat → Bool)
    (Ψ : P → Ph) (ψp ψm : Nat → Ph → V) : Prop where
  plus_sees : n.plus.Sees aff G Ψ ψp
  minus_sees : n.minus.Sees aff G Ψ ψm
  plus_code : n.qperm.getD 0 0 < t.numCodes ∧ aligns (n.qperm.getD 0 0) n.plus.τ = true
  minus_code : n.qperm.getD 1 0 < t.numCodes ∧ aligns (n.qperm.getD 1 0) n.minus.τ = true

/-- the kernel's facet sum in numbering `n` -/
def Numbering.kernelSum {P C Ph V S : Type} [Inhabited V] [Add S] [Mul S] [OfNat S 0]
    (n : Numbering P C Ph V) (t : FacetType) (perm : Nat → Nat → P → P)
    (g : List V → List V → S) (ws : List S) (X : List P) (is js : List Nat) : S :=
  kernelFacetSum g ws X.length (n.plus.table t perm X) (n.minus.table t perm X) n.qperm
    n.plus.e n.minus.e is js

/-- The statement of numbering invariance for one facet type (`t`, its point type `P`, the model's
permutation `perm`, the affine maps `aff` of the vertex relabellings `G`, the vertex test `aligns`):
for **any** two admissible numberings `a`, `b` of the same two physical cells (same `Ψ`, `ψ⁺`, `ψ⁻`),
any rule `(X, ws)`, any integrand `g`, and dof lists that denote the same physical basis functions in
the two numberings, the kernel's facet sums agree — and both equal the numbering-independent
`physicalFacetSum`. -/
def NumberingInvariant (t : FacetType) (P : Type) (perm : Nat → Nat → P → P)
    (aff : List Nat → P → P) (G : List (List Nat)) (aligns : Nat → List Nat → Bool) : Prop :=
  ∀ {C Ph V S : Type} [Inhabited V] [Add S] [Mul S] [OfNat S 0]
    (Ψ : P → Ph) (ψp ψm : Nat → Ph → V) (X : List P) (ws : List S) (g : List V → List V → S)
    (a b : Numbering P C Ph V),
    a.Aligned t aff G aligns Ψ ψp ψm → b.Aligned t aff G aligns Ψ ψp ψm →
    ∀ (is js is' js' : List Nat),
      (∀ i ∈ is, i < a.plus.ndof) → (∀ j ∈ js, j < a.minus.ndof) →
      (∀ i ∈ is', i < b.plus.ndof) → (∀ j ∈ js', j < b.minus.ndof) →
      is.map a.plus.dofOf = is'.map b.plus.dofOf → js.map a.minus.dofOf = js'.map b.minus.dofOf →
      a.kernelSum t perm g ws X is js = b.kernelSum t perm g ws X is' js' ∧
      a.kernelSum t perm g ws X is js =
        physicalFacetSum g ws X Ψ ψp ψm (is.map a.plus.dofOf) (js.map a.minus.dofOf)

section
variable {P : Type} (t : FacetType) (ht : t.numRef = 2) (perm : Nat → Nat → P → P)
  (aff : List Nat → P → P) (G : List (List Nat))
include ht

/-- What the kernel reads on one side over the whole rule: for a side that sees the facet through
`τ` and whose code undoes `τ`, the values of the dofs `ds` at every quadrature point are the physical
basis functions `dofOf d` at the common points `Ψ X_q` (`aligned_table_read` at every `q`, `d`). -/
theorem aligned_reads {C Ph V : Type} [Inhabited V]
    (Ψ : P → Ph) (ψ : Nat → Ph → V) (s : SideView P C Ph V) (hs : s.Sees aff G Ψ ψ)
    (X : List P) (minus : Bool) (qperm : List Nat)
    (hN : qperm.getD (if minus then 1 else 0) 0 < t.numCodes)
    (halign : ∀ p, aff s.τ (perm (codeRef (qperm.getD (if minus then 1 else 0) 0))
      (codeRot (qperm.getD (if minus then 1 else 0) 0)) p) = p)
    (ds : List Nat) (hds : ∀ d ∈ ds, d < s.ndof) :
    (List.range X.length).map (fun q => readDofs (s.table t perm X) minus qperm s.e q ds)
      = X.map (fun x => (ds.map s.dofOf).map (fun k => ψ k (Ψ x))) := by
  apply List.ext_getElem (by simp)
  intro q hq _
  rw [List.length_map, List.length_range] at hq
  rw [List.getElem_map, List.getElem_map, List.getElem_range, readDofs, List.map_map]
  apply List.map_congr_left
  intro d hd
  have := (aligned_table_read t ht perm aff G Ψ ψ s hs X X[q] minus qperm q d hN halign hq
    (hds d hd)).2
  rwa [List.getD_eq_getElem?_getD, List.getElem?_eq_getElem hq, Option.getD_some] at this

/-- Numbering invariance for a facet type with reflections, given that the vertex test `aligns`
implies alignment at all points (`hal`). -/
theorem numberingInvariant_of (aligns : Nat → List Nat → Bool)
    (hal : ∀ τ, τ ∈ G → ∀ N, N < t.numCodes → aligns N τ = true →
      ∀ p, aff τ (perm (codeRef N) (codeRot N) p) = p) :
    NumberingInvariant t P perm aff G aligns := by
  intro C Ph V S _ _ _ _ Ψ ψp ψm X ws g a b ha hb is js is' js' his hjs his' hjs' ei ej
  -- the kernel's sum of one admissible numbering is the physical sum
  have key : ∀ n : Numbering P C Ph V, n.Aligned t aff G aligns Ψ ψp ψm → ∀ is js,
      (∀ i ∈ is, i < n.plus.ndof) → (∀ j ∈ js, j < n.minus.ndof) →
      n.kernelSum t perm g ws X is js =
        physicalFacetSum g ws X Ψ ψp ψm (is.map n.plus.dofOf) (js.map n.minus.dofOf) := by
    intro n hn is js his hjs
    rw [Numbering.kernelSum, kernelFacetSum, physicalFacetSum,
      aligned_reads t ht perm aff G Ψ ψp n.plus hn.plus_sees X false n.qperm hn.plus_code.1
        (hal _ hn.plus_sees.sym_mem _ hn.plus_code.1 hn.plus_code.2) is his,
      aligned_reads t ht perm aff G Ψ ψm n.minus hn.minus_sees X true n.qperm hn.minus_code.1
        (hal _ hn.minus_sees.sym_mem _ hn.minus_code.1 hn.minus_code.2) js hjs]
  have e1 := key a ha is js his hjs
  exact ⟨by rw [e1, key b hb is' js' his' hjs', ei, ej], e1⟩

end

/-- Numbering invariance of the interior-facet sum, over the model's own objects.  For each facet type (interval / triangle / quadrilateral facets, i.e.
triangle+quadrilateral / tetrahedron / hexahedron cells), over any commutative ring of coordinates:
take two local numberings `a`, `b` of the same two physical cells sharing a facet.  In each
numbering each side `r` has its own reference-entity maps `F`, basis functions `phi`, local facet
index `e`, sees the shared facet through a symmetry `τ_r` of the reference facet
(`SideView.Sees.geom`), and is handed the code `quadrature_permutation[r] < numCodes` that matches
the reference **vertices** under `τ_r` (`alignsI/T/Q`; exists and is unique by
`aligning_code_exists`, and vertex matching is alignment at all points by `vertex_aligned_iff`).
Then the facet sum the kernel computes from `tableAccess (buildTable …)` — rows selected by the
codes, entities by the local facet indices, the `for rot: for ref:` row order of `buildTable`,
`rot = N / 2` rotations applied before `ref = N % 2` reflections — is the same in both numberings
(for dof lists naming the same physical basis functions), and equals the numbering-independent
`physicalFacetSum`.  The point-map identities `Φ_r (π_r X_q) = Ψ X_q` that
`facet_sum_change_of_variables` assumes are *derived* here, from `τ_r` and the vertex-matched code.

**Why `_partial`.** Full statement: *for every element FFCx accepts and every pair of numberings of
two cells of a mesh, the interior-facet tensors agree up to the induced dof renumbering* — with
`SideView.Sees.geom` derived from the vertex coordinates and `SideView.Sees.elem` from the
definition of the element.  The model contains neither cell geometries nor Basix elements, so both
are explicit hypotheses: `geom` (the two parametrisations differ by a facet symmetry) and `elem`
(reference basis function `d` pushes forward to physical basis function `dofOf d`; for non-affine
push-forwards — Piola maps, non-affine cells — `V`-valued `ψ` must already include the
push-forward).  Integrand factors that are not table reads (Jacobians, normals, weights' scaling)
are inside `g`/`ws` and must themselves be numbering independent; tables whose permutation axis
was dropped are covered by `drop_perm_axis`, kernels flagged false by `flag_false_independent`.
What remains is decided by the numbering runs of `harness/props/c03.py`. -/
theorem aligned_invariance_partial {R : Type} [Lean.Grind.CommRing R] :
    NumberingInvariant .interval R (fun ref _ => permuteInterval ref) affI S2 alignsI ∧
    NumberingInvariant .triangle (R × R) permuteTriangle affT S3 alignsT ∧
    NumberingInvariant .quadrilateral (R × R) permuteQuad affQ D4 alignsQ := by
  obtain ⟨hI, hT, hQ⟩ := vertex_aligned_iff
  refine ⟨?_, ?_, ?_⟩
  · exact numberingInvariant_of .interval rfl _ _ _ _
      (fun τ hτ N hN h p => (hI τ hτ N hN).mp h p)
  · exact numberingInvariant_of .triangle rfl _ _ _ _
      (fun τ hτ N hN h p => (hT τ hτ N hN).mp h p)
  · exact numberingInvariant_of .quadrilateral rfl _ _ _ _
      (fun τ hτ N hN h p => (hQ τ hτ N hN).mp h p)

/-! Non-vacuity of `aligned_invariance_partial` (triangle facet, `R = Rat`). -/
section Example

def exΨ : Rat × Rat → Rat × Rat := fun p => p
def exψp : Nat → Rat × Rat → Rat := fun k x => if k = 0 then x.1 else x.2 + 1
def exψm : Nat → Rat × Rat → Rat := fun k x => if k = 0 then 2 * x.1 + x.2 else x.2

/-- reference numbering: both sides see the facet through the identity, codes `[0, 0]`,
local facet indices 1 ('+') and 0 ('-') -/
def exA : Numbering (Rat × Rat) (Rat × Rat) (Rat × Rat) Rat where
  plus := { F := fun e p => (p.1 + e, p.2), phi := fun d c => exψp d (c.1 - 1, c.2), nent := 4, ndof := 2,
            e := 1, x := fun c => (c.1 - 1, c.2), τ := [0, 1, 2], dofOf := fun d => d }
  minus := { F := fun e p => (p.1 + e, p.2), phi := fun d c => exψm d c, nent := 4, ndof := 2,
             e := 0, x := fun c => c, τ := [0, 1, 2], dofOf := fun d => d }
  qperm := [0, 0]

/-- the '-' cell renumbered: it now sees the facet with vertices 0 and 1 swapped (`τ = [1,0,2]`) as
its local facet 2, its two dofs are exchanged, and the vertex-matched code is 3 -/
def exB : Numbering (Rat × Rat) (Rat × Rat) (Rat × Rat) Rat where
  plus := exA.plus
  minus := { F := fun e p => (p.1 + e, p.2), phi := fun d c => exψm (1 - d) (affT [1, 0, 2] (c.1 - 2, c.2)),
             nent := 4, ndof := 2, e := 2, x := fun c => affT [1, 0, 2] (c.1 - 2, c.2), τ := [1, 0, 2],
             dofOf := fun d => 1 - d }
  qperm := [0, 3]

/-- in both numberings the facet maps shift by the facet index and `x` shifts back -/
theorem exA_aligned : exA.Aligned .triangle affT S3 alignsT exΨ exψp exψm where
  plus_sees := ⟨by decide, by decide, fun p => (affT_id p).symm ▸
    Prod.ext (by show p.1 + ((1 : Nat) : Rat) - 1 = p.1; grind) rfl, fun d _ c => rfl⟩
  minus_sees := ⟨by decide, by decide, fun p => (affT_id p).symm ▸
    Prod.ext (by show p.1 + ((0 : Nat) : Rat) = p.1; grind) rfl, fun d _ c => rfl⟩
  plus_code := by decide +kernel
  minus_code := by decide +kernel

theorem exB_aligned : exB.Aligned .triangle affT S3 alignsT exΨ exψp exψm where
  plus_sees := exA_aligned.plus_sees
  minus_sees := ⟨by decide, by decide, fun p => congrArg (affT [1, 0, 2])
    (Prod.ext (by show p.1 + ((2 : Nat) : Rat) - 2 = p.1; grind) rfl), fun d _ c => rfl⟩
  plus_code := by decide +kernel
  minus_code := by decide +kernel

/-- the hypotheses are satisfiable, the conclusion is obtained from the theorem (test dofs `[0,1]`
on '+', trial dof 0 of the reference numbering = dof 1 of the renumbered '-' cell), the common
value is not trivial, and with the wrong code (0 instead of 3) on the renumbered side the kernel's
sum is a different number -/
example :
    let X : List (Rat × Rat) := [(1/6, 1/6), (2/3, 1/6), (1/6, 2/3)]
    let g : List Rat → List Rat → Rat := fun a b => a.getD 0 0 * b.getD 0 0 + 3 * a.getD 1 0
    exA.kernelSum .triangle permuteTriangle g [1/6, 1/3, 1/2] X [0, 1] [0] =
      exB.kernelSum .triangle permuteTriangle g [1/6, 1/3, 1/2] X [0, 1] [1] ∧
    exB.kernelSum .triangle permuteTriangle g [1/6, 1/3, 1/2] X [0, 1] [1] = 337/72 ∧
    ({ exB with qperm := [0, 0] } : Numbering _ _ _ _).kernelSum .triangle permuteTriangle g
      [1/6, 1/3, 1/2] X [0, 1] [1] = 323/72 := by
  intro X g
  refine ⟨((aligned_invariance_partial (R := Rat)).2.1 exΨ exψp exψm X [1/6, 1/3, 1/2] g exA exB
    exA_aligned exB_aligned [0, 1] [0] [0, 1] [1] (by decide) (by decide) (by decide) (by decide)
    (by decide) (by decide)).1, by decide +kernel, by decide +kernel⟩

end Example

/-- If `is_permuted_table` is false, `build_optimized_tables` keeps only row 0 and `table_access`
reads row 0 for every code; every entry of every dropped row `p` is within the `allclose`
tolerance of the entry used instead: `|t[0][e][q][d] − t[p][e][q][d]| ≤ atol + rtol·|t[p][e][q][d]|`. -/
theorem drop_perm_axis (rtol atol : Rat) (t : Table Rat)
    (h : isPermutedTable rtol atol t = false) :
    dropPermAxis rtol atol t = t.take 1 ∧
    (∀ (minus : Bool) (qperm : List Nat) (e q : Nat) (u pw : Bool),
        (tableSubscripts ⟨false, u, pw⟩ minus qperm e q).1 = 0) ∧
    (∀ p e q d, 0 < p → p < t.length → e < (t.getD p []).length →
        q < ((t.getD p []).getD e []).length → d < (((t.getD p []).getD e []).getD q []).length →
        absR (t.get 0 e q d - t.get p e q d) ≤ atol + rtol * absR (t.get p e q d)) := by
  refine ⟨by simp [dropPermAxis, h], by intros; simp [tableSubscripts], ?_⟩
  intro p e q d hp0 hp he hq hd
  match t, p, h, hp0, hp with
  | t0 :: rest, p' + 1, h, _, hp =>
    simp only [isPermutedTable, Bool.not_eq_false', List.all_eq_true] at h
    have hp' : p' < rest.length := Nat.lt_of_succ_lt_succ hp
    have hrow : (t0 :: rest).getD (p' + 1) [] = rest[p'] := by
      simp [List.getD_eq_getElem?_getD, hp']
    rw [hrow] at he hq hd
    -- `allclose` entry by entry, through the three nested `all2`
    have h1 := all2_get (allClose2 rtol atol) [] [] t0 rest[p'] (h _ (List.getElem_mem hp')) e he
    have h2 := all2_get (allClose1 rtol atol) [] [] _ _ h1 q hq
    have := of_decide_eq_true (all2_get (isClose rtol atol) 0 0 _ _ h2 d hd)
    have hd0 : (default : Rat) = 0 := rfl
    simp only [Table.get, List.getD_eq_getElem?_getD, List.getElem?_cons_succ, List.getElem?_cons_zero,
      List.getElem?_eq_getElem hp', Option.getD_some, hd0] at this ⊢
    exact this

/-- Non-vacuity: a two-row table whose rows differ by 1e-10 is classified not permuted
(rtol 1e-6, atol 1e-9), and a clearly different one is permuted. -/
example :
    isPermutedTable (1/1000000) (1/1000000000) [[[[1, 2]]], [[[1 + 1/10000000000, 2]]]] = false ∧
    isPermutedTable (1/1000000) (1/1000000000) [[[[1, 2]]], [[[2, 1]]]] = true := by
  decide +kernel

open Ffcx.LNodes Ffcx.Lemmas.GeomIndep Ffcx.Perm in
/-- The kernel AST subscripts the array `quadrature_permutation` somewhere
(the static predicate evaluated by the harness on every real interior-facet AST). -/
def readsPerm (k : Ffcx.LNodes.Stmt) : Bool := readsS "quadrature_permutation" k

open Ffcx.LNodes Ffcx.Lemmas.GeomIndep Ffcx.Perm in
/-- **Frame theorem (over the real LNodes semantics `exec` (Sem.lean), any scalar carrier).**
A kernel whose AST never reads `quadrature_permutation` returns a result that does not depend on
that argument: replacing its contents by any `qp` gives the same error, or the same final state
(all scalar variables and arrays, in particular `A`) up to the replaced argument itself.

The generator-side obligation `needs_facet_permutations = false → readsPerm ast = false` is
checked by `harness/props/c03.py` on every interior-facet kernel (DESIGN §7 F13 — one-sided
integrands flagged false while reading `quadrature_permutation[0]` — was a violation of that
obligation, fixed in /repo 5175baa; the check stays armed under `flag:one-sided-dS:reads-perm`). -/
theorem flag_false_independent {R : Type} [Add R] [Sub R] [Mul R] [Div R] [Neg R] [IntCast R]
    (x : Extra R) (k : Stmt) (h : readsPerm k = false) (σ : St R) (qp : Array Int) :
    let σ' : St R := setIA σ (σ.ia.set "quadrature_permutation" qp)
    match exec x k σ with
    | .error e => exec x k σ' = .error e
    | .ok τ => exec x k σ' = .ok (setIA τ (σ.ia.set "quadrature_permutation" qp)) ∧
        ∀ τ', exec x k σ' = .ok τ' → τ'.sa = τ.sa ∧ τ'.sv = τ.sv := by
  intro σ'
  have h0 : ∀ n, n ≠ "quadrature_permutation" →
      σ.ia.get n = (σ.ia.set "quadrature_permutation" qp).get n := by
    intro n hn; rw [AList.get_set_ne _ _ _ _ (Ne.symm hn)]
  have := exec_agree (x := x) h0 k σ rfl h
  cases hk : exec x k σ with
  | error e => rw [hk] at this; exact this
  | ok τ =>
    rw [hk] at this
    refine ⟨this.2, fun τ' hτ' => ?_⟩
    obtain rfl := Except.ok.inj (hτ'.symm.trans this.2)
    exact ⟨rfl, rfl⟩

open Ffcx.LNodes Ffcx.Lemmas.GeomIndep Ffcx.Perm in
/-- Non-vacuity: a two-statement kernel reading `entity_local_index` but not
`quadrature_permutation`; and the static predicate does fire on a kernel that reads it. -/
example :
    readsPerm (.block [.addAssign (.idx "A" .scalar [.litI 0])
        (.idx "T" .real [.idx "entity_local_index" .int [.litI 0], .litI 0])]) = false ∧
    readsPerm (.block [.addAssign (.idx "A" .scalar [.litI 0])
        (.idx "T" .real [.idx "quadrature_permutation" .int [.litI 0], .litI 0])]) = true := by
  decide

end Ffcx.C03
