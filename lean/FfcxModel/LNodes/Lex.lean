/-
Lexers for the text emitted by the C and numba formatters (C16).

Both lexers are finite-state transducers folded over the character list
(`feed`: one `trans` step per character, `flush` at the end), so that
* they are structurally recursive (usable under `decide`), and
* `feed st (a ++ b)` splits (`Lexer.feed_append`, through `feed_eq`), which is what the token-fusion theorem needs.

C lexer: maximal munch as in C17 §6.4 for the tokens that can occur here: identifiers,
pp-numbers (a digit, or `.` digit, followed by digits, letters, `_`, `.`, and a sign directly
after `e E p P`), the one- and two-character punctuators (`--`, `++`, `<=`, `==`, `&&`, `||`,
`->`, `+=`, …; so `--2.0` lexes as the decrement token followed by `2.0`), `//` comments
(dropped, they end at the newline) and white space. Anything else is a `bad` token.

Python lexer: NAME, NUMBER (decimal integers and floats with exponent and `j` suffix),
operators, comments `#…`, and the line structure (NEWLINE / INDENT / DEDENT with implicit
line joining inside brackets, blank lines ignored) produced by `pyLines`.
-/
namespace Ffcx.LNodes.Fmt

/-- punctuators (C and Python share the type; each lexer produces its own subset) -/
inductive P where
  | lpar | rpar | lbrack | rbrack | lbrace | rbrace | comma | semi | quest | colon | dot
  | plus | minus | star | slash | lt | gt | le | ge | eqeq | ne | andand | oror | bang
  | assign | plusAssign | minusAssign | starAssign | slashAssign | incr | decr | arrow
  | amp | bar
  deriving DecidableEq, Repr, Inhabited

def P.text : P → List Char
  | .lpar => ['('] | .rpar => [')'] | .lbrack => ['['] | .rbrack => [']']
  | .lbrace => ['{'] | .rbrace => ['}'] | .comma => [','] | .semi => [';']
  | .quest => ['?'] | .colon => [':'] | .dot => ['.']
  | .plus => ['+'] | .minus => ['-'] | .star => ['*'] | .slash => ['/']
  | .lt => ['<'] | .gt => ['>'] | .le => ['<', '='] | .ge => ['>', '=']
  | .eqeq => ['=', '='] | .ne => ['!', '='] | .andand => ['&', '&'] | .oror => ['|', '|']
  | .bang => ['!'] | .assign => ['=']
  | .plusAssign => ['+', '='] | .minusAssign => ['-', '='] | .starAssign => ['*', '=']
  | .slashAssign => ['/', '='] | .incr => ['+', '+'] | .decr => ['-', '-'] | .arrow => ['-', '>']
  | .amp => ['&'] | .bar => ['|']

inductive Tok where
  | id (s : String)
  | num (s : String)
  | p (p : P)
  | bad (c : Char)
  /-- Python line structure -/
  | newline | indent | dedent
  deriving DecidableEq, Repr, Inhabited

def Tok.text : Tok → List Char
  | .id s => s.toList
  | .num s => s.toList
  | .p q => q.text
  | .bad c => [c]
  | .newline => ['\n'] | .indent => [] | .dedent => []

def isIdStart (c : Char) : Bool := c.isAlpha || c == '_'
def isIdChar (c : Char) : Bool := c.isAlphanum || c == '_'
def isSpace (c : Char) : Bool := c == ' ' || c == '\n' || c == '\t' || c == '\r'
def isExpChar (c : Char) : Bool := c == 'e' || c == 'E' || c == 'p' || c == 'P'

/-! ## C -/

inductive LS where
  | start
  /-- inside an identifier; `acc` reversed -/
  | ident (acc : List Char)
  /-- inside a pp-number; `acc` reversed (its head is the last character read) -/
  | num (acc : List Char)
  /-- one punctuator character that may still be extended (`- + < > = ! & | / * .`) -/
  | pend (c : Char)
  /-- inside a `//` comment -/
  | comment
  deriving DecidableEq, Repr, Inhabited

/-- can `c` start a two-character token (or a comment / a number for `.`)? -/
def isPendChar (c : Char) : Bool :=
  c == '-' || c == '+' || c == '<' || c == '>' || c == '=' || c == '!' || c == '&' || c == '|'
  || c == '/' || c == '*' || c == '.'

/-- a single-character punctuator that is never extended -/
def single (c : Char) : Option P :=
  if c == '(' then some .lpar else if c == ')' then some .rpar
  else if c == '[' then some .lbrack else if c == ']' then some .rbrack
  else if c == '{' then some .lbrace else if c == '}' then some .rbrace
  else if c == ',' then some .comma else if c == ';' then some .semi
  else if c == '?' then some .quest else if c == ':' then some .colon
  else none

/-- the punctuator spelled by a single pending character -/
def pend1 (c : Char) : Tok :=
  if c == '-' then .p .minus else if c == '+' then .p .plus
  else if c == '<' then .p .lt else if c == '>' then .p .gt
  else if c == '=' then .p .assign else if c == '!' then .p .bang
  else if c == '&' then .p .amp else if c == '|' then .p .bar
  else if c == '/' then .p .slash else if c == '*' then .p .star
  else if c == '.' then .p .dot else .bad c

/-- the two-character punctuator `c d`, if any -/
def pend2 (c d : Char) : Option P :=
  if c == '-' && d == '-' then some .decr
  else if c == '-' && d == '=' then some .minusAssign
  else if c == '-' && d == '>' then some .arrow
  else if c == '+' && d == '+' then some .incr
  else if c == '+' && d == '=' then some .plusAssign
  else if c == '<' && d == '=' then some .le
  else if c == '>' && d == '=' then some .ge
  else if c == '=' && d == '=' then some .eqeq
  else if c == '!' && d == '=' then some .ne
  else if c == '&' && d == '&' then some .andand
  else if c == '|' && d == '|' then some .oror
  else if c == '*' && d == '=' then some .starAssign
  else if c == '/' && d == '=' then some .slashAssign
  else none

/-- one step from the start state -/
def transStart (c : Char) : List Tok × LS :=
  if isSpace c then ([], .start)
  else if isIdStart c then ([], .ident [c])
  else if c.isDigit then ([], .num [c])
  else if isPendChar c then ([], .pend c)
  else match single c with
    | some q => ([.p q], .start)
    | none => ([.bad c], .start)

/-- does `c` continue a pp-number whose last character is `last`? -/
def numCont (last c : Char) : Bool :=
  c.isAlphanum || c == '_' || c == '.' || ((c == '+' || c == '-') && isExpChar last)

def mkStr (acc : List Char) : String := String.ofList acc.reverse

def trans : LS → Char → List Tok × LS
  | .start, c => transStart c
  | .ident acc, c =>
    if isIdChar c then ([], .ident (c :: acc))
    else let (o, s) := transStart c; (.id (mkStr acc) :: o, s)
  | .num acc, c =>
    if numCont (acc.headD '0') c then ([], .num (c :: acc))
    else let (o, s) := transStart c; (.num (mkStr acc) :: o, s)
  | .pend p, c =>
    if p == '/' && c == '/' then ([], .comment)
    else if p == '.' && c.isDigit then ([], .num [c, '.'])
    else match pend2 p c with
      | some q => ([.p q], .start)
      | none => let (o, s) := transStart c; (pend1 p :: o, s)
  | .comment, c => if c == '\n' then ([], .start) else ([], .comment)

def flush : LS → List Tok
  | .start => []
  | .ident acc => [.id (mkStr acc)]
  | .num acc => [.num (mkStr acc)]
  | .pend p => [pend1 p]
  | .comment => []

/-- run the transducer: emitted tokens and final state -/
def feed : LS → List Char → List Tok × LS
  | s, [] => ([], s)
  | s, c :: cs =>
    let (o, s') := trans s c
    let (o', s'') := feed s' cs
    (o ++ o', s'')

/-- the C lexer -/
def lexC (cs : List Char) : List Tok :=
  let (o, s) := feed .start cs
  o ++ flush s

/-! ## Python -/

inductive PLS where
  | start
  | ident (acc : List Char)
  /-- number: `acc` reversed; `seenE` an exponent marker has been read -/
  | num (acc : List Char)
  | pend (c : Char)
  | comment
  deriving DecidableEq, Repr, Inhabited

def isPyPend (c : Char) : Bool :=
  c == '-' || c == '+' || c == '<' || c == '>' || c == '=' || c == '!' || c == '*' || c == '/' || c == '.'

def pySingle (c : Char) : Option P :=
  if c == '(' then some .lpar else if c == ')' then some .rpar
  else if c == '[' then some .lbrack else if c == ']' then some .rbrack
  else if c == '{' then some .lbrace else if c == '}' then some .rbrace
  else if c == ',' then some .comma else if c == ';' then some .semi
  else if c == ':' then some .colon
  else none

/-- `!` alone is not a Python token; `&&`, `||`, `?` do not exist -/
def pyPend1 (c : Char) : Tok :=
  if c == '-' then .p .minus else if c == '+' then .p .plus
  else if c == '<' then .p .lt else if c == '>' then .p .gt
  else if c == '=' then .p .assign
  else if c == '/' then .p .slash else if c == '*' then .p .star
  else if c == '.' then .p .dot else .bad c

def pyPend2 (c d : Char) : Option P :=
  if c == '-' && d == '=' then some .minusAssign
  else if c == '-' && d == '>' then some .arrow
  else if c == '+' && d == '=' then some .plusAssign
  else if c == '<' && d == '=' then some .le
  else if c == '>' && d == '=' then some .ge
  else if c == '=' && d == '=' then some .eqeq
  else if c == '!' && d == '=' then some .ne
  else if c == '*' && d == '=' then some .starAssign
  else if c == '/' && d == '=' then some .slashAssign
  else none

def pyTransStart (c : Char) : List Tok × PLS :=
  if c == ' ' || c == '\t' || c == '\r' then ([], .start)
  else if c == '\n' then ([.newline], .start)
  else if c == '#' then ([], .comment)
  else if isIdStart c then ([], .ident [c])
  else if c.isDigit then ([], .num [c])
  else if isPyPend c then ([], .pend c)
  else match pySingle c with
    | some q => ([.p q], .start)
    | none => ([.bad c], .start)

/-- Python number continuation: digits, `.`, `_`, an exponent marker, a sign directly after the
    exponent marker, the imaginary suffix.  (Letters other than `e E j J` end the number: Python
    then reports an error for e.g. `1if`, which the parser sees as NUMBER NAME.) -/
def pyNumCont (last c : Char) : Bool :=
  c.isDigit || c == '.' || c == '_' || c == 'e' || c == 'E' || c == 'j' || c == 'J'
  || ((c == '+' || c == '-') && (last == 'e' || last == 'E'))

def pyTrans : PLS → Char → List Tok × PLS
  | .start, c => pyTransStart c
  | .ident acc, c =>
    if isIdChar c then ([], .ident (c :: acc))
    else let (o, s) := pyTransStart c; (.id (mkStr acc) :: o, s)
  | .num acc, c =>
    if pyNumCont (acc.headD '0') c then ([], .num (c :: acc))
    else let (o, s) := pyTransStart c; (.num (mkStr acc) :: o, s)
  | .pend p, c =>
    if p == '.' && c.isDigit then ([], .num [c, '.'])
    else match pyPend2 p c with
      | some q => ([.p q], .start)
      | none => let (o, s) := pyTransStart c; (pyPend1 p :: o, s)
  | .comment, c => if c == '\n' then ([.newline], .start) else ([], .comment)

def pyFlush : PLS → List Tok
  | .start => []
  | .ident acc => [.id (mkStr acc)]
  | .num acc => [.num (mkStr acc)]
  | .pend p => [pyPend1 p]
  | .comment => []

def pyFeed : PLS → List Char → List Tok × PLS
  | s, [] => ([], s)
  | s, c :: cs =>
    let (o, s') := pyTrans s c
    let (o', s'') := pyFeed s' cs
    (o ++ o', s'')

/-- Python lexer for ONE logical line or an expression (no INDENT/DEDENT; physical newlines are
    `newline` tokens) -/
def lexPyFlat (cs : List Char) : List Tok :=
  let (o, s) := pyFeed .start cs
  o ++ pyFlush s

/-- drop `newline` tokens that are inside brackets (implicit line joining) and those that end a
    line without any token (blank / comment-only lines) -/
def pyJoin : Nat → Bool → List Tok → List Tok
  | _, _, [] => []
  | depth, seen, t :: ts =>
    match t with
    | .newline =>
      if depth > 0 then pyJoin depth seen ts
      else if seen then .newline :: pyJoin 0 false ts
      else pyJoin 0 false ts
    | .p .lpar | .p .lbrack | .p .lbrace => t :: pyJoin (depth + 1) true ts
    | .p .rpar | .p .rbrack | .p .rbrace => t :: pyJoin (depth - 1) true ts
    | _ => t :: pyJoin depth true ts

/-- split text into physical lines -/
def splitLines : List Char → List Char → List (List Char)
  | acc, [] => [acc.reverse]
  | acc, c :: cs => if c == '\n' then acc.reverse :: splitLines [] cs else splitLines (c :: acc) cs

def leadingSpaces : List Char → Nat
  | ' ' :: cs => leadingSpaces cs + 1
  | _ => 0

def isBlankLine (l : List Char) : Bool :=
  match l.dropWhile (fun c => c == ' ' || c == '\t' || c == '\r') with
  | [] => true
  | '#' :: _ => true
  | _ => false

/-- bracket depth after a list of tokens -/
def depthAfter : Nat → List Tok → Nat
  | d, [] => d
  | d, .p .lpar :: ts | d, .p .lbrack :: ts | d, .p .lbrace :: ts => depthAfter (d + 1) ts
  | d, .p .rpar :: ts | d, .p .rbrack :: ts | d, .p .rbrace :: ts => depthAfter (d - 1) ts
  | d, _ :: ts => depthAfter d ts

/-- pop the indentation stack down to `n`, emitting DEDENTs; `none` = inconsistent dedent -/
def popTo (n : Nat) : List Nat → Option (List Tok × List Nat)
  | [] => if n == 0 then some ([], []) else none
  | k :: st =>
    if n == k then some ([], k :: st)
    else if n < k then (popTo n st).map (fun (o, st') => (.dedent :: o, st'))
    else none

/-- Python tokeniser with line structure: physical lines, indentation stack, implicit joining.
    `depth` = open brackets carried over from previous lines. -/
def pyLines : List Nat → Nat → List (List Char) → Option (List Tok)
  | st, _, [] => some (st.filter (· > 0) |>.map (fun _ => Tok.dedent))
  | st, depth, l :: ls =>
    let toks := (lexPyFlat l).filter (· != .newline)
    if depth > 0 then
      -- continuation line inside brackets: indentation is irrelevant
      let d' := depthAfter depth toks
      (pyLines st d' ls).map (fun r => toks ++ (if d' == 0 then [.newline] else []) ++ r)
    else if isBlankLine l then pyLines st 0 ls
    else
      let n := leadingSpaces l
      let cur := st.headD 0
      let d' := depthAfter 0 toks
      let tail := fun (pre : List Tok) (st' : List Nat) =>
        (pyLines st' d' ls).map (fun r => pre ++ toks ++ (if d' == 0 then [.newline] else []) ++ r)
      if n > cur then tail [.indent] (n :: st)
      else if n == cur then tail [] st
      else match popTo n st with
        | some (o, st') => tail o st'
        | none => none

/-- the Python lexer for a module / statement text -/
def lexPy (cs : List Char) : Option (List Tok) := pyLines [0] 0 (splitLines [] cs)

/-- the Python lexer for an expression (newlines inside brackets are joined; a newline outside
    brackets stays as a token and makes the expression parser fail) -/
def lexPyExpr (cs : List Char) : List Tok := pyJoin 0 true (lexPyFlat cs)

end Ffcx.LNodes.Fmt
